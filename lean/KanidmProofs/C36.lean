import KanidmProofs.Lemmas.SessionPlugin
import KanidmProofs.C11
import KanidmProofs.C32
/-!
# C36 — Removing a credential revokes its sessions

The model (`KanidmModel/SessionPlugin.lean`) transcribes `SessionConsistency::modify_inner`, the session
value-set operations a local write uses, and `check_oauth2_account_uuid_valid`; every comparison,
the chain of credential sources, the order of the three sweeps, every arm's result and the leaves
of the validity test are regenerated from the source (`Gen.SessionPlugin`), so an edit of the
anchored code re-states these theorems.

Right-hand sides are written from the property text: `HasCred` (the four kinds of credential an
account can log in with), literal `300 s`, plain `<`/`≤`.
-/
namespace Kanidm.SessionPlugin
open Kanidm.Gen.SessionOrd Kanidm.SessionMerge Kanidm.Gen.SessionPlugin

/-- `c` is (the id of) one of the account's credentials: its primary credential, one of its
passkeys, one of its attested passkeys, or its OAuth2 trust credential. -/
def HasCred (e : Entry) (c : Nat) : Prop :=
  e.primary = some c ∨ c ∈ e.passkeys ∨ c ∈ e.attested ∨ e.oauth2Cred = some c

instance (e : Entry) (c : Nat) : Decidable (HasCred e c) := by unfold HasCred; infer_instance

/-- Login session `s` is on record under id `k`: by membership, not `lookup`, so that the statements
about it need no `KeysNodup`. -/
def UatAt (e : Entry) (k : Nat) (s : Sess) : Prop := ∃ m, e.uats = some m ∧ (k, s) ∈ m

/-- Not revoked and not past its expiry at `ct`: what the closure `session_state_live` of
`check_oauth2_account_uuid_valid` tests (an expired session is refused like a revoked one, D44). -/
def LiveAt (ct : Nat) (s : Sess) : Prop := Live s ∧ ∀ exp, s.state = .expiresAt exp → ct < exp

/-- The grace window of the property text: five minutes, in nanoseconds. -/
def fiveMinutes : Nat := 300 * 1000000000

theorem graceWindow_eq : graceWindow = fiveMinutes := by decide

/-- The regenerated `cred_ids` chain is exactly the four kinds of credential. -/
theorem credIds_iff (e : Entry) (c : Nat) : c ∈ credIds e ↔ HasCred e c := by
  simp [credIds, credSources, credsFrom, HasCred, Option.mem_toList]

theorem plugin_keeps_credentials (ct cid : Nat) (e : Entry) (c : Nat) :
    HasCred (plugin ct cid e) c ↔ HasCred e c := by
  unfold HasCred
  rw [plugin_primary, plugin_passkeys, plugin_attested, plugin_oauth2Cred]

theorem uatAt_iff {e : Entry} {k : Nat} {s : Sess} : UatAt e k s ↔ (k, s) ∈ e.uats.getD [] := by
  unfold UatAt; cases e.uats <;> simp

theorem uatAt_mapKV {e e' : Entry} {f : Nat → Sess → Sess}
    (h : e'.uats = e.uats.map (mapKV f)) {k : Nat} {s : Sess} :
    UatAt e' k s ↔ ∃ s0, UatAt e k s0 ∧ s = f k s0 := by
  simp only [uatAt_iff, h]
  cases e.uats with
  | none => exact ⟨fun h => (nomatch h), fun ⟨_, h, _⟩ => nomatch h⟩
  | some m => exact mem_mapKV

theorem uatAt_plugin {e : Entry} {ct cid k : Nat} {s : Sess} :
    UatAt (plugin ct cid e) k s ↔ ∃ s0, UatAt e k s0 ∧ s = uatPost (credIds e) ct cid s0 :=
  uatAt_mapKV (f := fun _ => uatPost (credIds e) ct cid) (plugin_uats ct cid e)

/-! ## 1. "Every login session issued with that credential is revoked in the same change" -/

/-- **Post-state of every modify**: whatever the entry
looked like before the plugin ran, afterwards every login session that is not revoked was issued
by a credential the entry still has, and has not reached its expiry. -/
theorem post_sessions_have_live_creds (e : Entry) (ct cid k : Nat) (s : Sess)
    (h : UatAt (plugin ct cid e) k s) (hl : Live s) :
    HasCred (plugin ct cid e) (credOf s) ∧ (∀ exp, s.state = .expiresAt exp → ct < exp) := by
  obtain ⟨s0, _, rfl⟩ := uatAt_plugin.mp h
  obtain ⟨he, hc, hx⟩ := live_uatPost hl
  rw [he]
  exact ⟨(plugin_keeps_credentials ct cid e _).mpr ((credIds_iff e _).mp hc), hx⟩

theorem hasCred_applyMod_trim (t cid : Nat) (e : Entry) (md : Mod) (c : Nat) :
    HasCred (applyMod cid (trimEntry t e) md) c ↔ HasCred (applyMod cid e md) c := by
  cases md <;> exact Iff.rfl

/-- **The property, first half.** Any local write (any modlist) after which credential `c` is no
longer on the account leaves every login session issued with `c` revoked — in the very state
that write commits. -/
theorem removed_credential_revokes_in_same_change (e : Entry) (md : Mod) (ct cid c : Nat)
    (hgone : ¬ HasCred (applyMod cid e md) c) (k : Nat) (s : Sess)
    (h : UatAt (step e (.write md ct cid)) k s) (hc : credOf s = c) :
    ∃ c', s.state = .revokedAt c' := by
  apply revoked_of_not_live
  intro hl
  have := (post_sessions_have_live_creds _ ct cid k s h hl).1
  rw [plugin_keeps_credentials, hc, hasCred_applyMod_trim] at this
  exact hgone this

/-- **Replace = remove.** A committed change of the primary credential (password change, TOTP
added or removed, backup codes regenerated or removed) gives the credential a fresh id, so every
login session issued with the old primary credential is revoked by that commit.  `old` is not
one of the account's other credential ids and `fresh` is new (uuids are unique). -/
theorem changed_primary_revokes_its_sessions (e : Entry) (old fresh ct cid : Nat)
    (hp : e.primary = some old) (hfresh : fresh ≠ old)
    (hother : old ∉ e.passkeys ∧ old ∉ e.attested ∧ e.oauth2Cred ≠ some old)
    (k : Nat) (s : Sess) (h : UatAt (step e (.write (.updatePrimary fresh) ct cid)) k s)
    (hc : credOf s = old) : ∃ c', s.state = .revokedAt c' := by
  refine removed_credential_revokes_in_same_change e (.updatePrimary fresh) ct cid old ?_ k s h hc
  have hrot : credUpdateRotatesId = true := by decide
  intro hh
  simp only [HasCred, applyMod, hp, hrot, if_true, Option.some.injEq] at hh
  obtain ⟨hpasskey, hattested, htrust⟩ := hother
  rcases hh with h1 | h1 | h1 | h1
  · exact hfresh h1
  · exact hpasskey h1
  · exact hattested h1
  · exact htrust h1

theorem evol_write (creds : List Nat) (ct cid : Nat) (md : Mod) (k : Nat) (s : Sess) :
    Evol cid s (uatPost creds ct cid (modUat cid md k s)) :=
  (evol_modUat cid md k s).trans (evol_uatPost creds ct cid _)

theorem uatAt_applyMod_iff {e : Entry} {k : Nat} {s1 : Sess} (cid : Nat) (md : Mod) :
    UatAt (applyMod cid e md) k s1 ↔
      (∃ s0, UatAt e k s0 ∧ s1 = modUat cid md k s0) ∨
      (∃ c x i, md = .record k c x i ∧ (∀ s0, ¬ UatAt e k s0) ∧ s1 = ⟨stateOf x, i, c⟩) := by
  have key := applyMod_uats cid e md
  split at key
  · rename_i j c x i
    have : UatAt (applyMod cid e (.record j c x i)) k s1 ↔
        (k, s1) ∈ insertVacant (e.uats.getD []) j ⟨stateOf x, i, c⟩ := by rw [uatAt_iff, key]; rfl
    rw [this, mem_insertVacant, lookup_eq_none_iff_forall]
    simp only [uatAt_iff, modUat, exists_eq_right']
    refine or_congr Iff.rfl ⟨?_, ?_⟩
    · rintro ⟨hno, heq⟩
      cases heq
      exact ⟨c, x, i, rfl, hno, rfl⟩
    · rintro ⟨c', x', i', hmd, hno, rfl⟩
      cases hmd
      exact ⟨hno, rfl⟩
  · rename_i hn
    exact (uatAt_mapKV key).trans (or_iff_left fun ⟨c, x, i, hm, _⟩ => hn k c x i hm).symm

theorem uatAt_trim_inv {t : Nat} {e : Entry} {k : Nat} {s : Sess} (h : UatAt (trimEntry t e) k s) :
    UatAt e k s := by
  obtain ⟨m, hm, hmem⟩ := h
  obtain ⟨m0, hu, rfl⟩ := Option.map_eq_some_iff.mp hm
  exact ⟨m0, hu, mem_sessTrimAll hmem⟩

/-- The trim drops a login session only if it is a revocation older than the trim id or the
account holds more than `SESSION_MAXIMUM` sessions. -/
theorem trim_keeps_session (t : Nat) (e : Entry) (k : Nat) (s : Sess) (m : SMap)
    (hm : e.uats = some m) (hmem : (k, s) ∈ m) (hB : m.length ≤ sessionMaximum)
    (hfresh : ∀ c, s.state = .revokedAt c → ¬ c < t) : UatAt (trimEntry t e) k s := by
  refine ⟨sessTrimAll t m, by simp [trimEntry, hm], ?_⟩
  rw [sessTrimAll_eq hB]
  exact List.mem_filter.mpr ⟨hmem, keepSess_of_fresh sessTrim_spec hfresh⟩

/-- No write re-labels a recorded login session, and the modlist and the plugin never drop one:
a session that survives the write's trim is on the entry afterwards, with the same issuing
credential, either unchanged or revoked by this very write.  (So "every session issued with that
credential" in the theorem above really is every one that is still on record.) -/
theorem write_keeps_every_session (e : Entry) (md : Mod) (ct cid k : Nat) (s : Sess)
    (h : UatAt (trimEntry (trimCidOf cid) e) k s) :
    ∃ s', UatAt (step e (.write md ct cid)) k s' ∧ credOf s' = credOf s ∧
      (s' = s ∨ s' = revoke cid s) := by
  have hev := evol_write (credIds (applyMod cid (trimEntry (trimCidOf cid) e) md)) ct cid md k s
  exact ⟨_, uatAt_plugin.mpr ⟨_, (uatAt_applyMod_iff cid md).mpr (Or.inl ⟨s, h, rfl⟩), rfl⟩,
    hev.payload, hev⟩

/-- Exactness (the plugin does not simply revoke everything): a login session whose credential
is still on the account and whose expiry lies ahead is left exactly as it was. -/
theorem healthy_session_untouched (e : Entry) (ct cid k : Nat) (s : Sess) (h : UatAt e k s)
    (hc : HasCred e (credOf s)) (hx : ∀ exp, s.state = .expiresAt exp → ct < exp) :
    UatAt (plugin ct cid e) k s :=
  uatAt_plugin.mpr ⟨s, h, (uatPost_healthy ((credIds_iff e _).mpr hc) hx).symm⟩

/-! ## 2. OAuth2 sessions whose parent is revoked or missing -/

/-- **Post-state of every modify, OAuth2 side**: afterwards every OAuth2 session that is not
revoked is unexpired, and either the login-session attribute exists and its parent (if it names
one) is present and not revoked *in the state this write commits*, or it was issued less than
five minutes ago. -/
theorem orphan_oauth2_revoked_after_grace (e : Entry) (ct cid k : Nat) (o : Sess)
    (h : (k, o) ∈ (plugin ct cid e).o2s) (hl : Live o) :
    (∀ exp, o.state = .expiresAt exp → ct < exp) ∧
      (ParentLive (plugin ct cid e).uats o ∨ ct < o.issued + fiveMinutes) := by
  obtain ⟨o0, _, rfl⟩ := mem_plugin_o2s.mp h
  obtain ⟨he, hx, hp⟩ := live_o2Post hl
  rw [he, ← graceWindow_eq]
  exact ⟨hx, hp⟩

/-- Exactness: an unexpired OAuth2 session with a live parent (or still inside the grace window)
is left exactly as it was. -/
theorem healthy_oauth2_untouched (e : Entry) (ct cid k : Nat) (o : Sess) (h : (k, o) ∈ e.o2s)
    (hx : ∀ exp, o.state = .expiresAt exp → ct < exp)
    (hp : ParentLive (plugin ct cid e).uats o ∨ ct < o.issued + fiveMinutes) :
    (k, o) ∈ (plugin ct cid e).o2s :=
  mem_plugin_o2s.mpr ⟨o, h, (o2Post_healthy hx (by rwa [graceWindow_eq])).symm⟩

theorem chkStateLive_iff (ct : Nat) (s : Sess) : chkStateLive ct s.state = true ↔ LiveAt ct s := by
  unfold LiveAt Live chkStateLive chkLiveRevoked chkLiveExpires chkLiveNever
  cases s.state <;> simp [isRevoked]

/-- The exact condition under which `check_oauth2_account_uuid_valid` lets a token through. -/
theorem o2Check_true_iff (e : Entry) (sid : Nat) (parent : Option Nat) (iat ct : Nat) :
    o2Check e sid parent iat ct = true ↔
      withinWindow e ct = true ∧
      ((∃ o, lookup e.o2s sid = some o ∧ LiveAt ct o ∧
          ∀ p, parent = some p →
            (∃ u, e.uats.bind (fun m => lookup m p) = some u ∧ LiveAt ct u) ∨
            (e.uats.bind (fun m => lookup m p) = none ∧
              (p ∈ e.apis ∨ ct < iat * 1000000000 + fiveMinutes))) ∨
       (lookup e.o2s sid = none ∧ ct < iat * 1000000000 + fiveMinutes)) := by
  unfold o2Check chkOutsideWindow chkGraceValid chkO2SessionValid chkO2Invalid chkParentValid
    chkParentLive chkParentInvalid chkParentMissingApi chkParentMissingGrace
    chkParentMissingNoGrace chkO2MissingGrace chkO2MissingNoGrace
  rw [graceWindow_eq]
  cases hw : withinWindow e ct
  · simp
  · cases ho : lookup e.o2s sid with
    | none => simp
    | some o =>
      -- `simp` does the boolean tests, with `LiveAt` read back as `chkStateLive … = true`
      cases parent with
      | none => simp [← chkStateLive_iff]
      | some p =>
        cases hu : e.uats.bind (fun m => lookup m p) with
        | none =>
          simp only [Option.some.injEq, forall_eq', hu]
          simp [← chkStateLive_iff]
        | some u =>
          simp only [Option.some.injEq, forall_eq', hu]
          simp [← chkStateLive_iff]

theorem o2Check_live {e : Entry} {sid : Nat} {parent : Option Nat} {iat ct : Nat}
    (h : o2Check e sid parent iat ct = true) :
    withinWindow e ct = true ∧ ∀ o, lookup e.o2s sid = some o → LiveAt ct o ∧
      ∀ p u, parent = some p → e.uats.bind (fun m => lookup m p) = some u → LiveAt ct u := by
  obtain ⟨hw, ⟨o, ho, hl, hp⟩ | ⟨hn, _⟩⟩ := (o2Check_true_iff e sid parent iat ct).mp h
  · refine ⟨hw, fun o' ho' => ?_⟩
    cases ho.symm.trans ho'
    refine ⟨hl, fun p u hpp hu => ?_⟩
    rcases hp p hpp with ⟨u', hu', hl'⟩ | ⟨hu', _⟩
    · cases hu.symm.trans hu'
      exact hl'
    · rw [hu] at hu'; cases hu'
  · exact ⟨hw, fun o ho => by rw [ho] at hn; cases hn⟩

/-- **The property, second half.** Once five minutes have passed since the token was issued, an
OAuth2 token whose parent login session is revoked or missing (and is not an api token of the
account) is refused — whatever else the entry holds. -/
theorem orphan_oauth2_unusable_after_grace (e : Entry) (sid p iat ct : Nat)
    (hgrace : iat * 1000000000 + fiveMinutes ≤ ct)
    (horphan : ∀ u, e.uats.bind (fun m => lookup m p) = some u → ¬ Live u)
    (hapi : p ∉ e.apis) :
    o2Check e sid (some p) iat ct = false := by
  refine Bool.eq_false_iff.mpr fun h => ?_
  obtain ⟨_, ⟨o, _, _, hp⟩ | ⟨_, hg⟩⟩ := (o2Check_true_iff e sid (some p) iat ct).mp h
  · rcases hp p rfl with ⟨u, hu, hl⟩ | ⟨_, ha | hg⟩
    · exact horphan u hu hl.1
    · exact hapi ha
    · omega
  · omega

/-- On a recorded OAuth2 session the grace window is for a missing parent only. -/
theorem parent_not_live_refused (e : Entry) (sid p iat ct : Nat) (u o : Sess)
    (hu : e.uats.bind (fun m => lookup m p) = some u) (hl : ¬ LiveAt ct u)
    (ho : lookup e.o2s sid = some o) : o2Check e sid (some p) iat ct = false :=
  Bool.eq_false_iff.mpr fun h => hl (((o2Check_live h).2 o ho).2 p u rfl hu)

/-- A revoked parent (C11's `RevAt m p c`: `p` on record in `m`, revoked at `c`) makes the OAuth2
session unusable at once (no grace) as long as the OAuth2 session itself is on record. -/
theorem revoked_parent_unusable_at_once (e : Entry) (sid p iat ct c : Nat) (m : SMap) (o : Sess)
    (hm : e.uats = some m) (hp : RevAt m p c) (ho : lookup e.o2s sid = some o) :
    o2Check e sid (some p) iat ct = false := by
  obtain ⟨u0, hu0, hr0⟩ := hp
  exact parent_not_live_refused e sid p iat ct u0 o (by rw [hm]; exact hu0)
    (fun hl => hl.1.not_revoked c hr0) ho

theorem revoked_oauth2_session_refused (e : Entry) (sid iat ct c : Nat) (parent : Option Nat)
    (h : RevAt e.o2s sid c) : o2Check e sid parent iat ct = false := by
  obtain ⟨o0, ho0, hr0⟩ := h
  exact Bool.eq_false_iff.mpr fun hc => ((o2Check_live hc).2 o0 ho0).1.1.not_revoked c hr0

/-- A parent login session that has reached its expiry is refused like a revoked one, before the
plugin's next run turns it into `RevokedAt` (D44). -/
theorem expired_parent_unusable_at_once (e : Entry) (sid p iat ct exp : Nat) (u o : Sess)
    (hu : e.uats.bind (fun m => lookup m p) = some u) (hx : u.state = .expiresAt exp)
    (hexp : exp ≤ ct) (ho : lookup e.o2s sid = some o) :
    o2Check e sid (some p) iat ct = false :=
  parent_not_live_refused e sid p iat ct u o hu (fun hl => Nat.not_lt.mpr hexp (hl.2 exp hx)) ho

/-! ### The session-level reading of the second half is false of the code (refresh renews the grace) -/

def AllWrites (ops : List Op) : Prop := ∀ op ∈ ops, ∃ md ct cid, op = .write md ct cid

/-- Issue instants (ns) of OAuth2 session `sid` in a history: every `grant` write of it (the code
exchange and each refresh, which re-inserts the session with `issued_at = ct` and mints tokens
with `iat = ct.as_secs()`). -/
def grantTimes (sid : Nat) : List Op → List Nat
  | [] => []
  | .write (.grant o _ _ issued) _ _ :: tl =>
    if o = sid then issued :: grantTimes sid tl else grantTimes sid tl
  | _ :: tl => grantTimes sid tl

/-- The property's second half read per *session*: an OAuth2 session first issued at `t0` whose
parent login session is missing in every state of the history is unusable from `t0 + 5 min` on,
whichever of its tokens is presented. -/
def orphan_session_dies_full : Prop :=
  ∀ (e : Entry) (ops : List Op) (sid p t0 : Nat), AllWrites ops →
    (∀ t ∈ grantTimes sid ops, t0 ≤ t) →
    (∀ k, k ≤ ops.length → (run e (ops.take k)).uats.bind (fun m => lookup m p) = none) →
    p ∉ (run e ops).apis →
    ∀ t ∈ grantTimes sid ops, ∀ ct, t0 + fiveMinutes ≤ ct →
      o2Check (run e ops) sid (some p) (t / 1000000000) ct = false

/-- Witness (replayed on the real server, class `C36:refresh-renews-grace-of-orphan-session`):
code exchange at 0 s under a login session that is never recorded, refresh at 200 s; the
refreshed token is accepted at 301 s although the parent has been missing for more than 300 s. -/
def refreshChain : List Op :=
  [.write (.grant 1 (some 9) (some 57600000000000) 0) 0 1,
   .write (.grant 1 (some 9) (some 57800000000000) 200000000000) 200000000000 2]

theorem orphan_session_dies_full_false : ¬ orphan_session_dies_full := by
  intro h
  have := h { Entry.fresh (some 51) with uats := some [] } refreshChain 1 9 0
    (by intro op hop; simp only [refreshChain, List.mem_cons, List.mem_nil_iff, or_false] at hop
        rcases hop with rfl | rfl <;> exact ⟨_, _, _, rfl⟩)
    (by intro t _; omega)
    (by intro k hk
        have : k = 0 ∨ k = 1 ∨ k = 2 := by simp [refreshChain] at hk; omega
        rcases this with rfl | rfl | rfl <;> decide +kernel)
    (by decide +kernel) 200000000000 (by decide +kernel) 301000000000 (by decide +kernel)
  revert this
  decide +kernel

/-- … it holds when the session is never refreshed (one issue instant): then its only tokens
carry `iat = ⌊t0⌋` and the per-token theorem applies. -/
theorem orphan_session_dies_without_refresh (e : Entry) (sid p t0 ct : Nat)
    (horphan : ∀ u, e.uats.bind (fun m => lookup m p) = some u → ¬ Live u) (hapi : p ∉ e.apis)
    (hct : t0 + fiveMinutes ≤ ct) : o2Check e sid (some p) (t0 / 1000000000) ct = false := by
  apply orphan_oauth2_unusable_after_grace e sid p _ ct _ horphan hapi
  exact Nat.le_trans (Nat.add_le_add_right (Nat.div_mul_le_self t0 1000000000) _) hct

/-! ## 3. Histories: what is revoked stays revoked (until the trim drops it), never live again -/

/-- Everything recorded under login-session id `k` is revoked (vacuously so once the trim has
dropped the id: "revoked or gone"). -/
def DeadUat (e : Entry) (k : Nat) : Prop := ∀ s, UatAt e k s → ∃ c, s.state = .revokedAt c

def DeadO2 (e : Entry) (k : Nat) : Prop := ∀ s, (k, s) ∈ e.o2s → ∃ c, s.state = .revokedAt c

theorem DeadUat.of_lookup {e : Entry} {k : Nat} {s : Sess} (h : DeadUat e k)
    (hs : e.uats.bind (fun m => lookup m k) = some s) : ∃ c, s.state = .revokedAt c := by
  obtain ⟨m, hm, hl⟩ := Option.bind_eq_some_iff.mp hs
  exact h s ⟨m, hm, mem_of_lookup_eq_some hl⟩

theorem DeadO2.of_lookup {e : Entry} {k : Nat} {s : Sess} (h : DeadO2 e k) (hs : lookup e.o2s k = some s) :
    ∃ c, s.state = .revokedAt c := h s (mem_of_lookup_eq_some hs)

theorem DeadUat.not_live {e : Entry} {k : Nat} (h : DeadUat e k) (u : Sess)
    (hu : e.uats.bind (fun m => lookup m k) = some u) : ¬ Live u :=
  fun hl => let ⟨c, hc⟩ := h.of_lookup hu; hl.not_revoked c hc

/-- Provenance through a whole write (trim, modlist, plugin): a value under `k` afterwards was
under `k` before (same issuing credential; unchanged, or revoked now), or `k` was not on record
after the trim and this write records it. -/
theorem uatAt_write_inv (e : Entry) (md : Mod) (ct cid k : Nat) (s' : Sess)
    (h : UatAt (step e (.write md ct cid)) k s') :
    (∃ s0, UatAt e k s0 ∧ credOf s' = credOf s0 ∧ (s' = s0 ∨ ∃ c, s'.state = .revokedAt c)) ∨
    (∃ c x i, md = .record k c x i ∧ ∀ s0, ¬ UatAt (trimEntry (trimCidOf cid) e) k s0) := by
  obtain ⟨s1, hat1, rfl⟩ := uatAt_plugin.mp h
  rcases (uatAt_applyMod_iff cid md).mp hat1 with ⟨s0, h0, rfl⟩ | ⟨c, x, i, hmd, hno, _⟩
  · have hev := evol_write (credIds (applyMod cid (trimEntry (trimCidOf cid) e) md)) ct cid md k s0
    exact Or.inl ⟨s0, uatAt_trim_inv h0, hev.payload, hev.eq_or_revoked⟩
  · exact Or.inr ⟨c, x, i, hmd, hno⟩

/-- **Revoked is absorbing.** Whatever a local write does — a fresh login, the credential coming
back under its old id, a replayed session record while the revocation is still on record, time
passing, the trim — everything under a dead session id is still revoked afterwards.  The only
way back is to record the id again after the trim has dropped it (session ids are fresh uuids,
recorded once, and the trim horizon is `CHANGELOG_MAX_AGE` = 7 days). -/
theorem dead_stays_dead_write (e : Entry) (md : Mod) (ct cid k : Nat) (h : DeadUat e k)
    (hnr : ∀ c x i, md = .record k c x i → ∃ s0, UatAt (trimEntry (trimCidOf cid) e) k s0) :
    DeadUat (step e (.write md ct cid)) k := by
  intro s' hs'
  rcases uatAt_write_inv e md ct cid k s' hs' with ⟨s0, h0, _, rfl | hr⟩ | ⟨c, x, i, hmd, hno⟩
  · exact h _ h0
  · exact hr
  · obtain ⟨s0, h0⟩ := hnr c x i hmd
    exact absurd h0 (hno s0)

/-- The same for a revoked OAuth2 session: a refresh re-inserting the session id cannot un-revoke
it (`RevokedAt` is the greatest state of the regenerated order), nor can anything else. -/
theorem dead_oauth2_stays_dead_write (e : Entry) (md : Mod) (ct cid k : Nat) (h : DeadO2 e k)
    (hng : ∀ p x i, md = .grant k p x i → ∃ s0, (k, s0) ∈ (trimEntry (trimCidOf cid) e).o2s) :
    DeadO2 (step e (.write md ct cid)) k := by
  intro s' hs'
  obtain ⟨s1, hm1, rfl⟩ := mem_plugin_o2s.mp hs'
  rcases mem_applyMod_o2s.mp hm1 with ⟨s0, h0, rfl⟩ | ⟨p, x, i, hmd, hno, _⟩
  · obtain ⟨c, hc⟩ := h s0 (List.mem_filter.mp h0).1
    exact ⟨c, by rw [modO2_of_revoked hc, o2Post_of_revoked hc]; exact hc⟩
  · obtain ⟨s0, h0⟩ := hng p x i hmd
    exact absurd h0 (hno s0)

def WritesNotRecording (k : Nat) (ops : List Op) : Prop :=
  ∀ op ∈ ops, ∃ md ct cid, op = .write md ct cid ∧ ∀ c x i, md ≠ .record k c x i

theorem dead_stays_dead (ops : List Op) (k : Nat) (hw : WritesNotRecording k ops) (e : Entry)
    (h : DeadUat e k) : DeadUat (run e ops) k :=
  ops.foldlRecOn step h (motive := (DeadUat · k)) fun e h op hop => by
    obtain ⟨md, ct, cid, rfl, hne⟩ := hw op hop
    exact dead_stays_dead_write e md ct cid k h fun c x i hmd => absurd hmd (hne c x i)

/-- **End to end.** Take any entry, a login-session id `k` under which everything was issued
with credential `c`, and any write (not recording `k`) that leaves the account without `c`.
Then in the state that write commits and after every continuation of local writes not recording
`k` (time passing, new logins, the credential coming back, refreshes, trims …): whatever is still
on record under `k` is revoked, and an OAuth2 token naming `k` as its parent is accepted only
inside five minutes of its own issue (or if `k` is an api token of the account). -/
theorem removed_credential_never_usable_again (e : Entry) (md : Mod) (ct cid c k : Nat)
    (hall : ∀ s, UatAt e k s → credOf s = c) (hmd : ∀ c' x i, md ≠ .record k c' x i)
    (hgone : ¬ HasCred (applyMod cid e md) c) (ops : List Op) (hw : WritesNotRecording k ops) :
    let e' := run (step e (.write md ct cid)) ops
    DeadUat e' k ∧
    (∀ sid iat ct', o2Check e' sid (some k) iat ct' = true →
        k ∈ e'.apis ∨ ct' < iat * 1000000000 + fiveMinutes) := by
  intro e'
  have h1 : DeadUat (step e (.write md ct cid)) k := by
    intro s' hs'
    rcases uatAt_write_inv e md ct cid k s' hs' with ⟨s0, h0, hcred, _⟩ | ⟨c', x, i, hrec, _⟩
    · exact removed_credential_revokes_in_same_change e md ct cid c hgone k s' hs'
        (hcred.trans (hall s0 h0))
    · exact absurd hrec (hmd c' x i)
  have h2 : DeadUat e' k := dead_stays_dead ops k hw _ h1
  refine ⟨h2, ?_⟩
  intro sid iat ct' hchk
  by_cases ha : k ∈ e'.apis
  · exact Or.inl ha
  · refine Or.inr (Nat.lt_of_not_le fun hg => ?_)
    rw [orphan_oauth2_unusable_after_grace e' sid k iat ct' hg h2.not_live ha] at hchk
    cases hchk

/-! ## 4. Replication: a revocation survives the merge; the plugin does not run on it -/

/-- An incoming replicated state cannot un-revoke a login session (C11's `revoke_dominates`
applied to the merge step of this model): the merged entry holds it revoked with an id `c' ≤ c`, `c`
being the revocation id on this side — unless `c'` is older than the trim id, when the session is gone. -/
theorem merge_keeps_revocation (e inc : Entry) (un on tc : Bool) (t k c : Nat) (m mi : SMap)
    (hm : e.uats = some m) (hi : inc.uats = some mi) (hn : KeysNodup m) (hni : KeysNodup mi)
    (hB : m.length + mi.length ≤ sessionMaximum) (h : RevAt m k c) :
    ∃ m' c', (step e (.merge inc un on tc t)).uats = some m' ∧ c' ≤ c ∧
      (¬ c' < t → RevAt m' k c') ∧ (c' < t → lookup m' k = none) := by
  have hu : (step e (.merge inc un on tc t)).uats = mergeUats (some m) (some mi) un t :=
    hm ▸ hi ▸ rfl
  cases un with
  | false =>
    obtain ⟨c', _, hmin, h1, h2⟩ := revoke_dominates m mi hn hni hB k c t (Or.inl h)
    exact ⟨sessReplMerge m mi t, c', hu, hmin c (Or.inl h), h1, h2⟩
  | true =>
    obtain ⟨c', _, hmin, h1, h2⟩ := revoke_dominates mi m hni hn (Nat.add_comm _ _ ▸ hB) k c t (Or.inr h)
    exact ⟨sessReplMerge mi m t, c', hu, hmin c (Or.inr h), h1, h2⟩

/-- The same for OAuth2 sessions (C11's `o2_revoke_dominates`). -/
theorem merge_keeps_oauth2_revocation (e inc : Entry) (un on tc : Bool) (t k c : Nat)
    (hn : KeysNodup e.o2s) (hni : KeysNodup inc.o2s) (h : RevAt e.o2s k c) :
    ∃ c', c' ≤ c ∧ (¬ c' < t → RevAt (step e (.merge inc un on tc t)).o2s k c') ∧
      (c' < t → lookup (step e (.merge inc un on tc t)).o2s k = none) := by
  -- `o2s` of the merged entry is `o2ReplMerge` with the sides ordered by `on`
  cases on with
  | false =>
    obtain ⟨c', _, hmin, h1, h2⟩ := o2_revoke_dominates e.o2s inc.o2s hn hni k c t (Or.inl h)
    exact ⟨c', hmin c (Or.inl h), h1, h2⟩
  | true =>
    obtain ⟨c', _, hmin, h1, h2⟩ := o2_revoke_dominates inc.o2s e.o2s hni hn k c t (Or.inr h)
    exact ⟨c', hmin c (Or.inr h), h1, h2⟩

/-- What the statement does *not* cover, as a fact about the code: the plugin is not run on an
incoming replicated entry (`run_pre_repl_incremental`), so a login recorded on another server
with a credential this server has removed stays un-revoked in the merged entry … -/
theorem merge_skips_the_plugin :
    let own : Entry := { Entry.fresh none with uats := some [] }
    let inc : Entry := { Entry.fresh (some 7) with uats := some [(1, ⟨.neverExpires, 10, 7⟩)] }
    let merged := step own (.merge inc true true false 0)
    UatAt merged 1 ⟨.neverExpires, 10, 7⟩ ∧ ¬ HasCred merged 7 := by
  refine ⟨⟨_, rfl, by decide +kernel⟩, by decide +kernel⟩

/-- … until the next local write of that entry, which repairs it (instance of
`post_sessions_have_live_creds`: the post-state of a write does not depend on how the pre-state
came about). -/
theorem next_write_repairs_merge (e : Entry) (op : Op) (md : Mod) (ct cid k : Nat) (s : Sess)
    (h : UatAt (step (step e op) (.write md ct cid)) k s) (hl : Live s) :
    HasCred (step (step e op) (.write md ct cid)) (credOf s) :=
  (post_sessions_have_live_creds _ ct cid k s h hl).1

/-! ## 5. Link to C32: the bearer-token decision refuses a revoked session's token -/

/-- C32's view of a login session of this model. -/
def toBearerSession (s : Sess) : Kanidm.Bearer.Session :=
  ⟨match s.state with
    | .revokedAt _ => .revokedAt
    | .expiresAt x => .expiresAt x
    | .neverExpires => .neverExpires, credOf s⟩

/-- C32's view of an entry of this model. -/
def toBearer (e : Entry) : Kanidm.Bearer.Account :=
  ⟨e.validFrom, e.expire, e.primary,
    fun k => (e.uats.bind (fun m => lookup m k)).map toBearerSession, fun _ => none⟩

/-- A login session this model holds revoked is refused by C32's `validate` (the transcription
of `validate_client_auth_info_to_ident`) at every instant, grace window included, for every
account but `anonymous`, whatever the rest of the server looks like. -/
theorem revoked_session_token_refused (e : Entry) (m : SMap) (k c : Nat) (hm : e.uats = some m)
    (h : RevAt m k c) (w : Kanidm.Bearer.World) (u : Nat) (hu : u ≠ Kanidm.Bearer.anonymous)
    (hacc : w.accounts u = some (toBearer e))
    (kid : Nat) (sig : Bool) (iat : Nat) (exp : Option Nat) (ct a s : Nat) :
    Kanidm.Bearer.validate w ⟨kid, sig, .uat u k iat exp⟩ ct ≠ .ident a s := by
  obtain ⟨s0, hs0, hr0⟩ := h
  refine Kanidm.Bearer.revoked_session_rejected w kid sig u k iat exp ct a s (toBearer e)
    (credOf s0) hu hacc ?_
  simp [toBearer, hm, hs0, toBearerSession, hr0]

/-! ## 6. Non-vacuity -/

/-- Person with primary credential 51 and passkey 61; sessions 100 (password, expires), 101
(passkey, never expires), 102 (password, already logged out); OAuth2 sessions 200 under 100,
201 under 101, 202 under the never-recorded session 109, 203 without parent (the payload of an
OAuth2 session is `encParent`: parent + 1, `0` for none). Times in ns. -/
def demo : Entry :=
  { Entry.fresh (some 51) with
    passkeys := [61]
    uats := some [(100, ⟨.expiresAt 9000000000000, 1000, 51⟩), (101, ⟨.neverExpires, 1000, 61⟩),
                  (102, ⟨.revokedAt 3, 900, 51⟩)]
    o2s := [(200, ⟨.expiresAt 9000000000000, 2000, 101⟩), (201, ⟨.expiresAt 9000000000000, 2000, 102⟩),
            (202, ⟨.expiresAt 9000000000000, 2000, 110⟩), (203, ⟨.expiresAt 9000000000000, 2000, 0⟩)] }

/-- Password change at 1 s (new credential id 52): the password sessions are revoked in that
write, the passkey session is not; inside the grace window the OAuth2 sessions stay. -/
example :
    let e := step demo (.write (.setPrimary (some 52)) 1000000000 7)
    e.uats = some [(100, ⟨.revokedAt 7, 1000, 51⟩), (101, ⟨.neverExpires, 1000, 61⟩),
                   (102, ⟨.revokedAt 3, 900, 51⟩)] ∧
    e.o2s = demo.o2s ∧ ¬ HasCred e 51 ∧ HasCred e 52 ∧ HasCred e 61 := by decide +kernel

/-- … and the first write at or after `issued_at + 300 s` revokes the OAuth2 sessions whose
parent is revoked (200) or missing (202), not the ones with a live parent (201) or none (203);
one nanosecond earlier nothing happens. -/
example :
    let e := step demo (.write (.setPrimary (some 52)) 1000000000 7)
    (step e (.write .touch (2000 + 300000000000) 8)).o2s =
      [(200, ⟨.revokedAt 8, 2000, 101⟩), (201, ⟨.expiresAt 9000000000000, 2000, 102⟩),
       (202, ⟨.revokedAt 8, 2000, 110⟩), (203, ⟨.expiresAt 9000000000000, 2000, 0⟩)] ∧
    (step e (.write .touch (2000 + 300000000000 - 1) 8)).o2s = demo.o2s := by decide +kernel

/-- Removing the passkey revokes its session (and only it); the token test refuses the OAuth2
token under the revoked password session at once, the one under the missing parent exactly from
`iat + 300 s` on, and accepts the one under the live passkey session. -/
example :
    let e := step demo (.write (.setPrimary (some 52)) 1000000000 7)
    (step demo (.write (.delPasskey 61) 5 7)).uats =
      some [(100, ⟨.expiresAt 9000000000000, 1000, 51⟩), (101, ⟨.revokedAt 7, 1000, 61⟩),
            (102, ⟨.revokedAt 3, 900, 51⟩)] ∧
    o2Check e 200 (some 100) 0 1000000001 = false ∧
    o2Check e 202 (some 109) 0 299999999999 = true ∧
    o2Check e 202 (some 109) 0 300000000000 = false ∧
    o2Check e 201 (some 101) 0 300000000000 = true ∧
    o2Check demo 200 (some 100) 0 300000000000 = true := by decide +kernel

/-- The trim every write starts with: a write 700 000 s (> 7 days) later drops the revocation of
session 102 (stamped 3) — and sweeps the by then expired session 100; one at 600 000 s keeps it. -/
example :
    (step demo (.write .touch 700000000000000 700000000000000)).uats =
      some [(100, ⟨.revokedAt 700000000000000, 1000, 51⟩), (101, ⟨.neverExpires, 1000, 61⟩)] ∧
    (step demo (.write .touch 600000000000000 600000000000000)).uats =
      some [(100, ⟨.revokedAt 600000000000000, 1000, 51⟩), (101, ⟨.neverExpires, 1000, 61⟩),
            (102, ⟨.revokedAt 3, 900, 51⟩)] ∧
    DeadUat (step demo (.write .touch 700000000000000 700000000000000)) 102 := by
  have h : (step demo (.write .touch 700000000000000 700000000000000)).uats =
      some [(100, ⟨.revokedAt 700000000000000, 1000, 51⟩), (101, ⟨.neverExpires, 1000, 61⟩)] := by decide +kernel
  refine ⟨h, by decide +kernel, fun s hs => ?_⟩
  rw [uatAt_iff, h] at hs
  simp at hs

/-- An account without any login-session attribute: a parentless OAuth2 session is swept as an
orphan once the grace window has passed (`.unwrap_or(false)`) — more than the property asks. -/
example :
    let e : Entry := { Entry.fresh (some 51) with o2s := [(203, ⟨.expiresAt 9000000000000, 2000, 0⟩)] }
    (plugin (2000 + 300000000000) 8 e).o2s = [(203, ⟨.revokedAt 8, 2000, 0⟩)] ∧
    (plugin (2000 + 300000000000) 8 { e with uats := some [] }).o2s = e.o2s := by decide +kernel

end Kanidm.SessionPlugin
