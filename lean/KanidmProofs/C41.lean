import KanidmProofs.Lemmas.ProtoFilterExec
import KanidmModel.ProtoFilterEnv
/-!
# C41 — LDAP and SCIM filters mean what their standards say

Model: `KanidmModel/ProtoFilter.lean` (`ldapTr` = `FilterComp::from_ldap_ro`, `scimTr` =
`FilterComp::from_scim_ro`, standard meanings `ldapSem` / `scimSem`), `ProtoFilterExec.lean`
(`execSearch` = ignore-hidden → C02 `resolveIdx`/`optimise` → C01 `search`). The arms of both
translations, the SCIM rewrite templates, the alias table, the orderable syntaxes, the syntaxes
`resolve_scim_json_get` accepts and the depth constant come from
`KanidmModel/Generated/ProtoFilterTables.lean`, rewritten from the source on every run, so every
theorem below is re-checked whenever one of them changes.

The theorems of §1–§4 hold for every environment `env` (schema, attribute interning, value parsers),
every entry, every depth/element budget; §1–§3 for every case folding `fold`, §4 for every folding
compatible with the substring index (`SubSem`, proved for `lowerByte`). §5 and §6 are about `stdEnv`.
-/
namespace Kanidm.ProtoFilter
open Kanidm.Filter

/-! ## 1. a translated filter means what the standard says, entry by entry -/

/-- **LDAP.** If `from_ldap_ro` accepts a filter whose substring assertions have one component
each, the `FilterComp` it returns is true of an entry exactly when the RFC 4511 meaning is:
AND/OR/NOT as conjunction/disjunction/complement, an assertion holds when any value of the
(alias-mapped, case-insensitively named) attribute satisfies it. -/
theorem ldap_translation_sound_partial (fold : Nat → Nat) (env : Env) (self : Val) (uuidA : Nat)
    (lf : LF) (hsub : lf.subSingle = true) (maxElems : Nat) (fc : FC)
    (h : ldapTrTop env maxElems lf = .ok fc) (e : Entry) :
    fc.matches (foldSem fold) self uuidA e = ldapSem fold env e lf :=
  (LdapTr.of_top h).meaning fold self uuidA e hsub

/-- **SCIM.** If `from_scim_ro` accepts a filter, the `FilterComp` it returns is true of an entry
exactly when the RFC 7644 meaning is — including the `gt`/`ge`/`le` rewrites through `LessThan`,
which are only reached for single-valued attributes of an orderable syntax (`OrdTyped`: entries
conform to the schema in that respect). -/
theorem scim_translation_sound_partial (fold : Nat → Nat) (env : Env) (self : Val) (uuidA : Nat)
    (sf : SF) (maxElems : Nat) (fc : FC) (h : scimTrTop env maxElems sf = .ok fc)
    (e : Entry) (ht : OrdTyped env e) :
    fc.matches (foldSem fold) self uuidA e = scimSem fold env e sf :=
  (ScimTr.of_top h).meaning fold self uuidA ht

/-- **the executable substring match is the standard's**: `subMatchStr` (leftmost-greedy) accepts a
value exactly when the value can be split as RFC 4511 §4.5.1.7.2 demands -/
theorem subMatchStr_iff_spec (ini : Option (List Nat)) (any : List (List Nat)) (fin : Option (List Nat))
    (x : List Nat) : subMatchStr ini any fin x = true ↔ subSpec ini any fin x := by
  cases ini with
  | none => exact subMatchStr_none_iff any fin x
  | some i =>
    rw [subMatchStr_some, Bool.and_eq_true, List.isPrefixOf_iff_prefix, subMatchStr_none_iff]
    constructor
    · rintro ⟨⟨t, rfl⟩, h⟩
      rw [List.drop_left] at h
      exact ⟨t, rfl, h⟩
    · rintro ⟨r, rfl, hs⟩
      rw [List.drop_left]
      exact ⟨⟨r, rfl⟩, hs⟩

/-! ## 2. what is not implemented is rejected, never answered -/

theorem toBool_false_of_not_ok {ε α : Type} {x : Except ε α} (h : ∀ a, x ≠ .ok a) : x.toBool = false := by
  cases x with
  | error _ => rfl
  | ok a => exact absurd rfl (h a)

/-- LDAP `>=`, `<=`, `~=` and extensible match anywhere in the filter: the whole filter is refused. -/
theorem ldap_unsupported_rejected (env : Env) (lf : LF) (h : lf.hasUnsupported = true)
    (maxElems : Nat) : (ldapTrTop env maxElems lf).toBool = false :=
  toBool_false_of_not_ok fun _ h1 => Bool.false_ne_true ((LdapTr.of_top h1).supported.symm.trans h)

/-- SCIM `ne`, a sub-attribute path or a value path anywhere in the filter: refused. -/
theorem scim_unsupported_rejected (env : Env) (sf : SF) (h : sf.hasUnsupported = true)
    (maxElems : Nat) : (scimTrTop env maxElems sf).toBool = false :=
  toBool_false_of_not_ok fun _ h1 => Bool.false_ne_true ((ScimTr.of_top h1).supported.symm.trans h)

/-- An accepted SCIM filter applies ordering operators only to single-valued attributes of an
orderable syntax (the guard of `scim_ordering_supported`, D8). -/
theorem scim_ordering_only_single_orderable (env : Env) (sf : SF) (d n : Nat) (r : FC × Nat)
    (h : scimTr env d n sf = .ok r) :
    ∀ a ∈ sf.orderingAttrs, ∃ s, env.syn a = some (s, false) ∧ orderableSyn.contains s = true :=
  (ScimTr.of_ok (fc := r.1) (n' := r.2) h).ordering_guarded

/-- In the current code no orderable syntax has an arm in `resolve_scim_json_get` (the two
regenerated lists are disjoint), so every SCIM filter containing `gt`/`ge`/`lt`/`le` is refused:
either by the ordering guard or, for orderable attributes, by the value resolution. -/
theorem scim_ordering_currently_rejected (env : Env)
    (hres : ∀ a s m j, env.syn a = some (s, m) → scimResolvableSyn.contains s = false →
      (env.scimVal a j).toBool = false)
    (sf : SF) (h : sf.hasOrdering = true) (maxElems : Nat) :
    (scimTrTop env maxElems sf).toBool = false :=
  toBool_false_of_not_ok fun _ h1 => Bool.false_ne_true (((ScimTr.of_top h1).no_ordering hres).symm.trans h)

/-- A substring assertion without any component translates to the empty `And`, which `validate`
refuses (`SchemaError::EmptyFilter`). -/
theorem ldap_empty_substring_invalid (env : Env) (a : List Nat) (maxElems : Nat) (fc : FC)
    (h : ldapTrTop env maxElems (.substring a none [] none) = .ok fc) : fcValidate env fc = false := by
  cases maxElems with
  | zero => cases h
  | succ m => cases h; rfl

/-! ## 3. attribute names: case-insensitive, aliases are canonical -/

/-- RFC 4512 §2.5: attribute descriptions are case-insensitive. -/
theorem ldap_attr_case_insensitive (env : Env) (n : List Nat) :
    ldapAttrMap env (n.map lowerByte) = ldapAttrMap env n := by
  unfold ldapAttrMap ldapAttrName
  simp [List.map_map, Function.comp_def, lowerByte_idem]

/-- every alias target is its own canonical name (no alias chains; targets are lower-case) -/
theorem alias_targets_canonical : ∀ p ∈ vattrTable, ldapAttrName p.2 = p.2 := by
  decide +kernel

/-! ## 4. the executed search returns the standard answer (partial: safe resolved filter) -/

/-- **LDAP, end to end.** A filter accepted by `from_ldap_ro` (single-component substrings) is
wrapped by `into_ignore_hidden`, resolved against any index metadata, optimised with any permuting
sorts and searched over any database with any sound index layout: the backend either refuses with
`ResourceLimit` or returns exactly the visible entries the RFC 4511 meaning selects — provided the
finally resolved filter is `safe` (every NOT guarded by a positive AND sibling: defect D1; no
indexed empty substring needle: finding C01-F2). -/
theorem ldap_search_sound_partial (fold : Nat → Nat) (hS : SubSem (foldSem fold)) (env : Env)
    (w : World) (idx : Idx) (rep : Rep) (hI : IdxSound w idx) (lim : Limits)
    (c : AttrConsts) (self : Val) (m : Nat → IType → Option Nat)
    (sa sd : List F → List F) (hp : IsPerm sa) (hq : IsPerm sd) (classA : Nat) (tomb recy : Val)
    (lf : LF) (hsub : lf.subSingle = true) (maxElems : Nat) (fc : FC)
    (htr : ldapTrTop env maxElems lf = .ok fc)
    (g : F) (hg : (ignoreHidden classA tomb recy fc).resolveIdx c self m = some g)
    (hsafe : (g.optimise sa sd).safe = true) :
    execSearch (foldSem fold) lim w idx rep c self m sa sd classA tomb recy fc = some resLimit ∨
    execSearch (foldSem fold) lim w idx rep c self m sa sd classA tomb recy fc =
      some (.ok (stdAnswer w classA tomb recy (fun e => ldapSem fold env e lf))) :=
  exec_exact (foldSem fold) hS w idx rep hI lim c self m sa sd hp hq classA tomb recy fc _
    (fun e => ldap_translation_sound_partial fold env self c.uuidA lf hsub maxElems fc htr e) g hg hsafe

/-- **SCIM, end to end** (same statement; `hw` asks `OrdTyped` of every entry, not only of the
stored ones). -/
theorem scim_search_sound_partial (fold : Nat → Nat) (hS : SubSem (foldSem fold)) (env : Env)
    (w : World) (idx : Idx) (rep : Rep) (hI : IdxSound w idx) (lim : Limits)
    (c : AttrConsts) (self : Val) (m : Nat → IType → Option Nat)
    (sa sd : List F → List F) (hp : IsPerm sa) (hq : IsPerm sd) (classA : Nat) (tomb recy : Val)
    (hw : ∀ e, OrdTyped env e)
    (sf : SF) (maxElems : Nat) (fc : FC) (htr : scimTrTop env maxElems sf = .ok fc)
    (g : F) (hg : (ignoreHidden classA tomb recy fc).resolveIdx c self m = some g)
    (hsafe : (g.optimise sa sd).safe = true) :
    execSearch (foldSem fold) lim w idx rep c self m sa sd classA tomb recy fc = some resLimit ∨
    execSearch (foldSem fold) lim w idx rep c self m sa sd classA tomb recy fc =
      some (.ok (stdAnswer w classA tomb recy (fun e => scimSem fold env e sf))) :=
  exec_exact (foldSem fold) hS w idx rep hI lim c self m sa sd hp hq classA tomb recy fc _
    (fun e => scim_translation_sound_partial fold env self c.uuidA sf maxElems fc htr e (hw e)) g hg hsafe

/-- the folding the server applies (`to_lowercase`) is compatible with the substring index: the
hypothesis `SubSem (foldSem fold)` is satisfiable -/
theorem fold_lower_sub_sem : SubSem (foldSem lowerByte) := by
  rw [lowerByte_eq]
  intro x n key h hk w hw
  cases n with
  | num b => cases hk
  | str ns =>
    cases hk
    cases x with
    | num a => rcases h with h | h | h <;> cases h
    | str xs =>
      have hin : ns.map lowerNat <:+: xs.map lowerNat := by
        rcases h with h | h | h
        · exact (isInfix_iff _ _).mp h
        · exact (List.isPrefixOf_iff_prefix.mp h).isInfix
        · exact (List.isSuffixOf_iff_suffix.mp h).isInfix
      exact mem_trigraphs_infix hin hw

/-! ## 5. the full statements are false of the code -/

/-- LDAP at full strength, entry by entry: every accepted filter, no restriction on substrings -/
def ldap_translation_sound_full : Prop :=
  ∀ (fold : Nat → Nat) (env : Env) (self : Val) (uuidA : Nat) (lf : LF) (maxElems : Nat) (fc : FC),
    ldapTrTop env maxElems lf = .ok fc → ∀ e, fc.matches (foldSem fold) self uuidA e = ldapSem fold env e lf

/-- `(name=ab*ba)` -/
def f1Filter : LF := .substring [110, 97, 109, 101] (some [97, 98]) [] (some [98, 97])
/-- an entry named `aba` -/
def f1Entry : Entry := Entry.ofList [(1, [.str [97, 98, 97]])]

theorem f1_translated :
    ldapTrTop stdEnv 32 f1Filter = .ok (.and [.stw 1 (.str [97, 98]), .enw 1 (.str [98, 97])]) := by
  rfl
theorem f1_kanidm : (FC.and [.stw 1 (.str [97, 98]), .enw 1 (.str [98, 97])]).matches
    (foldSem lowerByte) (.num 0) 6 f1Entry = true := by decide +kernel
theorem f1_standard : ldapSem lowerByte stdEnv f1Entry f1Filter = false := by decide +kernel

/-- **Finding C41-F1**: `aba` starts with `ab` and ends with `ba`, but is not `ab…ba`. -/
theorem ldap_translation_sound_full_false : ¬ ldap_translation_sound_full := by
  intro h
  have := h lowerByte stdEnv (.num 0) 6 f1Filter 32 _ f1_translated f1Entry
  rw [f1_kanidm, f1_standard] at this
  cases this

/-- the search-level statement at full strength: no safety condition on the resolved filter
(stated for the server's own sorts `sortAsc` / `sortDesc`: it is false already there) -/
def ldap_search_sound_full : Prop :=
  ∀ (fold : Nat → Nat), SubSem (foldSem fold) → ∀ (env : Env) (w : World) (idx : Idx) (rep : Rep),
    IdxSound w idx → ∀ (lim : Limits) (c : AttrConsts) (self : Val) (m : Nat → IType → Option Nat)
    (classA : Nat) (tomb recy : Val) (lf : LF), lf.subSingle = true → ∀ (maxElems : Nat) (fc : FC),
    ldapTrTop env maxElems lf = .ok fc →
    execSearch (foldSem fold) lim w idx rep c self m sortAsc sortDesc classA tomb recy fc = some resLimit ∨
    execSearch (foldSem fold) lim w idx rep c self m sortAsc sortDesc classA tomb recy fc =
      some (.ok (stdAnswer w classA tomb recy (fun e => ldapSem fold env e lf)))

/-- three visible entries named `ga`, `gb`, `gc` -/
def d1World : World where
  live := [1, 2, 3]
  ent := fun id => Entry.ofList [(0, [.str [111]]), (1, [Val.str [103, 96 + id]])]

/-- `(!(name=gb))` -/
def d1Filter : LF := .not (.equality [110, 97, 109, 101] [103, 98])

theorem d1_translated : ldapTrTop stdEnv 32 d1Filter = .ok (.andnot (.eq 1 (.str [103, 98]))) := by
  rfl
/-- everything indexed: the server answers with no entry at all … -/
theorem d1_executed :
    execSearch (foldSem lowerByte) ⟨true, 1000, 1000⟩ d1World (idxOf d1World (fun _ _ => true)) noRep
      ⟨6, 1⟩ (.num 0) (fun _ _ => some 1) sortAsc sortDesc 0 (.str [116]) (.str [114])
      (.andnot (.eq 1 (.str [103, 98]))) = some (.ok []) := by
  decide +kernel
/-- … where RFC 4511 selects `ga` and `gc` -/
theorem d1_standard :
    stdAnswer d1World 0 (.str [116]) (.str [114]) (fun e => ldapSem lowerByte stdEnv e d1Filter) = [1, 3] := by
  decide +kernel

/-- **Defect D1** through LDAP: a top-level NOT returns nothing instead of the complement. -/
theorem ldap_search_sound_full_false : ¬ ldap_search_sound_full := by
  intro h
  have := h lowerByte fold_lower_sub_sem stdEnv d1World (idxOf d1World (fun _ _ => true)) noRep
    (idxOf_sound _ _) ⟨true, 1000, 1000⟩ ⟨6, 1⟩ (.num 0) (fun _ _ => some 1) 0 (.str [116]) (.str [114])
    d1Filter (by decide +kernel) 32 _ d1_translated
  rw [d1_executed, d1_standard] at this
  rcases this with h | h
  · cases h
  · injection h with h; injection h with h; cases h

/-! ## 6. non-vacuity -/

/-- `(&(objectClass=Person)(|(cn=a*)(!(uidNumber=5))))` -/
def exLdap : LF :=
  .and [.equality [111, 98, 106, 101, 99, 116, 67, 108, 97, 115, 115] [80, 101, 114, 115, 111, 110],
    .or [.substring [99, 110] (some [97]) [] none, .not (.equality [117, 105, 100, 78, 117, 109, 98, 101, 114] [53])]]

/-- an entry named `a` with gidnumber 7 -/
def exOrdEntry : Entry := fun a => if a = 5 then [.num 7] else if a = 1 then [.str [97]] else []

theorem exOrdEntry_cases (a : Nat) :
    (a = 5 ∧ exOrdEntry a = [.num 7]) ∨ (a = 1 ∧ exOrdEntry a = [.str [97]]) ∨ exOrdEntry a = [] := by
  unfold exOrdEntry
  by_cases h5 : a = 5
  · exact .inl ⟨h5, if_pos h5⟩
  · rw [if_neg h5]
    by_cases h1 : a = 1
    · exact .inr (.inl ⟨h1, if_pos h1⟩)
    · exact .inr (.inr (if_neg h1))

/-- in `stdEnv` an attribute whose syntax `resolve_scim_json_get` has no arm for resolves no value:
the rows of such syntaxes have the kinds `scimKind` refuses -/
theorem stdEnv_unresolvable {a s : Nat} {m : Bool} (hs : stdEnv.syn a = some (s, m))
    (hr : scimResolvableSyn.contains s = false) (j : J) :
    stdEnv.scimVal a j = .error .invalidAttribute := by
  have table : ∀ r ∈ stdAttrs, scimResolvableSyn.contains r.syn = false →
      r.kind = .email ∨ r.kind = .uint32 ∨ r.kind = .spn := by decide +kernel
  simp only [stdEnv] at hs ⊢
  cases hrow : rowOfAtom a with
  | none => rw [hrow] at hs; cases hs
  | some r =>
    rw [hrow] at hs
    cases hs
    show scimKind r.kind j = _
    rcases table r (List.mem_of_find?_eq_some hrow) hr with hk | hk | hk <;> rw [hk] <;> rfl

example : exLdap.subSingle = true := by decide +kernel
/-- aliases `objectClass` → class, `cn` → name, `uidNumber` → gidnumber; values normalised -/
example : ldapTrTop stdEnv 32 exLdap =
    .ok (.and [.eq 0 (.str [112, 101, 114, 115, 111, 110]),
      .or [.and [.stw 1 (.str [97])], .andnot (.eq 5 (.num 5))]]) := by rfl
/-- an entry the filter selects and one it does not -/
example : ldapSem lowerByte stdEnv
    (Entry.ofList [(0, [.str [112, 101, 114, 115, 111, 110]]), (1, [.str [122]]), (5, [.num 7])]) exLdap = true := by
  decide +kernel
example : ldapSem lowerByte stdEnv
    (Entry.ofList [(0, [.str [112, 101, 114, 115, 111, 110]]), (1, [.str [122]]), (5, [.num 5])]) exLdap = false := by
  decide +kernel
/-- the element budget is real: the filter has 5 nodes -/
example : ldapTrTop stdEnv 4 exLdap = .error .resourceLimit := by rfl
/-- rejection is reachable, and for the stated reason -/
example : ldapTrTop stdEnv 32 (.greaterOrEqual [99, 110] [97]) = .error .filterGeneration := by rfl
/-- `name eq "A" and not (class co "x")` is accepted and normalised -/
example : scimTrTop stdEnv 32 (.and (.cmp .eq 1 false (.str [65])) (.not (.cmp .co 0 false (.str [120])))) =
    .ok (.and [.eq 1 (.str [97]), .andnot (.cnt 0 (.str [120]))]) := by rfl
/-- `gidnumber ge 5`: orderable and single-valued, hence past the guard, then refused by the value
resolution; `name ge "a"` is refused by the guard -/
example : scimTrTop stdEnv 32 (.cmp .ge 5 false (.num 5)) = .error .invalidAttribute := by rfl
example : scimTrTop stdEnv 32 (.cmp .ge 1 false (.str [97])) = .error .filterGeneration := by rfl
/-- `stdEnv` satisfies the hypothesis of `scim_ordering_currently_rejected` -/
example : ∀ a s m j, stdEnv.syn a = some (s, m) → scimResolvableSyn.contains s = false →
    (stdEnv.scimVal a j).toBool = false := by
  intro a s m j hs hr
  rw [stdEnv_unresolvable hs hr]
  rfl
/-- `OrdTyped` is satisfiable by an entry that does carry an orderable attribute (`single`, `numE`;
`numV` holds emptily: in `stdEnv` no value of an orderable syntax resolves) -/
example : OrdTyped stdEnv exOrdEntry where
  single := by
    intro a s hs hc
    rcases exOrdEntry_cases a with ⟨-, h⟩ | ⟨-, h⟩ | h <;> rw [h] <;> decide
  numE := by
    intro a s m hs hc x hx
    rcases exOrdEntry_cases a with ⟨-, h⟩ | ⟨rfl, -⟩ | h
    · rw [h] at hx
      exact ⟨7, List.mem_singleton.mp hx⟩
    · -- `name` has syntax 14, which is not orderable
      cases hs
      cases hc
    · rw [h] at hx
      cases hx
  numV := by
    intro a s m j pv hs hc hv
    rw [stdEnv_unresolvable hs (orderable_not_resolvable s hc)] at hv
    cases hv

end Kanidm.ProtoFilter
