import KanidmProofs.Lemmas.SessionMerge
import KanidmProofs.Lemmas.AuditMerge
/-!
# C11 — Replicated session and key revocations are never lost

The property theorems and what is specific to them (general lemmas about the merge loop:
`Lemmas/SessionMerge.lean`, `Lemmas/AuditMerge.lean`).  The model
(`KanidmModel/SessionMerge.lean`) transcribes the `repl_merge_valueset`/`trim` functions of the
session, OAuth2-session, internal-key and audit-log valuesets and the newer/older role choice of
`Entry::merge_state`; the `SessionState` comparison (arm by arm), the `KeyStatus` order, every
comparison operator and both limits are regenerated from the source (`Gen.SessionOrd`).

Maps are compared observationally (`SEq`: same lookups); `KeysNodup` is the `BTreeMap` invariant.

Hypotheses, all explicit:
* **H1** `H_payload a b`: the same session id carries the same immutable fields on both sides
  (`smerge_assoc_needs_payload`: a 3-replica counterexample to `sess_attr_assoc` without it).
  For keys `H_keydata`: same key id *and same status* ⇒ same record.
* `NoStale t m`: no revocation in `m` is older than the trim cid ("until the changelog window
  expires" — `stale_breaks_assoc` shows the clause is necessary).
* sessions only: total size ≤ `SESSION_MAXIMUM` (48), below which the forced trim is the identity.
-/
namespace Kanidm.SessionMerge
open Kanidm.Gen.SessionOrd

/-! ## 1. The regenerated comparisons are the specified priority order -/

/-- Priority of session states, from the property text: revoked above everything and an
earlier revocation above a later one; expiry by later time; never-expires lowest. -/
def StateAbove : SState → SState → Prop
  | .revokedAt co, .revokedAt cn => co < cn
  | .revokedAt _, _ => True
  | .expiresAt _, .revokedAt _ => False
  | .expiresAt eo, .expiresAt en => en < eo
  | .expiresAt _, .neverExpires => True
  | .neverExpires, _ => False

/-- The older value replaces the newer one in `ValueSetSession::repl_merge_valueset` exactly
when its state has strictly higher priority. Re-reads `Ord for SessionState` and the `>`. -/
theorem sessReplace_spec (o n : SState) : sessReplace o n = true ↔ StateAbove o n := by
  cases o <;> cases n <;> simp [sessReplace, SState.cmp, StateAbove, Nat.compare_eq_gt]

/-- The OAuth2 test is generated as the same expression as the session test. -/
theorem o2Replace_spec (o n : SState) : o2Replace o n = true ↔ StateAbove o n :=
  sessReplace_spec o n

/-- `Valid < Retained < Revoked`, and replacement only on strictly higher status. -/
theorem keyReplace_spec (o n : KeyStatus) :
    keyReplace o n = true ↔ (o = .revoked ∧ n ≠ .revoked) ∨ (o = .retained ∧ n = .valid) := by
  cases o <;> cases n <;> decide

/-- Every trim removes a revocation exactly when its cid is strictly older than the trim cid. -/
theorem trim_spec (c t : Nat) :
    (sessTrim c t = true ↔ c < t) ∧ (o2Trim c t = true ↔ c < t) ∧ (keyTrim c t = true ↔ c < t) := by
  simp [sessTrim, o2Trim, keyTrim]

theorem sessTrim_spec (c t : Nat) : sessTrim c t = true ↔ c < t := (trim_spec c t).1
theorem o2Trim_spec (c t : Nat) : o2Trim c t = true ↔ c < t := (trim_spec c t).2.1

/-! ## 2. The specified order is a strict weak order; H1 makes its ties equalities -/

def stClass : SState → Nat
  | .revokedAt _ => 2
  | .expiresAt _ => 1
  | .neverExpires => 0

def stTime : SState → Int
  | .revokedAt c => -c
  | .expiresAt e => e
  | .neverExpires => 0

/-- `StateAbove` is the lexicographic order on (class, rank in the class: an earlier revocation
and a later expiry rank higher). -/
theorem stateAbove_iff (o n : SState) :
    StateAbove o n ↔ stClass n < stClass o ∨ (stClass o = stClass n ∧ stTime n < stTime o) := by
  cases o <;> cases n <;> simp [StateAbove, stClass, stTime]

theorem st_ext {a b : SState} (hc : stClass a = stClass b) (ht : stTime a = stTime b) : a = b := by
  cases a <;> cases b <;> simp [stClass, stTime] at hc ht ⊢ <;> omega

section Generic
variable {rp : SState → SState → Bool} (hrp : ∀ o n, rp o n = true ↔ StateAbove o n)
include hrp

theorem strictWeak_of_spec : StrictWeak rp :=
  .of_lex stClass stTime fun o n => (hrp o n).trans (stateAbove_iff o n)

theorem tie_of_spec (a b : SState) (h1 : rp a b = false) (h2 : rp b a = false) : a = b := by
  simp only [Bool.eq_false_iff, ne_eq, hrp, stateAbove_iff] at h1 h2
  exact st_ext (by omega) (by omega)

end Generic

/-- **H1**: same session id ⇒ same non-state fields. -/
def H_payload (a b : SMap) : Prop :=
  ∀ k x y, lookup a k = some x → lookup b k = some y →
    x.issued = y.issued ∧ x.payload = y.payload

theorem tieMaps_of_payload {rp : SState → SState → Bool}
    (hrp : ∀ o n, rp o n = true ↔ StateAbove o n) {a b : SMap} (hp : H_payload a b) :
    TieMaps (fun o n : Sess => rp o.state n.state) a b := by
  intro k x y hx hy h1 h2
  have hs := tie_of_spec hrp x.state y.state h1 h2
  obtain ⟨hi, hpp⟩ := hp k x y hx hy
  cases x; cases y; simp_all

theorem sessRepl_strictWeak : StrictWeak sessRepl :=
  (strictWeak_of_spec sessReplace_spec).comap Sess.state

theorem o2Repl_strictWeak : StrictWeak o2Repl :=
  (strictWeak_of_spec o2Replace_spec).comap Sess.state

/-! ## 3. Per key: a revocation through pick and trim; any session-like value set -/

/-- No revocation older than the trim cid (the changelog window has not expired for any of them). -/
def NoStale (t : Nat) (m : SMap) : Prop :=
  ∀ k s c, lookup m k = some s → s.state = .revokedAt c → ¬ c < t

theorem allKeep_of_noStale {tr : Nat → Nat → Bool} (htr : ∀ c t, tr c t = true ↔ c < t)
    {t : Nat} {m : SMap} (h : NoStale t m) : AllKeep (keepSess tr t) m :=
  fun k v hv => keepSess_of_fresh htr fun c hs => h k v c hv hs

def RevOpt (x : Option Sess) (c : Nat) : Prop := ∃ s, x = some s ∧ s.state = .revokedAt c
def RevAt (m : SMap) (k c : Nat) : Prop := RevOpt (lookup m k) c

theorem not_above_revoked (c : Nat) (s : SState) :
    ¬ StateAbove (.revokedAt c) s ↔ ∃ c', s = .revokedAt c' ∧ c' ≤ c := by
  cases s <;> simp [StateAbove]

theorem pick_revoke {rp : SState → SState → Bool} (hrp : ∀ o n, rp o n = true ↔ StateAbove o n)
    (x y : Option Sess) (c : Nat) (h : RevOpt x c ∨ RevOpt y c) :
    ∃ c', RevOpt (pickOpt (fun o n : Sess => rp o.state n.state) x y) c' ∧
      (RevOpt x c' ∨ RevOpt y c') ∧ ∀ c'', RevOpt x c'' ∨ RevOpt y c'' → c' ≤ c'' := by
  -- every revoked input is matched or beaten by the pick, which is therefore revoked no later
  have key : ∀ c'', RevOpt x c'' ∨ RevOpt y c'' →
      ∃ p c', pickOpt (fun o n : Sess => rp o.state n.state) x y = some p ∧
        (x = some p ∨ y = some p) ∧ p.state = .revokedAt c' ∧ c' ≤ c'' := by
    intro c'' h''
    obtain ⟨v, hv, hvs⟩ : ∃ v, (x = some v ∨ y = some v) ∧ v.state = .revokedAt c'' := by
      rcases h'' with ⟨s, hs, hst⟩ | ⟨s, hs, hst⟩
      · exact ⟨s, Or.inl hs, hst⟩
      · exact ⟨s, Or.inr hs, hst⟩
    obtain ⟨p, hp, hin, hmax⟩ := pickOpt_max ((strictWeak_of_spec hrp).comap Sess.state) hv
    rw [Bool.eq_false_iff, Ne, hrp, hvs, not_above_revoked] at hmax
    obtain ⟨c', hps, hle⟩ := hmax
    exact ⟨p, c', hp, hin, hps, hle⟩
  obtain ⟨p, c', hp, hin, hps, _⟩ := key c h
  refine ⟨c', ⟨p, hp, hps⟩, hin.imp (⟨p, ·, hps⟩) (⟨p, ·, hps⟩), fun c'' h'' => ?_⟩
  obtain ⟨p', c₂, hp', _, hps', hle⟩ := key c'' h''
  cases hp.symm.trans hp'
  cases hps.symm.trans hps'
  exact hle

theorem filter_keep_rev {tr : Nat → Nat → Bool} (htr : ∀ c t, tr c t = true ↔ c < t)
    (x : Option Sess) (c t : Nat) (h : RevOpt x c) :
    (¬ c < t → RevOpt (x.filter (keepSess tr t)) c) ∧ (c < t → x.filter (keepSess tr t) = none) := by
  obtain ⟨s, rfl, hs⟩ := h
  have hk : keepSess tr t s = !(tr c t) := by simp [keepSess, hs]
  refine ⟨fun hc => ⟨s, ?_, hs⟩, fun hc => ?_⟩
  · simp [Option.filter, hk, Bool.eq_false_iff.2 (mt (htr c t).1 hc)]
  · simp [Option.filter, hk, (htr c t).2 hc]

theorem lost_only_stale {rp : SState → SState → Bool} {tr : Nat → Nat → Bool}
    (htr : ∀ c t, tr c t = true ↔ c < t) (x y : Option Sess) (t : Nat)
    (h : (pickOpt (fun o n : Sess => rp o.state n.state) x y).filter (keepSess tr t) = none) :
    (x = none ∧ y = none) ∨ ∃ c, c < t ∧ (RevOpt x c ∨ RevOpt y c) := by
  cases hp : pickOpt (fun o n : Sess => rp o.state n.state) x y with
  | none => exact Or.inl (pickOpt_eq_none.1 hp)
  | some s =>
    have hk : keepSess tr t s = false := by simpa [hp, Option.filter] using h
    obtain ⟨c, hs, htc⟩ := keepSess_eq_false.1 hk
    refine Or.inr ⟨c, (htr c t).1 htc, ?_⟩
    rcases pickOpt_mem (fun o n : Sess => rp o.state n.state) x y with e | e
    · exact Or.inl ⟨s, e ▸ hp, hs⟩
    · exact Or.inr ⟨s, e ▸ hp, hs⟩

section SessionLike
/-! Any session value set with the specified replace order whose `repl_merge_valueset` is
merge-then-trim (up to `B` entries): login and OAuth2 sessions are the two instances. -/
variable {rp : SState → SState → Bool} {tr : Nat → Nat → Bool} {f : SMap → SMap → Nat → SMap}
  {t B : Nat} (hrp : ∀ o n, rp o n = true ↔ StateAbove o n)
  (hf : Agrees (fun o n : Sess => rp o.state n.state) (keepSess tr t) f t B)
include hrp hf

theorem sessionLike_revoke_dominates (htr : ∀ c t, tr c t = true ↔ c < t) (n o : SMap)
    (hn : KeysNodup n) (ho : KeysNodup o) (hB : n.length + o.length ≤ B) (k c : Nat)
    (h : RevAt n k c ∨ RevAt o k c) :
    ∃ c', (RevAt n k c' ∨ RevAt o k c') ∧
      (∀ c'', RevAt n k c'' ∨ RevAt o k c'' → c' ≤ c'') ∧
      (¬ c' < t → RevAt (f n o t) k c') ∧
      (c' < t → lookup (f n o t) k = none) := by
  obtain ⟨c', h1, h2, h3⟩ := pick_revoke hrp (lookup n k) (lookup o k) c h
  simp only [RevAt] at h ⊢
  rw [hf n o hB, lookup_filtMerge _ _ _ _ hn ho]
  exact ⟨c', h2, h3, filter_keep_rev htr _ c' t h1⟩

omit hrp in
theorem sessionLike_lost_only_stale (htr : ∀ c t, tr c t = true ↔ c < t) (n o : SMap)
    (hn : KeysNodup n) (ho : KeysNodup o) (hB : n.length + o.length ≤ B) (k : Nat)
    (h : lookup (f n o t) k = none) :
    (lookup n k = none ∧ lookup o k = none) ∨ ∃ c, c < t ∧ (RevAt n k c ∨ RevAt o k c) := by
  rw [hf n o hB, lookup_filtMerge _ _ _ _ hn ho] at h
  exact lost_only_stale htr _ _ t h

end SessionLike

/-! ## 4. Login sessions (`ValueSetSession`; total size ≤ `SESSION_MAXIMUM`) -/

theorem smerge_comm (a b : SMap) (ha : KeysNodup a) (hb : KeysNodup b) (hp : H_payload a b) :
    SEq (smergeCore a b) (smergeCore b a) :=
  core_comm sessRepl_strictWeak a b ha hb (tieMaps_of_payload sessReplace_spec hp)

/-- With the roles fixed, associativity needs no payload hypothesis (left-biased maximum). -/
theorem smerge_assoc (a b c : SMap) (hb : KeysNodup b) (hc : KeysNodup c) :
    SEq (smergeCore (smergeCore a b) c) (smergeCore a (smergeCore b c)) :=
  core_assoc sessRepl_strictWeak a b c hb hc

theorem smerge_idem (a : SMap) (ha : KeysNodup a) : SEq (smergeCore a a) a :=
  core_idem sessRepl_strictWeak a ha

example : H_payload [(1, ⟨.expiresAt 5, 0, 7⟩), (2, ⟨.neverExpires, 1, 8⟩)]
    [(1, ⟨.revokedAt 3, 0, 7⟩), (3, ⟨.revokedAt 9, 2, 9⟩)] ∧
    smergeCore [(1, ⟨.expiresAt 5, 0, 7⟩), (2, ⟨.neverExpires, 1, 8⟩)]
      [(1, ⟨.revokedAt 3, 0, 7⟩), (3, ⟨.revokedAt 9, 2, 9⟩)] =
      [(1, ⟨.revokedAt 3, 0, 7⟩), (2, ⟨.neverExpires, 1, 8⟩), (3, ⟨.revokedAt 9, 2, 9⟩)] := by
  constructor
  · intro k x y hx hy
    by_cases h1 : k = 1
    · subst h1; simp [lookup] at hx hy; subst hx; subst hy; simp
    · by_cases h2 : k = 2
      · subst h2; simp [lookup] at hy
      · simp [lookup, h1, h2] at hx
  · decide +kernel

/-- Commutativity of the session attribute merge as replication performs it
(`attrMerge sessReplMerge`: role by cid, merge, trim): same cid, same map. -/
theorem sess_attr_comm (t : Nat) (l r : Nat × SMap) (hl : KeysNodup l.2) (hr : KeysNodup r.2)
    (hp : H_payload l.2 r.2) (hB : l.2.length + r.2.length ≤ sessionMaximum) :
    (attrMerge sessReplMerge t l r).1 = (attrMerge sessReplMerge t r l).1 ∧
      SEq (attrMerge sessReplMerge t l r).2 (attrMerge sessReplMerge t r l).2 :=
  attr_comm sessRepl_strictWeak (sessReplMerge_agrees t) l r hl hr
    (tieMaps_of_payload sessReplace_spec hp) hB

theorem sess_attr_assoc (t : Nat) (a b c : Nat × SMap)
    (ha : KeysNodup a.2) (hb : KeysNodup b.2) (hc : KeysNodup c.2)
    (sa : NoStale t a.2) (sb : NoStale t b.2) (sc : NoStale t c.2)
    (pab : H_payload a.2 b.2) (pbc : H_payload b.2 c.2) (pac : H_payload a.2 c.2)
    (hB : a.2.length + b.2.length + c.2.length ≤ sessionMaximum) :
    (attrMerge sessReplMerge t (attrMerge sessReplMerge t a b) c).1 =
        (attrMerge sessReplMerge t a (attrMerge sessReplMerge t b c)).1 ∧
      SEq (attrMerge sessReplMerge t (attrMerge sessReplMerge t a b) c).2
        (attrMerge sessReplMerge t a (attrMerge sessReplMerge t b c)).2 :=
  attr_assoc sessRepl_strictWeak (sessReplMerge_agrees t) a b c ha hb hc
    (allKeep_of_noStale sessTrim_spec sa) (allKeep_of_noStale sessTrim_spec sb)
    (allKeep_of_noStale sessTrim_spec sc) (tieMaps_of_payload sessReplace_spec pab)
    (tieMaps_of_payload sessReplace_spec pbc) (tieMaps_of_payload sessReplace_spec pac) hB

theorem sess_attr_idem (t : Nat) (l : Nat × SMap) (hl : KeysNodup l.2) (s : NoStale t l.2)
    (hB : l.2.length + l.2.length ≤ sessionMaximum) :
    (attrMerge sessReplMerge t l l).1 = l.1 ∧ SEq (attrMerge sessReplMerge t l l).2 l.2 :=
  attr_idem sessRepl_strictWeak (sessReplMerge_agrees t) l hl (allKeep_of_noStale sessTrim_spec s) hB

/-- Non-vacuity of the hypotheses of `sess_attr_comm/assoc/idem`: H1, `NoStale` at the boundary
(revocation cid = trim cid) and a concrete three-replica result. -/
example :
    H_payload [(1, ⟨.expiresAt 5, 0, 7⟩)] [(1, ⟨.revokedAt 6, 0, 7⟩)] ∧
    NoStale 4 [(1, ⟨.revokedAt 4, 0, 7⟩)] ∧
    lookup (attrMerge sessReplMerge 4
      (attrMerge sessReplMerge 4 (3, [(1, ⟨.expiresAt 5, 0, 7⟩)]) (5, [(1, ⟨.revokedAt 6, 0, 7⟩)]))
      (4, [(1, ⟨.revokedAt 4, 0, 7⟩), (2, ⟨.neverExpires, 1, 8⟩)])).2 1
      = some ⟨.revokedAt 4, 0, 7⟩ := by
  refine ⟨?_, ?_, by decide +kernel⟩
  · intro k x y hx hy
    by_cases h : k = 1
    · subst h; simp [lookup] at hx hy; subst hx; subst hy; simp
    · simp [lookup, h] at hx
  · intro k s c hs hc
    by_cases h : k = 1
    · subst h; simp [lookup] at hs; subst hs; simp at hc; omega
    · simp [lookup, h] at hs

/-- H1 is necessary for `sess_attr_assoc` (not for the merge loop with fixed roles, `smerge_assoc`):
three replicas A (cid 3), B (cid 5, no such session), C (cid 4) holding the same session id in the
same state but with different payloads — the two groupings differ. -/
theorem smerge_assoc_needs_payload :
    let A : Nat × SMap := (3, [(1, ⟨.expiresAt 5, 0, 1⟩)])
    let B : Nat × SMap := (5, [])
    let C : Nat × SMap := (4, [(1, ⟨.expiresAt 5, 0, 2⟩)])
    lookup (attrMerge sessReplMerge 0 (attrMerge sessReplMerge 0 B A) C).2 1 ≠
      lookup (attrMerge sessReplMerge 0 B (attrMerge sessReplMerge 0 A C)).2 1 := by
  decide +kernel

/-- "Until the changelog window expires" is necessary: with a revocation older than the trim cid
the groupings differ (the revoked session is trimmed on one path and resurrected on the other). -/
theorem stale_breaks_assoc :
    let A : Nat × SMap := (3, [(1, ⟨.revokedAt 2, 0, 1⟩)])
    let B : Nat × SMap := (5, [(1, ⟨.expiresAt 9, 0, 1⟩)])
    let C : Nat × SMap := (4, [(1, ⟨.expiresAt 9, 0, 1⟩)])
    lookup (attrMerge sessReplMerge 7 (attrMerge sessReplMerge 7 A B) C).2 1 ≠
      lookup (attrMerge sessReplMerge 7 A (attrMerge sessReplMerge 7 B C)).2 1 := by
  decide +kernel

/-- **Revocation dominates.** If either replica holds session `k` revoked, then — whichever side
is newer — the merged value set holds `k` revoked with the *earliest* revocation cid `c'` found on
either side, unless that cid is older than the trim cid, in which case (and only then) the
session is dropped altogether; it never comes back unrevoked. -/
theorem revoke_dominates (n o : SMap) (hn : KeysNodup n) (ho : KeysNodup o)
    (hB : n.length + o.length ≤ sessionMaximum) (k c t : Nat)
    (h : RevAt n k c ∨ RevAt o k c) :
    ∃ c', (RevAt n k c' ∨ RevAt o k c') ∧
      (∀ c'', RevAt n k c'' ∨ RevAt o k c'' → c' ≤ c'') ∧
      (¬ c' < t → RevAt (sessReplMerge n o t) k c') ∧
      (c' < t → lookup (sessReplMerge n o t) k = none) :=
  sessionLike_revoke_dominates sessReplace_spec (sessReplMerge_agrees t) sessTrim_spec n o hn ho hB k c h

/-- **Trim removes only expired revocations.** A session id present on either side is absent from
the merged value set only if one side holds it revoked at a cid older than the trim cid. -/
theorem sess_lost_only_stale (n o : SMap) (hn : KeysNodup n) (ho : KeysNodup o)
    (hB : n.length + o.length ≤ sessionMaximum) (k t : Nat)
    (h : lookup (sessReplMerge n o t) k = none) :
    (lookup n k = none ∧ lookup o k = none) ∨ ∃ c, c < t ∧ (RevAt n k c ∨ RevAt o k c) :=
  sessionLike_lost_only_stale (sessReplMerge_agrees t) sessTrim_spec n o hn ho hB k h

example : RevAt [(1, ⟨.revokedAt 7, 0, 1⟩)] 1 7 ∧
    sessReplMerge [(1, ⟨.expiresAt 9, 0, 1⟩)] [(1, ⟨.revokedAt 7, 0, 1⟩)] 5
      = [(1, ⟨.revokedAt 7, 0, 1⟩)] ∧
    sessReplMerge [(1, ⟨.revokedAt 8, 0, 1⟩)] [(1, ⟨.revokedAt 7, 0, 1⟩)] 5
      = [(1, ⟨.revokedAt 7, 0, 1⟩)] ∧
    sessReplMerge [(1, ⟨.expiresAt 9, 0, 1⟩)] [(1, ⟨.revokedAt 7, 0, 1⟩)] 8 = [] := by
  refine ⟨⟨_, rfl, rfl⟩, by decide +kernel, by decide +kernel, by decide +kernel⟩

/-! ## 5. OAuth2 sessions (`ValueSetOauth2Session`; no size limit in their `trim`) -/

theorem o2_attr_comm (t : Nat) (l r : Nat × SMap) (hl : KeysNodup l.2) (hr : KeysNodup r.2)
    (hp : H_payload l.2 r.2) :
    (attrMerge o2ReplMerge t l r).1 = (attrMerge o2ReplMerge t r l).1 ∧
      SEq (attrMerge o2ReplMerge t l r).2 (attrMerge o2ReplMerge t r l).2 :=
  attr_comm o2Repl_strictWeak (o2ReplMerge_agrees t _) l r hl hr
    (tieMaps_of_payload o2Replace_spec hp) (Nat.le_refl _)

theorem o2_attr_assoc (t : Nat) (a b c : Nat × SMap)
    (ha : KeysNodup a.2) (hb : KeysNodup b.2) (hc : KeysNodup c.2)
    (sa : NoStale t a.2) (sb : NoStale t b.2) (sc : NoStale t c.2)
    (pab : H_payload a.2 b.2) (pbc : H_payload b.2 c.2) (pac : H_payload a.2 c.2) :
    (attrMerge o2ReplMerge t (attrMerge o2ReplMerge t a b) c).1 =
        (attrMerge o2ReplMerge t a (attrMerge o2ReplMerge t b c)).1 ∧
      SEq (attrMerge o2ReplMerge t (attrMerge o2ReplMerge t a b) c).2
        (attrMerge o2ReplMerge t a (attrMerge o2ReplMerge t b c)).2 :=
  attr_assoc o2Repl_strictWeak (o2ReplMerge_agrees t _) a b c ha hb hc
    (allKeep_of_noStale o2Trim_spec sa) (allKeep_of_noStale o2Trim_spec sb)
    (allKeep_of_noStale o2Trim_spec sc) (tieMaps_of_payload o2Replace_spec pab)
    (tieMaps_of_payload o2Replace_spec pbc) (tieMaps_of_payload o2Replace_spec pac) (Nat.le_refl _)

theorem o2_attr_idem (t : Nat) (l : Nat × SMap) (hl : KeysNodup l.2) (s : NoStale t l.2) :
    (attrMerge o2ReplMerge t l l).1 = l.1 ∧ SEq (attrMerge o2ReplMerge t l l).2 l.2 :=
  attr_idem o2Repl_strictWeak (o2ReplMerge_agrees t _) l hl (allKeep_of_noStale o2Trim_spec s)
    (Nat.le_refl _)

theorem o2_revoke_dominates (n o : SMap) (hn : KeysNodup n) (ho : KeysNodup o) (k c t : Nat)
    (h : RevAt n k c ∨ RevAt o k c) :
    ∃ c', (RevAt n k c' ∨ RevAt o k c') ∧
      (∀ c'', RevAt n k c'' ∨ RevAt o k c'' → c' ≤ c'') ∧
      (¬ c' < t → RevAt (o2ReplMerge n o t) k c') ∧
      (c' < t → lookup (o2ReplMerge n o t) k = none) :=
  sessionLike_revoke_dominates o2Replace_spec (o2ReplMerge_agrees t _) o2Trim_spec n o hn ho (Nat.le_refl _) k c h

theorem o2_lost_only_stale (n o : SMap) (hn : KeysNodup n) (ho : KeysNodup o) (k t : Nat)
    (h : lookup (o2ReplMerge n o t) k = none) :
    (lookup n k = none ∧ lookup o k = none) ∨ ∃ c, c < t ∧ (RevAt n k c ∨ RevAt o k c) :=
  sessionLike_lost_only_stale (o2ReplMerge_agrees t _) o2Trim_spec n o hn ho (Nat.le_refl _) k h

/-! ## 6. Internal keys: `Revoked` is absorbing -/

theorem keyReplace_strictWeak : StrictWeak keyReplace :=
  .of_lex KeyStatus.rank (fun _ => 0) fun o n => by simp [keyReplace]

theorem keyRepl_strictWeak : StrictWeak keyRepl := keyReplace_strictWeak.comap KeyData.status

/-- Key analogue of H1: the same key id in the same status is the same record on both sides
(in particular two replicas did not revoke the same key independently at different cids). -/
def H_keydata (a b : KMap) : Prop :=
  ∀ k x y, lookup a k = some x → lookup b k = some y → x.status = y.status → x = y

theorem tieMaps_of_keydata {a b : KMap} (hp : H_keydata a b) : TieMaps keyRepl a b := by
  intro k x y hx hy h1 h2
  apply hp k x y hx hy
  revert h1 h2
  unfold keyRepl
  cases x.status <;> cases y.status <;> decide

def KNoStale (t : Nat) (m : KMap) : Prop :=
  ∀ k d, lookup m k = some d → d.status = .revoked → ¬ d.statusCid < t

theorem allKeep_of_kNoStale {t : Nat} {m : KMap} (h : KNoStale t m) : AllKeep (keepKey t) m := by
  intro k d hd
  unfold keepKey
  cases hs : d.status with
  | revoked =>
    have := h k d hd hs
    simp [keyTrim, this]
  | valid => rfl
  | retained => rfl

theorem key_attr_comm (t : Nat) (l r : Nat × KMap) (hl : KeysNodup l.2) (hr : KeysNodup r.2)
    (hp : H_keydata l.2 r.2) :
    (attrMerge keyReplMerge t l r).1 = (attrMerge keyReplMerge t r l).1 ∧
      SEq (attrMerge keyReplMerge t l r).2 (attrMerge keyReplMerge t r l).2 :=
  attr_comm keyRepl_strictWeak (keyReplMerge_agrees t _) l r hl hr
    (tieMaps_of_keydata hp) (Nat.le_refl _)

theorem key_attr_assoc (t : Nat) (a b c : Nat × KMap)
    (ha : KeysNodup a.2) (hb : KeysNodup b.2) (hc : KeysNodup c.2)
    (sa : KNoStale t a.2) (sb : KNoStale t b.2) (sc : KNoStale t c.2)
    (pab : H_keydata a.2 b.2) (pbc : H_keydata b.2 c.2) (pac : H_keydata a.2 c.2) :
    (attrMerge keyReplMerge t (attrMerge keyReplMerge t a b) c).1 =
        (attrMerge keyReplMerge t a (attrMerge keyReplMerge t b c)).1 ∧
      SEq (attrMerge keyReplMerge t (attrMerge keyReplMerge t a b) c).2
        (attrMerge keyReplMerge t a (attrMerge keyReplMerge t b c)).2 :=
  attr_assoc keyRepl_strictWeak (keyReplMerge_agrees t _) a b c ha hb hc
    (allKeep_of_kNoStale sa) (allKeep_of_kNoStale sb) (allKeep_of_kNoStale sc)
    (tieMaps_of_keydata pab) (tieMaps_of_keydata pbc) (tieMaps_of_keydata pac) (Nat.le_refl _)

theorem key_attr_idem (t : Nat) (l : Nat × KMap) (hl : KeysNodup l.2) (s : KNoStale t l.2) :
    (attrMerge keyReplMerge t l l).1 = l.1 ∧ SEq (attrMerge keyReplMerge t l l).2 l.2 :=
  attr_idem keyRepl_strictWeak (keyReplMerge_agrees t _) l hl
    (allKeep_of_kNoStale s) (Nat.le_refl _)

/-- **Revoked is absorbing.** If either side holds key `k` revoked, the merged set never holds it
valid or retained: it holds it revoked, or — only when the surviving record's status cid is older
than the trim cid — not at all. -/
theorem key_revoked_absorbing (n o : KMap) (hn : KeysNodup n) (ho : KeysNodup o) (k t : Nat)
    (h : (∃ d, lookup n k = some d ∧ d.status = .revoked) ∨
         (∃ d, lookup o k = some d ∧ d.status = .revoked)) :
    (∃ d, lookup (keyReplMerge n o t) k = some d ∧ d.status = .revoked ∧ ¬ d.statusCid < t ∧
        (lookup n k = some d ∨ lookup o k = some d)) ∨
    (lookup (keyReplMerge n o t) k = none ∧
      ∃ d, (lookup n k = some d ∨ lookup o k = some d) ∧ d.status = .revoked ∧ d.statusCid < t) := by
  have hl : lookup (keyReplMerge n o t) k =
      (pickOpt keyRepl (lookup n k) (lookup o k)).filter (keepKey t) :=
    lookup_filtMerge _ _ _ _ hn ho k
  obtain ⟨d, hd, hs⟩ := pickOpt_revoked (st := KeyData.status) (repl := keyRepl) (fun _ _ => rfl) h
  have hin : lookup n k = some d ∨ lookup o k = some d :=
    (pickOpt_mem keyRepl (lookup n k) (lookup o k)).imp (·.symm.trans hd) (·.symm.trans hd)
  rw [hl, hd]
  by_cases hc : d.statusCid < t
  · right
    exact ⟨by simp [Option.filter, keepKey, hs, keyTrim, hc], d, hin, hs, hc⟩
  · left
    exact ⟨d, by simp [Option.filter, keepKey, hs, keyTrim, hc], hs, hc, hin⟩

example : keyReplMerge [(1, ⟨.valid, 2, 0⟩)] [(1, ⟨.revoked, 6, 0⟩)] 5 = [(1, ⟨.revoked, 6, 0⟩)] ∧
    keyReplMerge [(1, ⟨.revoked, 6, 0⟩)] [(1, ⟨.retained, 9, 0⟩)] 5 = [(1, ⟨.revoked, 6, 0⟩)] := by
  decide +kernel

/-- `H_keydata` is necessary: if two replicas revoke the same key at different cids, the surviving
`status_cid` depends on the grouping. -/
theorem key_assoc_needs_keydata :
    let A : Nat × KMap := (3, [(1, ⟨.revoked, 3, 0⟩)])
    let B : Nat × KMap := (5, [])
    let C : Nat × KMap := (4, [(1, ⟨.revoked, 4, 0⟩)])
    lookup (attrMerge keyReplMerge 0 (attrMerge keyReplMerge 0 B A) C).2 1 ≠
      lookup (attrMerge keyReplMerge 0 B (attrMerge keyReplMerge 0 A C)).2 1 := by
  decide +kernel

/-! ## 7. Audit log (`BTreeMap<Cid, String>`, newest `AUDIT_LOG_STRING_CAPACITY` kept)

`audit_comm`, `audit_idem`, `audit_assoc`: `Lemmas/AuditMerge.lean`. -/

example : auditReplMerge [(1, 10), (3, 30)] [(2, 20), (3, 30)] 0 = [(2, 20), (3, 30), (1, 10)] := by
  decide +kernel

end Kanidm.SessionMerge
