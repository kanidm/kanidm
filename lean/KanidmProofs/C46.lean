import KanidmProofs.Lemmas.Radius
/-!
# C46 — RADIUS secrets go only to members of required groups

`authorise` is the transcription of
`Module::authorise` (rlm_kanidm/module/src/logic.rs); its membership predicate, quantifier,
guard polarity, early-return table, "not found" status, identity preference order and VLAN
lookup key are regenerated from the source on every run (`Generated/RadiusOps.lean`), so each
theorem below is re-proved about the code as it is now.  The right-hand sides (`Member`,
`MappedTo`, `Unmapped`) are the declarative reading of the property text.

`dir : Nat → Http` is the directory as seen through `GET /v1/account/{id}/_radius/_token`;
all theorems hold for every configuration, directory and request.
-/
namespace Kanidm.Radius
open Kanidm.Gen.Radius

/-- Which identity the module asks the directory about: certificate SAN DN CN, else
certificate CN, else the RADIUS User-Name. -/
theorem user_id_precedence (r : Request) :
    userId r = (match r.san, r.cn, r.user with
      | some a, _, _ => some a
      | none, some b, _ => some b
      | none, none, u => u) := by
  obtain ⟨san, cn, user⟩ := r
  cases san <;> cases cn <;> cases user <;> rfl

/-- Access-Accept is produced exactly for a member of a required group, and every field of the
reply comes from the token of the identified user. -/
theorem accept_iff_member (cfg : Config) (dir : Nat → Http) (req : Request) (r : Reply) :
    authorise cfg dir req = .accept r ↔
      ∃ id t, userId req = some id ∧ dir id = .ok t ∧ Member cfg t ∧
        r = { name := t.name, uuid := t.uuid, secret := t.secret,
              vlan := (resolve cfg t.groups).vlan, attrs := (resolve cfg t.groups).attrs } := by
  rw [authorise_eq]
  constructor
  · intro h
    cases hid : userId req with
    | none => rw [hid] at h; cases h
    | some id =>
      cases hd : dir id with
      | ok t =>
        simp only [hid, hd] at h
        split at h
        · cases h; exact ⟨id, t, rfl, hd, (userInRequired_iff cfg _).mp ‹_›, rfl⟩
        · cases h
      | status c => simp only [hid, hd] at h; split at h <;> cases h
      | broken => simp only [hid, hd] at h; cases h
  · rintro ⟨id, t, hid, hd, hm, rfl⟩
    simp only [hid, hd]
    rw [if_pos ((userInRequired_iff cfg _).mpr hm)]

/-- **The property, first sentence.**  The module hands out a cleartext secret `s` iff the
request identifies a user, the directory returns that user's token, some group of the token is
named in the required list by uuid or by spn, and `s` is *that token's* secret. -/
theorem secret_released_iff_member (cfg : Config) (dir : Nat → Http) (req : Request) (s : Nat) :
    (authorise cfg dir req).secret = some s ↔
      ∃ id t, userId req = some id ∧ dir id = .ok t ∧ Member cfg t ∧ s = t.secret := by
  constructor
  · intro h
    cases ha : authorise cfg dir req with
    | err e => rw [ha] at h; cases h
    | accept r =>
      rw [ha] at h
      obtain ⟨id, t, h1, h2, h3, rfl⟩ := (accept_iff_member cfg dir req r).mp ha
      exact ⟨id, t, h1, h2, h3, (Option.some.inj h).symm⟩
  · rintro ⟨id, t, h1, h2, h3, rfl⟩
    rw [(accept_iff_member cfg dir req _).mpr ⟨id, t, h1, h2, h3, rfl⟩]
    rfl

/-- **The property, second sentence.**  On Access-Accept the VLAN is the default if none of
the user's groups has a VLAN mapping, and otherwise that of the *last* of the user's groups
that has one (the mapping in force for an spn being the last `radius_groups` entry for it). -/
theorem vlan_last_mapped_else_default (cfg : Config) (dir : Nat → Http) (req : Request)
    (r : Reply) (id : Nat) (t : Token)
    (hacc : authorise cfg dir req = .accept r) (hid : userId req = some id) (hd : dir id = .ok t) :
    ((∀ g ∈ t.groups, Unmapped cfg g.spn) → r.vlan = cfg.defaultVlan) ∧
    (∀ pre g post c, t.groups = pre ++ g :: post → MappedTo cfg g.spn c →
        (∀ h ∈ post, Unmapped cfg h.spn) → r.vlan = c.vlan) := by
  obtain ⟨id', t', hid', hd', _, hr⟩ := (accept_iff_member cfg dir req r).mp hacc
  have : id' = id := by rw [hid] at hid'; exact (Option.some.inj hid').symm
  subst this
  have : t' = t := by rw [hd] at hd'; cases hd'; rfl
  subst this
  subst hr
  refine ⟨fun h => resolve_vlan_default cfg _ h, ?_⟩
  intro pre g post c hsplit hg hpost
  show (resolve cfg t'.groups).vlan = c.vlan
  rw [hsplit]
  exact resolve_vlan_last cfg pre post g c hg hpost

/-- The two cases of `vlan_last_mapped_else_default` cover every group list: the theorem
determines the VLAN of every Access-Accept. -/
theorem vlan_cases_exhaustive (cfg : Config) (gs : List Group) :
    (∀ g ∈ gs, Unmapped cfg g.spn) ∨
    ∃ pre g post c, gs = pre ++ g :: post ∧ MappedTo cfg g.spn c ∧ ∀ h ∈ post, Unmapped cfg h.spn := by
  have hu : ∀ {s}, ¬ (cfgLookup cfg.groups s).isSome ↔ Unmapped cfg s := fun {s} => by
    rw [Unmapped, ← cfgLookup_none_iff]; cases cfgLookup cfg.groups s <;> simp
  rcases last_or_none (fun g : Group => (cfgLookup cfg.groups g.spn).isSome) gs with
    hn | ⟨pre, g, post, rfl, hg, hpost⟩
  · exact .inl fun g hg => hu.mp (hn g hg)
  · obtain ⟨c, hc⟩ := Option.isSome_iff_exists.mp hg
    exact .inr ⟨pre, g, post, c, rfl, (cfgLookup_some_iff ..).mp hc, fun h hh => hu.mp (hpost h hh)⟩

/-- **Not-found and errors release nothing.**  Every path other than "member" ends in the
stated `AuthError` (none of which carries a secret).  `404` is the generated `notFoundStatus`;
`authorise_eq` unfolds it, so a change of that status in the source fails there. -/
theorem not_found_and_failures_release_nothing (cfg : Config) (dir : Nat → Http) (req : Request) :
    (userId req = none → authorise cfg dir req = .err .fail) ∧
    (∀ id, userId req = some id → dir id = .status 404 → authorise cfg dir req = .err .notFound) ∧
    (∀ id c, userId req = some id → dir id = .status c → c ≠ 404 → authorise cfg dir req = .err .fail) ∧
    (∀ id, userId req = some id → dir id = .broken → authorise cfg dir req = .err .fail) ∧
    (∀ id t, userId req = some id → dir id = .ok t → ¬ Member cfg t →
        authorise cfg dir req = .err .reject) ∧
    (∀ e, authorise cfg dir req = .err e → (authorise cfg dir req).secret = none) := by
  rw [authorise_eq]
  refine ⟨?_, ?_, ?_, ?_, ?_, ?_⟩
  · intro h; rw [h]
  · intro id h1 h2; simp only [h1, h2, if_pos]
  · intro id c h1 h2 h3; simp only [h1, h2, if_neg h3]
  · intro id h1 h2; simp only [h1, h2]
  · intro id t h1 h2 h3
    simp only [h1, h2]
    rw [if_neg (mt (userInRequired_iff cfg _).mp h3)]
  · intro e h; rw [h]; rfl

private def cfgEx : Config :=
  { required := [100, 7], defaultVlan := 1,
    groups := [⟨20, 10, [(1, 1)]⟩, ⟨21, 30, []⟩, ⟨20, 40, [(1, 2)]⟩] }
private def alice : Token := ⟨1, 2, 999, [⟨20, 5⟩, ⟨21, 7⟩, ⟨50, 6⟩]⟩   -- member by uuid 7
private def bob : Token := ⟨3, 4, 888, [⟨20, 5⟩, ⟨50, 6⟩]⟩              -- not a member
private def dirEx : Nat → Http
  | 1 => .ok alice
  | 3 => .ok bob
  | 9 => .status 500
  | _ => .status 404

example : authorise cfgEx dirEx ⟨none, some 1, some 3⟩ = .accept ⟨1, 2, 999, 30, [(1, 2)]⟩ := by decide +kernel
example : Member cfgEx alice := ⟨⟨21, 7⟩, by decide +kernel, by decide +kernel⟩
example : MappedTo cfgEx 20 ⟨20, 40, [(1, 2)]⟩ := ⟨[⟨20, 10, [(1, 1)]⟩, ⟨21, 30, []⟩], [], rfl, rfl, by simp⟩
example : Unmapped cfgEx 50 := by simp [Unmapped, cfgEx]
example : authorise cfgEx dirEx ⟨none, none, some 3⟩ = .err .reject := by decide +kernel
example : ¬ Member cfgEx bob := by simp [Member, cfgEx, bob]
example : authorise cfgEx dirEx ⟨none, none, some 4⟩ = .err .notFound := by decide +kernel
example : authorise cfgEx dirEx ⟨some 9, none, some 1⟩ = .err .fail := by decide +kernel
example : authorise cfgEx dirEx ⟨none, none, none⟩ = .err .fail := by decide +kernel
/-- an empty required list admits nobody -/
example (dir : Nat → Http) (req : Request) (s : Nat) :
    (authorise { cfgEx with required := [] } dir req).secret ≠ some s := by
  intro h
  obtain ⟨_, t, _, _, ⟨g, _, hg⟩, _⟩ := (secret_released_iff_member _ dir req s).mp h
  simp at hg

end Kanidm.Radius
