import KanidmProofs.Lemmas.PwQuality
import KanidmProofs.C35
/-!
# C31 — Weak or badlisted passwords can never be set

`cuCheck` / `posixCheck` are the transcriptions of the two
`check_password_quality` functions; their gate order, length
comparisons (with operands), score threshold and "badlist key is lower-cased" are regenerated
from the source on every run (`KanidmModel/Generated/PwQualityOps.lean`), so the statements below
are about the current source.  `lower` (= `str::to_lowercase`) is a parameter: every theorem
except the `casefold_*` ones holds for every function `lower`.

"Effective minimum" = the minimum of the account's resolved policy (C35's `foldFrom`), for the
direct POSIX change additionally at least the single-factor minimum.  The resolved policy of a
credential update session is the one resolved when the session was created.
-/
namespace Kanidm.PwQuality
open Kanidm.Gen.PwQuality
open Kanidm.AccountPolicy (Resolved AccountPolicy foldFrom)

/-- What C31 demands of a password `i` accepted under policy `pol` while the stored badlist was
`bl`: not shorter than the minimum, not longer than the maximum, not in the badlist. -/
def Good (lower : List Nat → List Nat) (pol : Resolved) (i : Input) (bl : List (List Nat)) : Prop :=
  pol.pwMinLength ≤ i.graphemes ∧ i.graphemes ≤ pol.pwMaxLength ∧ lower i.text ∉ bl

/-- Both functions (as regenerated) still contain the length gate, the score
gate and the badlist gate, the credential-update one also the two containment gates; both look
the *lower-cased* cleartext up; all three setters were shape-checked by the translator. -/
theorem gates_present :
    0 ∈ cuGates ∧ 1 ∈ cuGates ∧ 2 ∈ cuGates ∧ 3 ∈ cuGates ∧ 4 ∈ cuGates ∧
    0 ∈ posixGates ∧ 3 ∈ posixGates ∧ 4 ∈ posixGates ∧
    cuKeyLowered = true ∧ posixKeyLowered = true ∧ checkedSetters = 3 := by decide

/-- Whatever the credential-update gate accepts is at least the policy
minimum and at most the policy maximum in graphemes, and its lower-cased form is not in the
stored badlist. -/
theorem cu_accept_implies (lower : List Nat → List Nat) (ctx : Ctx) (pol : Resolved) (i : Input)
    (h : cuCheck lower ctx pol i = none) : Good lower pol i ctx.badlist := by
  have hg := firstReject_none.1 h
  have h0 := lengthGate_none (hg 0 (by decide))
  -- the badlist gate speaks of `lookupKey cuKeyLowered lower i.text`, which unfolds to `lower i.text`
  exact ⟨cu_short_sound _ _ _ _ h0.1, cu_long_sound _ _ _ _ h0.2, badlistGate_none (hg 4 (by decide))⟩

/-- It also has the top zxcvbn score, does not contain the account's RADIUS
secret and contains none of the account's related inputs (names, mail, spn). -/
theorem cu_accept_extras (lower : List Nat → List Nat) (ctx : Ctx) (pol : Resolved) (i : Input)
    (h : cuCheck lower ctx pol i = none) :
    4 ≤ i.score ∧ (∀ r, ctx.radius = some r → containsSub i.text r = false) ∧
    (∀ r ∈ ctx.related, containsSub i.text r = false) := by
  have hg := firstReject_none.1 h
  exact ⟨cu_weak_sound _ (scoreGate_none (hg 3 (by decide))), radiusGate_none (hg 1 (by decide)),
    relatedGate_none (hg 2 (by decide))⟩

/-- Whatever the direct POSIX gate accepts is at least the policy
minimum *and* the single-factor minimum in graphemes, at most `PW_MAX_LENGTH_NIST` in bytes —
hence (a grapheme has at least one scalar value, a scalar value at least one byte) also in
graphemes —, has the top score and is not badlisted. -/
theorem posix_accept_implies (lower : List Nat → List Nat) (ctx : Ctx) (pol : Resolved) (i : Input)
    (h : posixCheck lower ctx pol i = none) :
    pol.pwMinLength ≤ i.graphemes ∧ pwSfaMin ≤ i.graphemes ∧ utf8Len i.text ≤ pwMaxNist ∧
    (i.graphemes ≤ i.text.length → i.graphemes ≤ pwMaxNist) ∧
    4 ≤ i.score ∧ lower i.text ∉ ctx.badlist := by
  have hg := firstReject_none.1 h
  have h0 := lengthGate_none (hg 0 (by decide))
  have hs := posix_short_sound _ _ _ _ h0.1
  have hl := posix_long_sound _ _ _ _ h0.2
  refine ⟨hs.1, hs.2, hl, fun hw => ?_, posix_weak_sound _ (scoreGate_none (hg 3 (by decide))),
    badlistGate_none (hg 4 (by decide))⟩
  have := length_le_utf8Len i.text
  omega

/-- With the badlist stored the way the server stores it
(`Value::new_iutf8` lower-cases every submitted entry), an accepted password differs from every
*submitted* entry even after lower-casing both — through either gate. -/
theorem badlist_case_insensitive (lower : List Nat → List Nat) (ctx : Ctx) (pol : Resolved) (i : Input)
    (raw : List (List Nat)) (hb : ctx.badlist = storeBadlist lower raw)
    (h : cuCheck lower ctx pol i = none ∨ posixCheck lower ctx pol i = none) :
    ∀ b ∈ raw, lower b ≠ lower i.text := by
  have hn : lower i.text ∉ ctx.badlist := by
    rcases h with h | h
    · obtain ⟨-, -, (hbad : lower i.text ∉ ctx.badlist)⟩ := cu_accept_implies lower ctx pol i h
      exact hbad
    · obtain ⟨-, -, -, -, -, (hbad : lower i.text ∉ ctx.badlist)⟩ := posix_accept_implies lower ctx pol i h
      exact hbad
  intro b hbm heq
  apply hn
  rw [hb, storeBadlist, ← heq]
  exact List.mem_map_of_mem hbm

/-- If lower-casing acts
character by character (`f`) on the cleartext and on the submitted entries — i.e. no
context-sensitive mapping such as the Greek final sigma applies to them — an accepted password
differs from every submitted entry modulo `f`. -/
theorem badlist_caseless_partial (lower : List Nat → List Nat) (f : Nat → Nat) (ctx : Ctx)
    (pol : Resolved) (i : Input) (raw : List (List Nat))
    (hb : ctx.badlist = storeBadlist lower raw)
    (hcf : lower i.text = i.text.map f ∧ ∀ b ∈ raw, lower b = b.map f)
    (h : cuCheck lower ctx pol i = none ∨ posixCheck lower ctx pol i = none) :
    ∀ b ∈ raw, b.map f ≠ i.text.map f := by
  intro b hbm heq
  apply badlist_case_insensitive lower ctx pol i raw hb h b hbm
  rw [hcf.1, hcf.2 b hbm, heq]

/-- When the policy is the one resolved from the
account's groups, an accepted password — through either gate — is at least as long as *every*
group's minimum and the built-in minimum, at least the single-factor minimum whenever second
factors are optional, and at most `PW_MAX_LENGTH_NIST` graphemes. -/
theorem min_is_resolved_policy (lower : List Nat → List Nat) (ctx : Ctx) (groups : List AccountPolicy)
    (i : Input) (hw : i.graphemes ≤ i.text.length)
    (h : cuCheck lower ctx (foldFrom groups) i = none ∨ posixCheck lower ctx (foldFrom groups) i = none) :
    (∀ p ∈ groups, p.pwMinLength ≤ i.graphemes) ∧
    Kanidm.Gen.AccountPolicy.initPwMinLength ≤ i.graphemes ∧
    ((foldFrom groups).credentialPolicy < Kanidm.Gen.AccountPolicy.credMfa →
      Kanidm.Gen.AccountPolicy.pwSfaMin ≤ i.graphemes) ∧
    i.graphemes ≤ Kanidm.Gen.AccountPolicy.initPwMaxLength := by
  have hmin : (foldFrom groups).pwMinLength ≤ i.graphemes ∧
      i.graphemes ≤ Kanidm.Gen.AccountPolicy.initPwMaxLength := by
    rcases h with h | h
    · obtain ⟨(hlo : _ ≤ i.graphemes), (hhi : i.graphemes ≤ _), -⟩ := cu_accept_implies lower ctx _ i h
      exact ⟨hlo, by rw [← Kanidm.AccountPolicy.foldFrom_pwMax groups]; exact hhi⟩
    · obtain ⟨(hlo : (foldFrom groups).pwMinLength ≤ i.graphemes), -, -,
        (hnist : i.graphemes ≤ i.text.length → i.graphemes ≤ pwMaxNist), -⟩ :=
        posix_accept_implies lower ctx _ i h
      have := hnist hw
      exact ⟨hlo, by simp only [pwMaxNist, Kanidm.Gen.AccountPolicy.initPwMaxLength] at this ⊢; omega⟩
  obtain ⟨hgroups, -, -, (hinit : Kanidm.Gen.AccountPolicy.initPwMinLength ≤ (foldFrom groups).pwMinLength), -⟩ :=
    Kanidm.AccountPolicy.strictest groups
  have sf := Kanidm.AccountPolicy.sfa_min_enforced groups
  refine ⟨fun p hp => ?_, Nat.le_trans hinit hmin.1, fun hc => Nat.le_trans (sf hc) hmin.1, hmin.2⟩
  obtain ⟨-, -, (hlen : p.pwMinLength ≤ (foldFrom groups).pwMinLength), -⟩ := hgroups p hp
  exact Nat.le_trans hlen hmin.1

/-- A credential slot of a session started from an account holding `orig`, under policy `pol`;
`sub bl i` says that a request of the session submitted `i` for this slot while the badlist was `bl`.
The slot is still the original, empty, or a submitted password that meets C31's demands under the
session's policy and the badlist of its request. -/
def SlotOk (lower : List Nat → List Nat) (pol : Resolved) (orig : Option Stored)
    (sub : List (List Nat) → Input → Prop) (slot : Option Stored) : Prop :=
  slot = orig ∨ slot = none ∨ ∃ i bl, slot = some (.fresh i bl) ∧ sub bl i ∧ Good lower pol i bl

/-- What holds of every state `s` of a session that started as `s0` from account `a` and whose requests are
all in `ops`.  `s0` serves `pstate`/`ustate` only: the two slot states are never changed. -/
structure SessInv (lower : List Nat → List Nat) (pol : Resolved) (a : Account) (ops : List Op)
    (s0 s : Session) : Prop where
  policy : s.policy = pol
  pstate : s.primaryState = s0.primaryState
  ustate : s.unixState = s0.unixState
  primary : SlotOk lower pol a.primary (fun bl i => Op.setPrimary bl i ∈ ops) s.primary
  unix : SlotOk lower pol a.unix (fun bl i => Op.setUnix bl i ∈ ops) s.unix

theorem sessInv_step (lower : List Nat → List Nat) (pol : Resolved) (a : Account) (ops : List Op)
    (s0 s : Session) (o : Op) (ho : o ∈ ops) (inv : SessInv lower pol a ops s0 s) :
    SessInv lower pol a ops s0 (step lower s o) := by
  unfold step
  cases hop : applyOp lower s o with
  | error e => exact inv
  | ok s' =>
    cases o with
    | setPrimary bl i =>
      obtain ⟨hq, rfl⟩ := quality_ok (ite_error_eq_ok.1 hop).2
      exact ⟨inv.policy, inv.pstate, inv.ustate,
        Or.inr (Or.inr ⟨i, bl, rfl, ho, inv.policy ▸ cu_accept_implies lower _ _ i hq⟩), inv.unix⟩
    | setUnix bl i =>
      obtain ⟨hq, rfl⟩ := quality_ok (ite_error_eq_ok.1 hop).2
      exact ⟨inv.policy, inv.pstate, inv.ustate, inv.primary,
        Or.inr (Or.inr ⟨i, bl, rfl, ho, inv.policy ▸ cu_accept_implies lower _ _ i hq⟩)⟩
    | deletePrimary =>
      rcases ite_eq_cases hop with ⟨_, h⟩ | ⟨_, h⟩ <;> cases h
      exact ⟨inv.policy, inv.pstate, inv.ustate, Or.inr (Or.inl rfl), inv.unix⟩
    | deleteUnix =>
      rcases ite_eq_cases hop with ⟨_, h⟩ | ⟨_, h⟩ <;> cases h
      exact ⟨inv.policy, inv.pstate, inv.ustate, inv.primary, Or.inr (Or.inl rfl)⟩

theorem sessInv_init (lower : List Nat → List Nat) (pol : Resolved) (a : Account) (p : Perms)
    (ops : List Op) : SessInv lower pol a ops (initSession pol a p) (initSession pol a p) := by
  have slot : ∀ (c : Prop) [Decidable c] (orig : Option Stored) sub,
      SlotOk lower pol orig sub (if c then orig else none) := fun c _ _ _ => by
    by_cases hc : c
    · exact Or.inl (if_pos hc)
    · exact Or.inr (Or.inl (if_neg hc))
  exact ⟨rfl, rfl, rfl, slot _ _ _, slot _ _ _⟩

/-- For every account, every policy, every permission set,
every sequence of session requests (each with the badlist current at that request, failed ones
included) and either commit outcome: each password credential the account holds afterwards is the
one it held before, absent, or a password submitted in this session by a `set` request of that
slot which met the policy minimum/maximum of the session and was not in the badlist of that
request. -/
theorem cu_history_stores_only_good (lower : List Nat → List Nat) (pol : Resolved) (a : Account)
    (p : Perms) (ops : List Op) (canCommit : Bool) :
    let a' := commit (run lower (initSession pol a p) ops) a canCommit
    SlotOk lower pol a.primary (fun bl i => Op.setPrimary bl i ∈ ops) a'.primary ∧
    SlotOk lower pol a.unix (fun bl i => Op.setUnix bl i ∈ ops) a'.unix := by
  intro a'
  have inv : SessInv lower pol a ops _ (run lower (initSession pol a p) ops) :=
    List.foldlRecOn ops _ (sessInv_init lower pol a p ops) fun s inv o ho =>
      sessInv_step lower pol a ops _ s o ho inv
  show SlotOk _ _ _ _ (commit _ a canCommit).primary ∧ SlotOk _ _ _ _ (commit _ a canCommit).unix
  unfold commit
  cases canCommit with
  | false => exact ⟨Or.inl rfl, Or.inl rfl⟩
  | true =>
    simp only [Bool.not_true, Bool.false_eq_true, if_false]
    constructor
    · cases hs : (run lower (initSession pol a p) ops).primaryState <;> simp only []
      case modifiable => exact inv.primary
      case deleteOnly => exact Or.inr (Or.inl rfl)
      case accessDeny => exact Or.inl rfl
      case policyDeny => exact Or.inr (Or.inl rfl)
    · cases hs : (run lower (initSession pol a p) ops).unixState <;> simp only []
      case modifiable => exact inv.unix
      case deleteOnly => exact inv.unix
      case accessDeny => exact Or.inl rfl
      case policyDeny => exact Or.inr (Or.inl rfl)

/-- A successful `set_unix_account_password` leaves the
primary credential alone and stores a password that is at least the policy minimum and the
single-factor minimum in graphemes, at most `PW_MAX_LENGTH_NIST` bytes and not badlisted; an
unsuccessful one stores nothing (`Except.error` carries no account). -/
theorem posix_direct_stores_only_good (lower : List Nat → List Nat) (bl : List (List Nat))
    (pol : Resolved) (a a' : Account) (allowed : Bool) (i : Input)
    (h : setUnixDirect lower bl pol a allowed i = .ok a') :
    a'.primary = a.primary ∧ a'.unix = some (.fresh i bl) ∧ a.isPosix = true ∧ allowed = true ∧
    pol.pwMinLength ≤ i.graphemes ∧ pwSfaMin ≤ i.graphemes ∧ utf8Len i.text ≤ pwMaxNist ∧
    lower i.text ∉ bl := by
  unfold setUnixDirect at h
  obtain ⟨hp, h⟩ := ite_error_eq_ok.1 h
  obtain ⟨hal, h⟩ := ite_error_eq_ok.1 h
  obtain ⟨hq, rfl⟩ := quality_ok h
  obtain ⟨hlo, hsfa, hbytes, -, -, hbad⟩ := posix_accept_implies lower _ pol i hq
  exact ⟨rfl, rfl, by simpa using hp, by simpa using hal, hlo, hsfa, hbytes, hbad⟩

/-- The statement's "present in the badlist ignoring case", read as simple case folding
(`caselessEq`), for the concrete lower-casing `lowerGreek` (ASCII + Greek, final-sigma rule).
Stated for the credential-update gate only: refuting that form suffices. -/
def casefold_full : Prop :=
  ∀ (ctx : Ctx) (pol : Resolved) (i : Input) (raw : List (List Nat)),
    ctx.badlist = storeBadlist lowerGreek raw → cuCheck lowerGreek ctx pol i = none →
    ∀ b ∈ raw, caselessEq b i.text = false

/-- 14 × `X`, then `ΟΣ` — the submitted badlist entry of the witness. -/
def witnessEntry : List Nat := List.replicate 14 0x58 ++ [0x39F, 0x3A3]
/-- 14 × `x`, then `οσ` (non-final sigma in final position) — the accepted password. -/
def witnessPw : Input := ⟨List.replicate 14 0x78 ++ [0x3BF, 0x3C3], 16, 4⟩

/-- The entry `…ΟΣ` is
stored as `…ος`; the password `…οσ` lower-cases to itself, is not found, and is accepted although
it equals the entry ignoring case.  The harness replays the same shape on the real code. -/
theorem casefold_full_false : ¬ casefold_full := by
  intro h
  have := h ⟨storeBadlist lowerGreek [witnessEntry], none, []⟩ (foldFrom []) witnessPw [witnessEntry]
    rfl (by decide) witnessEntry (by simp)
  revert this
  decide +kernel

/-- Outside the class of finding D28 — no Σ/σ/ς in the cleartext nor in the
submitted entries — an accepted password equals no submitted entry ignoring case. -/
theorem casefold_partial (ctx : Ctx) (pol : Resolved) (i : Input) (raw : List (List Nat))
    (hb : ctx.badlist = storeBadlist lowerGreek raw)
    (hi : ∀ c ∈ i.text, isSigma c = false) (hr : ∀ b ∈ raw, ∀ c ∈ b, isSigma c = false)
    (h : cuCheck lowerGreek ctx pol i = none ∨ posixCheck lowerGreek ctx pol i = none) :
    ∀ b ∈ raw, caselessEq b i.text = false := by
  intro b hbm
  have := badlist_caseless_partial lowerGreek fold1 ctx pol i raw hb
    ⟨lowerGreek_of_sigma_free _ hi, fun b hb' => lowerGreek_of_sigma_free _ (hr b hb')⟩ h b hbm
  simpa [caselessEq] using this

def polDefault : Resolved := foldFrom []
def pol30 : Resolved :=
  foldFrom [Kanidm.AccountPolicy.fromEntry ⟨none, none, some 30, none, none, none, none, none⟩]
def ctx0 : Ctx := ⟨storeBadlist lowerGreek [witnessEntry], some [0x72, 0x61, 0x64], [[0x62, 0x6F, 0x62]]⟩
/-- a 16-grapheme, 20-scalar-value password -/
def okPw : Input := ⟨List.replicate 20 0x71, 16, 4⟩

/-- the gates do accept something (hypotheses of the `accept ⇒` theorems are satisfiable) … -/
example : cuCheck lowerGreek ctx0 polDefault okPw = none ∧ posixCheck lowerGreek ctx0 polDefault okPw = none := by
  decide +kernel
/-- … and do object: too short for a 30-minimum (the D11 witness shape: 20 < 30 through *both*
gates), too long, badlisted in another case, weak, containing the RADIUS secret / a name. -/
example :
    cuCheck lowerGreek ctx0 pol30 ⟨List.replicate 20 0x71, 20, 4⟩ = some (.tooShort 30) ∧
    posixCheck lowerGreek ctx0 pol30 ⟨List.replicate 20 0x71, 20, 4⟩ = some (.tooShort 30) ∧
    cuCheck lowerGreek ctx0 polDefault ⟨List.replicate 129 0x71, 129, 4⟩ = some (.tooLong 128) ∧
    posixCheck lowerGreek ctx0 polDefault ⟨List.replicate 43 0x20AC, 43, 4⟩ = some (.tooLong 128) ∧
    cuCheck lowerGreek ctx0 polDefault ⟨List.replicate 14 0x78 ++ [0x3BF, 0x3C2], 16, 4⟩ = some .badlisted ∧
    posixCheck lowerGreek ctx0 polDefault ⟨List.replicate 14 0x58 ++ [0x39F, 0x3A3], 16, 4⟩ = some .badlisted ∧
    cuCheck lowerGreek ctx0 polDefault ⟨List.replicate 20 0x71, 20, 3⟩ = some .weak ∧
    cuCheck lowerGreek ctx0 polDefault ⟨List.replicate 17 0x71 ++ [0x72, 0x61, 0x64], 20, 4⟩ = some .dontReuse ∧
    cuCheck lowerGreek ctx0 polDefault ⟨[0x62, 0x6F, 0x62] ++ List.replicate 17 0x71, 20, 4⟩ = some .related := by
  decide +kernel

def acct0 : Account := ⟨some (.old 0), none, true, none, []⟩
/-- a history that ends with a fresh primary and a fresh POSIX password stored -/
example :
    (commit (run lowerGreek (initSession polDefault acct0 ⟨true, true⟩)
      [.setPrimary [] ⟨[1], 3, 4⟩, .setPrimary [] okPw, .setUnix [] okPw, .deleteUnix, .setUnix [] okPw,
       .setPrimary [okPw.text] okPw]) acct0 true)
      = { acct0 with primary := some (.fresh okPw []), unix := some (.fresh okPw []) } := by
  decide +kernel

example : (setUnixDirect lowerGreek [] pol30 acct0 true ⟨List.replicate 30 0x71, 30, 4⟩).toOption
    = some { acct0 with unix := some (.fresh ⟨List.replicate 30 0x71, 30, 4⟩ []) } := by decide +kernel

end Kanidm.PwQuality
