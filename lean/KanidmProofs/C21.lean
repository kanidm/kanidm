import KanidmModel.Gid
/-!
# C21 — POSIX ids never land in reserved ranges

`gen`, `accept`, `allowed` and every `GID_*` constant are regenerated from
`plugins/gidnumber.rs` on every run, so each theorem below is re-stated about the current source.
No `bv_decide`, no native evaluation; quantification is over all naturals (hence all 2^32 inputs).
-/
namespace Kanidm.Gid
open Kanidm.Gen.Gid

theorem prefix_le_mask_or_lt {m p k : Nat} (hm : m < 2 ^ k) (hp : p < 2 ^ k) (x : Nat) :
    p ≤ (x &&& m) ||| p ∧ (x &&& m) ||| p < 2 ^ k :=
  ⟨Nat.right_le_or, Nat.or_lt_two_pow (Nat.lt_of_le_of_lt Nat.and_le_right hm) hp⟩

/-- Every generated id lies in `[0x70000000, 0x7fffffff]`, for every input (all 2^32 values of
the uuid bytes and beyond). -/
theorem gen_in_safe_range (x : Nat) : 1879048192 ≤ gen x ∧ gen x ≤ 2147483647 :=
  have h := prefix_le_mask_or_lt (k := 31) (m := GID_SYSTEM_NUMBER_MASK)
    (p := GID_SYSTEM_NUMBER_PREFIX) (by decide) (by decide) x
  ⟨h.1, Nat.le_of_lt_succ h.2⟩

example : gen 0x997ef244 = 0x797ef244 ∧ gen 0 = 0x70000000 ∧ gen 0xffffffff = 0x7fffffff := by decide +kernel

theorem safe_range_disjoint_reserved (g : Nat) (h : 1879048192 ≤ g ∧ g ≤ 2147483647) :
    ¬ Reserved g := by
  unfold Reserved; omega

theorem gen_not_reserved (x : Nat) : ¬ Reserved (gen x) :=
  safe_range_disjoint_reserved _ (gen_in_safe_range x)

/-- The check branch accepts exactly the listed intervals. -/
theorem accept_iff_allowed (g : Nat) :
    accept g = true ↔ ∃ iv ∈ allowed, iv.1 ≤ g ∧ g ≤ iv.2 := by
  simp only [accept, Bool.or_eq_true, Bool.and_eq_true, decide_eq_true_eq, or_assoc, allowed,
    List.mem_cons, List.not_mem_nil, or_false, exists_eq_or_imp, exists_eq_left]

/-- The accepted intervals are, within `u32`, exactly the complement of the reserved ranges:
a supplied id inside a reserved range is rejected and nothing else is. -/
theorem accept_iff_not_reserved (g : Nat) (hg : g < 4294967296) :
    accept g = true ↔ ¬ Reserved g := by
  simp only [accept, Bool.or_eq_true, Bool.and_eq_true, decide_eq_true_eq]
  simp only [Reserved, GID_REGULAR_USER_MIN, GID_REGULAR_USER_MAX, GID_UNUSED_A_MIN,
    GID_UNUSED_A_MAX, GID_UNUSED_B_MIN, GID_UNUSED_B_MAX, GID_UNUSED_C_MIN, GID_UNUSED_C_MAX,
    GID_NSPAWN_MIN, GID_NSPAWN_MAX, GID_UNUSED_D_MIN, GID_UNUSED_D_MAX]
  omega

theorem allowed_disjoint_reserved (g : Nat) (iv : Nat × Nat) (hiv : iv ∈ allowed)
    (h : iv.1 ≤ g ∧ g ≤ iv.2) : ¬ Reserved g := by
  have hu32 : ∀ iv ∈ allowed, iv.2 < 4294967296 := by decide
  exact (accept_iff_not_reserved g (Nat.lt_of_le_of_lt h.2 (hu32 iv hiv))).mp
    ((accept_iff_allowed g).mpr ⟨iv, hiv, h⟩)

/-- A generated id passes the plugin's own check (so a later modify of the entry keeps it). -/
theorem gen_accepted (x : Nat) : accept (gen x) = true := by
  have h := gen_in_safe_range x
  exact (accept_iff_not_reserved _ (by omega)).mpr (gen_not_reserved x)

/-- Generation is a function of bytes 12..16 of the uuid only. -/
theorem gen_deterministic (u1 u2 : List Nat)
    (h : (u1.drop 12).take 4 = (u2.drop 12).take 4) :
    gen (uuidToGid u1) = gen (uuidToGid u2) := by
  simp [uuidToGid, uuidByteLo, uuidByteHi, h]

example : uuidToGid [0x83, 0xa0, 0x92, 0x7f, 0x3d, 0xe1, 0x45, 0xec, 0xbe, 0xa0, 0x2f, 0x7b,
    0x99, 0x7e, 0xf2, 0x44] = 0x997ef244 := by decide +kernel

/-- Four bytes: a `u32`. -/
theorem beNat_lt (bs : List Nat) (hb : ∀ b ∈ bs, b < 256) : beNat bs < 256 ^ bs.length := by
  suffices h : ∀ (acc k : Nat), acc < 256 ^ k →
      bs.foldl (fun acc b => acc * 256 + b) acc < 256 ^ (k + bs.length) by
    have := h 0 0 (Nat.pow_pos (by decide))
    rwa [Nat.zero_add] at this
  induction bs with
  | nil => exact fun acc k h => h
  | cons b rest ih =>
    intro acc k h
    have hb0 : b < 256 := hb b List.mem_cons_self
    have hk : (acc + 1) * 256 ≤ 256 ^ k * 256 := Nat.mul_le_mul_right 256 h
    rw [Nat.add_one_mul] at hk
    have := ih (fun c hc => hb c (List.mem_cons_of_mem _ hc)) (acc * 256 + b) (k + 1)
      (Nat.lt_of_lt_of_le (Nat.add_lt_add_left hb0 _) hk)
    rwa [Nat.add_assoc, Nat.add_comm 1] at this

/-- **C21, supplied ids.** A supplied gid number inside a reserved range is rejected — on any
entry that carries it, posix or not. -/
theorem reserved_supplied_rejected (e : EntryView) (g : Nat) (hgid : e.gid = .single g)
    (hg : g < 4294967296) (hr : Reserved g) : applyGid e = .overlapsSystemRange := by
  have ha : accept g = false :=
    Bool.eq_false_iff.2 fun h => (accept_iff_not_reserved g hg).mp h hr
  simp [applyGid, hgid, ha]

/-- … and a supplied number outside the reserved ranges is kept unchanged. -/
theorem unreserved_supplied_kept (e : EntryView) (g : Nat) (hgid : e.gid = .single g)
    (hg : g < 4294967296) (hr : ¬ Reserved g) : applyGid e = .ok (.single g) := by
  have ha : accept g = true := (accept_iff_not_reserved g hg).mpr hr
  simp [applyGid, hgid, ha]

/-- **C21, posix entries.** Whenever the plugin lets a POSIX account or group through, the entry
carries exactly one gid number and it is not reserved (schema hypothesis: `gidnumber` is a
single-valued uint32, so `other` does not occur). -/
theorem posix_ends_outside_reserved (e : EntryView) (hp : e.posix = true) (hs : e.gid ≠ .other)
    (hu32 : ∀ g, e.gid = .single g → g < 4294967296) :
    match applyGid e with
    | .ok a => ∃ g, a = .single g ∧ ¬ Reserved g
    | .overlapsSystemRange => ∃ g, e.gid = .single g ∧ Reserved g
    | .invalidEntryState => e.uuidLow = none := by
  obtain ⟨posix, gid, uuidLow⟩ := e
  simp only at hp hs hu32
  subst hp
  cases gid with
  | absent =>
    cases uuidLow with
    | none => simp [applyGid]
    | some x => simpa [applyGid] using gen_not_reserved x
  | single g =>
    have hg := hu32 g rfl
    by_cases hr : Reserved g
    · rw [reserved_supplied_rejected _ g rfl hg hr]; exact ⟨g, rfl, hr⟩
    · rw [unreserved_supplied_kept _ g rfl hg hr]; exact ⟨g, rfl, hr⟩
  | other => exact absurd rfl hs

example : applyGid ⟨true, .absent, some 0x997ef244⟩ = .ok (.single 0x797ef244) := by decide +kernel
example : applyGid ⟨true, .single 999, some 5⟩ = .overlapsSystemRange := by decide +kernel
example : applyGid ⟨true, .single 1000, some 5⟩ = .ok (.single 1000) := by decide +kernel
example : applyGid ⟨true, .single 65534, none⟩ = .overlapsSystemRange := by decide +kernel
example : applyGid ⟨false, .single 2147483648, none⟩ = .overlapsSystemRange := by decide +kernel
example : Reserved 60001 ∧ ¬ Reserved 60000 ∧ Reserved 65535 ∧ ¬ Reserved 65536 := by decide +kernel

end Kanidm.Gid
