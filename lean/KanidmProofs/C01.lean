import KanidmProofs.Lemmas.FilterIdl
import KanidmProofs.C02
/-!
# C01 — Search returns exactly the matching entries, whatever is indexed

The model (`KanidmModel/Filter/Idl.lean`) transcribes `filter2idl`, `filter2idl_sub`, `search` and
`exists` of `server/lib/src/be/mod.rs`; the arm tables of the OR fold and of the two AND loops, the thresholds and the re-test arms are
regenerated from the source on every run (`KanidmModel/Generated/FilterIdl.lean`), so every theorem
below is re-stated whenever those arms change.

Vocabulary: `World` = the stored entries; `Idx` = `get_idl`; `IdxSound w idx` = every index table
that exists mirrors the stored entries; `sem S w f id` = `id` is stored and its entry satisfies `f`
under ordinary boolean semantics (`F.matches` = `entry_match_no_index`, NOT = complement);
`Approx P il` = what an `IdList` claims (`Indexed` exact, `Partial*` superset, `AllIds` nothing);
`F.safe` = no `Inclusion`, every `AndNot` sits directly under an `And` with a positive sibling,
indexed substring needles are non-empty; `F.plain` = the filters the property quantifies over.

The theorems hold for every threshold, every slope annotation of the filter (slopes only select
`Some`/`None` = "resolve believes this term is indexed"), every per-value comparison semantics `S`
compatible with the substring index (`SubSem`), every limit setting.
-/
namespace Kanidm.Filter

/-! ## 1. the central lemma -/

/-- `filter2idl` never over-claims: for a safe filter the id list it returns approximates the set
of stored entries satisfying the filter — exactly when `Indexed`, from above when `Partial` or
`PartialThreshold` — whatever is indexed, whatever the threshold. -/
theorem filter2idl_sound (S : ValSem) (hS : SubSem S) (w : World) (idx : Idx) (rep : Rep)
    (hI : IdxSound w idx) (thres : Nat) (f : F) (hf : f.safe = true) :
    Approx (sem S w f) (f.idl idx rep thres) :=
  (filter2idl_sound_aux S hS w idx rep hI thres f).1 hf

/-! ## 2. search and exists are exact for safe filters -/

/-- `Err(OperationError::ResourceLimit)` — the explicit failure the property allows -/
def resLimit {α : Type} : Except SErr α := Except.error SErr.resourceLimit

/-- the exact answer: the stored ids whose entry satisfies the filter, in id order -/
def answer (S : ValSem) (w : World) (f : F) : List Nat :=
  w.live.filter (fun id => f.matches S (w.ent id))

theorem mem_answer {S : ValSem} {w : World} {f : F} {id : Nat} : id ∈ answer S w f ↔ sem S w f id :=
  List.mem_filter

theorem getIdentry_filter_exact (S : ValSem) (w : World) (f : F) (i : IdList)
    (h : Approx (sem S w f) i) :
    (getIdentry w i).filter (fun id => f.matches S (w.ent id)) = answer S w f := by
  unfold getIdentry
  split
  · rfl
  · rename_i hk
    rw [List.filter_filter]
    refine List.filter_congr fun id hid => ?_
    cases hm : f.matches S (w.ent id)
    · rfl
    · exact (Bool.true_and _).trans (List.contains_iff_mem.mpr (h.sup hk id ⟨hid, hm⟩))

theorem getIdentry_indexed_exact (S : ValSem) (w : World) (f : F) (i : IdList)
    (hk : i.kind = .idxd) (h : Approx (sem S w f) i) :
    getIdentry w i = answer S w f := by
  simp only [Approx, hk] at h
  simp only [getIdentry, hk]
  refine List.filter_congr fun id hid => ?_
  rw [Bool.eq_iff_iff, List.contains_iff_mem, h id]
  exact and_iff_right hid

theorem isEmpty_ids_eq_of_indexed (S : ValSem) (w : World) (f : F) (i : IdList)
    (hk : i.kind = .idxd) (h : Approx (sem S w f) i) : i.ids.isEmpty = (answer S w f).isEmpty := by
  simp only [Approx, hk] at h
  rw [Bool.eq_iff_iff, List.isEmpty_iff, List.isEmpty_iff, List.eq_nil_iff_forall_not_mem,
    List.eq_nil_iff_forall_not_mem]
  exact forall_congr' fun id => not_congr ((h id).trans mem_answer.symm)

section
variable (S : ValSem) (w : World) (f : F) (i : IdList) (h : Approx (sem S w f) i)
  (retest : Kind → Bool) (hre : ∀ k, k ≠ .idxd → retest k = true)
include h hre

/-- what `search` keeps of the candidates, under any table that re-tests every kind but `Indexed` -/
theorem retest_exact :
    (if retest i.kind = true then (getIdentry w i).filter (fun id => f.matches S (w.ent id))
      else getIdentry w i) = answer S w f := by
  split
  · exact getIdentry_filter_exact S w f i h
  · rename_i hr
    exact getIdentry_indexed_exact S w f i (Decidable.by_contra fun hk => hr (hre _ hk)) h

/-- what `exists` answers from the candidates, under any such table -/
theorem retest_nonempty :
    (if retest i.kind = true then
        !((getIdentry w i).filter (fun id => f.matches S (w.ent id))).isEmpty
      else !i.ids.isEmpty) = !(answer S w f).isEmpty := by
  split
  · rw [getIdentry_filter_exact S w f i h]
  · rename_i hr
    rw [isEmpty_ids_eq_of_indexed S w f i (Decidable.by_contra fun hk => hr (hre _ hk)) h]

end

theorem searchRetest_of_ne (k : Kind) (hk : k ≠ .idxd) : searchRetest k = true := by
  cases k <;> first | rfl | exact absurd rfl hk

theorem existsRetest_of_ne (k : Kind) (hk : k ≠ .idxd) : existsRetest k = true := by
  cases k <;> first | rfl | exact absurd rfl hk

section
variable (S : ValSem) (hS : SubSem S) (w : World) (idx : Idx) (rep : Rep) (hI : IdxSound w idx)
  (thres : Nat) (lim : Limits) (f : F) (hf : f.safe = true)
include hS hI hf

theorem searchT_eq :
    searchT thres S lim w idx rep f =
      if !searchLimitOk lim (f.idl idx rep thres) then resLimit
      else if (answer S w f).length > lim.maxResults then resLimit else .ok (answer S w f) := by
  unfold searchT
  simp only [retest_exact S w f _ (filter2idl_sound S hS w idx rep hI thres f hf) _ searchRetest_of_ne]
  rfl

theorem existsT_eq :
    existsT thres S lim w idx rep f =
      if !existsLimitOk lim (f.idl idx rep thres) then resLimit
      else .ok (!(answer S w f).isEmpty) := by
  unfold existsT
  simp only [← apply_ite Except.ok,
    retest_nonempty S w f _ (filter2idl_sound S hS w idx rep hI thres f hf) _ existsRetest_of_ne]
  rfl

end

/-- `search` with any threshold either fails with `ResourceLimit` or returns exactly the stored
entries that satisfy the filter. -/
theorem searchT_exact (S : ValSem) (hS : SubSem S) (w : World) (idx : Idx) (rep : Rep)
    (hI : IdxSound w idx)
    (thres : Nat) (lim : Limits) (f : F) (hf : f.safe = true) :
    searchT thres S lim w idx rep f = resLimit ∨
      searchT thres S lim w idx rep f = .ok (answer S w f) := by
  rw [searchT_eq S hS w idx rep hI thres lim f hf]
  split
  · exact Or.inl rfl
  · split
    · exact Or.inl rfl
    · exact Or.inr rfl

theorem existsT_exact (S : ValSem) (hS : SubSem S) (w : World) (idx : Idx) (rep : Rep)
    (hI : IdxSound w idx)
    (thres : Nat) (lim : Limits) (f : F) (hf : f.safe = true) :
    existsT thres S lim w idx rep f = resLimit ∨
      existsT thres S lim w idx rep f = .ok (!(answer S w f).isEmpty) := by
  rw [existsT_eq S hS w idx rep hI thres lim f hf]
  split
  · exact Or.inl rfl
  · exact Or.inr rfl

theorem searchT_ok {S : ValSem} (hS : SubSem S) {w : World} {idx : Idx} {rep : Rep}
    (hI : IdxSound w idx) {thres : Nat} {lim : Limits} {f : F} (hf : f.safe = true) {r : List Nat}
    (h : searchT thres S lim w idx rep f = .ok r) : r = answer S w f := by
  rcases searchT_exact S hS w idx rep hI thres lim f hf with e | e <;> rw [h] at e <;> cases e
  rfl

/-- **The property for safe filters**: `Backend::search` either fails with an explicit error or
returns exactly the stored entries satisfying the filter — for every database, every index
layout whose tables mirror the entries, every slope annotation and every limit. -/
theorem search_exact_partial (S : ValSem) (hS : SubSem S) (w : World) (idx : Idx) (rep : Rep)
    (hI : IdxSound w idx) (lim : Limits) (f : F) (hf : f.safe = true) :
    search S lim w idx rep f = resLimit ∨ search S lim w idx rep f = .ok (answer S w f) :=
  searchT_exact S hS w idx rep hI thresSearch lim f hf

/-- `Backend::exists` either fails with an explicit error or answers whether some stored entry
satisfies the filter. -/
theorem exists_exact_partial (S : ValSem) (hS : SubSem S) (w : World) (idx : Idx) (rep : Rep)
    (hI : IdxSound w idx) (lim : Limits) (f : F) (hf : f.safe = true) :
    «exists» S lim w idx rep f = resLimit ∨
      «exists» S lim w idx rep f = .ok (!(answer S w f).isEmpty) :=
  existsT_exact S hS w idx rep hI thresExists lim f hf

/-! ## 3. the answer does not depend on the layout, the statistics, the rewriting -/

/-- Two index layouts (any tables, as long as the existing ones mirror the entries), two resolved
forms of a filter that mean the same on every entry (different slopes, different term order,
different nesting — what `resolve_idx`/`optimise` and a stale resolve cache may produce, see C02),
two thresholds: whenever both searches succeed they return the same list. -/
theorem search_layout_independent (S : ValSem) (hS : SubSem S) (w : World)
    (idx₁ idx₂ : Idx) (rep₁ rep₂ : Rep) (h₁ : IdxSound w idx₁) (h₂ : IdxSound w idx₂)
    (t₁ t₂ : Nat) (lim : Limits) (f₁ f₂ : F) (hf₁ : f₁.safe = true) (hf₂ : f₂.safe = true)
    (hsame : ∀ e, f₁.matches S e = f₂.matches S e) (r₁ r₂ : List Nat)
    (hr₁ : searchT t₁ S lim w idx₁ rep₁ f₁ = .ok r₁) (hr₂ : searchT t₂ S lim w idx₂ rep₂ f₂ = .ok r₂) :
    r₁ = r₂ := by
  rw [searchT_ok hS h₁ hf₁ hr₁, searchT_ok hS h₂ hf₂ hr₂]
  exact List.filter_congr fun id _ => hsame (w.ent id)

theorem answer_resolved (S : ValSem) (w : World) (c : AttrConsts) (self : Val)
    (m : Nat → IType → Option Nat) (sa sd : List F → List F) (hp : IsPerm sa) (hq : IsPerm sd)
    {fc : FC} {g : F} (hg : fc.resolveIdx c self m = some g) :
    answer S w (g.optimise sa sd) = w.live.filter fun id => fc.matches S self c.uuidA (w.ent id) :=
  List.filter_congr fun id _ => (optimise_preserves S (w.ent id) sa sd hp hq g).trans
    (resolveIdx_preserves S (w.ent id) c self m fc g hg)

/-- The full path of a dynamic group (C18) and the search executed for a protocol filter (C41) are instances. -/
theorem search_resolved_exact (S : ValSem) (hS : SubSem S) (w : World) (idx : Idx) (rep : Rep)
    (hI : IdxSound w idx) (lim : Limits) (c : AttrConsts) (self : Val) (m : Nat → IType → Option Nat)
    (sa sd : List F → List F) (hp : IsPerm sa) (hq : IsPerm sd) {fc : FC} {g : F}
    (hg : fc.resolveIdx c self m = some g) (hsafe : (g.optimise sa sd).safe = true) :
    search S lim w idx rep (g.optimise sa sd) = resLimit ∨
    search S lim w idx rep (g.optimise sa sd) =
      .ok (w.live.filter fun id => fc.matches S self c.uuidA (w.ent id)) :=
  answer_resolved S w c self m sa sd hp hq hg ▸ search_exact_partial S hS w idx rep hI lim _ hsafe

/-- **Index metadata, index statistics and cached resolutions do not matter.** Resolve one
validated filter `fc` against two index metadata `m₁`, `m₂` (any keys, any slopes — e.g. the
current one and the one a cached resolution was computed under), optimise with any two pairs of
sort procedures that merely permute, search two layouts with two thresholds: whenever both
searches succeed they return the same list. -/
theorem search_resolution_independent (S : ValSem) (hS : SubSem S) (w : World)
    (idx₁ idx₂ : Idx) (rep₁ rep₂ : Rep) (h₁ : IdxSound w idx₁) (h₂ : IdxSound w idx₂)
    (c : AttrConsts) (self : Val) (m₁ m₂ : Nat → IType → Option Nat)
    (sa₁ sd₁ sa₂ sd₂ : List F → List F)
    (hp₁ : IsPerm sa₁) (hq₁ : IsPerm sd₁) (hp₂ : IsPerm sa₂) (hq₂ : IsPerm sd₂)
    (fc : FC) (g₁ g₂ : F) (hg₁ : fc.resolveIdx c self m₁ = some g₁)
    (hg₂ : fc.resolveIdx c self m₂ = some g₂)
    (hf₁ : (g₁.optimise sa₁ sd₁).safe = true) (hf₂ : (g₂.optimise sa₂ sd₂).safe = true)
    (t₁ t₂ : Nat) (lim : Limits) (r₁ r₂ : List Nat)
    (hr₁ : searchT t₁ S lim w idx₁ rep₁ (g₁.optimise sa₁ sd₁) = .ok r₁)
    (hr₂ : searchT t₂ S lim w idx₂ rep₂ (g₂.optimise sa₂ sd₂) = .ok r₂) :
    r₁ = r₂ := by
  rw [searchT_ok hS h₁ hf₁ hr₁, searchT_ok hS h₂ hf₂ hr₂,
    answer_resolved S w c self m₁ sa₁ sd₁ hp₁ hq₁ hg₁, answer_resolved S w c self m₂ sa₂ sd₂ hp₂ hq₂ hg₂]

/-! ## 4. non-vacuity of the hypotheses `IdxSound` and `SubSem` -/

theorem idxOf_sound (w : World) (cfg : Nat → IType → Bool) : IdxSound w (idxOf w cfg) :=
  .of_exact cfg (idxOf_isSome w cfg) (mem_idxOf w cfg)

/-- The executed per-value comparisons are compatible with the trigraph index: every index key of a
needle is an index key of every value that contains / starts with / ends with it. -/
theorem sub_trigraph_superset : SubSem ValSem.std := by
  intro x n key h hk w hw
  match x, n with
  | .str xs, .str ns =>
    cases hk
    have hin : ns <:+: xs := by
      rcases h with h | h | h
      · exact (isInfix_iff ns xs).mp h
      · exact (List.isPrefixOf_iff_prefix.mp h).isInfix
      · exact (List.isSuffixOf_iff_suffix.mp h).isInfix
    exact mem_trigraphs_infix (hin.map lowerNat) hw
  | .str _, .num _ | .num _, .str _ | .num _, .num _ => rcases h with h | h | h <;> cases h

/-! ## 5. the full statement is false of the code (defects D1 and D23), with the witnesses -/

/-- decidable equality of results (core has no instance), for the concrete examples below -/
instance decEqExcept {ε α : Type} [DecidableEq ε] [DecidableEq α] : DecidableEq (Except ε α)
  | .ok a, .ok b =>
    if h : a = b then isTrue (by rw [h]) else isFalse (fun h' => by injection h' with h'; exact h h')
  | .error a, .error b =>
    if h : a = b then isTrue (by rw [h]) else isFalse (fun h' => by injection h' with h'; exact h h')
  | .ok _, .error _ => isFalse (fun h => by cases h)
  | .error _, .ok _ => isFalse (fun h => by cases h)

/-- The property at full strength: every plain filter (nested And / Or / Not over equality,
substring, presence, ordering terms) — no guardedness condition. -/
def search_exact_full : Prop :=
  ∀ (S : ValSem), SubSem S → ∀ (w : World) (idx : Idx) (rep : Rep), IdxSound w idx →
    ∀ (lim : Limits) (f : F), f.plain = true →
      search S lim w idx rep f = resLimit ∨ search S lim w idx rep f = .ok (answer S w f)

/-- every stored id set sparse -/
def noRep : Rep := fun _ _ _ => false

/-- the D1 witness database: three entries, attribute 0 holds `ga`, `gb`, `gc` -/
def d1World : World where
  live := [1, 2, 3]
  ent := fun id => Entry.ofList [(0, [Val.str [id]])]

/-- `Or[Eq a ga, AndNot(Eq a gb)]`, `a` indexed -/
def d1Filter : F :=
  .or [.eq 0 (.str [1]) (some 1), .andnot (.eq 0 (.str [2]) (some 1)) none] none

def d1Lim : Limits := ⟨true, 1000, 1000⟩

/-- with attribute 0 equality-indexed the search returns `[1]` … -/
theorem d1_indexed :
    search ValSem.std d1Lim d1World (idxOf d1World (fun _ _ => true)) noRep d1Filter = .ok [1] := by
  decide +kernel

/-- … and with nothing indexed (the same filter resolved without slopes) `[1, 3]` -/
theorem d1_unindexed :
    search ValSem.std d1Lim d1World (idxOf d1World (fun _ _ => false)) noRep
      (.or [.eq 0 (.str [1]) none, .andnot (.eq 0 (.str [2]) none) none] none) = .ok [1, 3] := by
  decide +kernel

theorem d1_answer : answer ValSem.std d1World d1Filter = [1, 3] := by decide +kernel

/-- what both refutations share -/
theorem search_exact_full_false_of (f : F) (hp : f.plain = true) (r : List Nat)
    (hs : search ValSem.std d1Lim d1World (idxOf d1World (fun _ _ => true)) noRep f = .ok r)
    (hne : answer ValSem.std d1World f ≠ r) : ¬ search_exact_full := by
  intro h
  have := h ValSem.std sub_trigraph_superset d1World _ noRep (idxOf_sound _ (fun _ _ => true)) d1Lim f hp
  rw [hs] at this
  rcases this with h | h
  · cases h
  · injection h with h; exact hne h.symm

/-- **D1**: the unguarded NOT of `d1Filter` makes the full statement false. -/
theorem search_exact_full_false : ¬ search_exact_full :=
  search_exact_full_false_of d1Filter (by decide +kernel) [1] d1_indexed (by rw [d1_answer]; decide)

/-! ### the second witness: an indexed substring term with an empty needle (finding C01-F2, D23) -/

/-- `name co ""`, resolved as substring-indexed: no NOT at all, yet not exact -/
def f2Filter : F := .cnt 0 (.str []) (some 1)

/-- with the substring table present `filter2idl_sub` answers `Indexed(∅)` … -/
theorem f2_indexed :
    search ValSem.std d1Lim d1World (idxOf d1World (fun _ _ => true)) noRep f2Filter = .ok [] := by
  decide +kernel

/-- … while every stored value contains the empty string -/
theorem f2_answer : answer ValSem.std d1World f2Filter = [1, 2, 3] := by decide +kernel

/-- … which is what the same search returns without the table -/
theorem f2_unindexed :
    search ValSem.std d1Lim d1World (idxOf d1World (fun _ _ => false)) noRep (.cnt 0 (.str []) none)
      = .ok [1, 2, 3] := by
  decide +kernel

/-- **C01-F2**: the same statement from `f2Filter`, which has no NOT: the empty needle alone is enough. -/
theorem search_exact_full_false_empty_needle : ¬ search_exact_full :=
  search_exact_full_false_of f2Filter (by decide +kernel) [] f2_indexed (by rw [f2_answer]; decide)

/-! ## 6. non-vacuity -/

/-- every stored id set compressed -/
def allRep : Rep := fun _ _ _ => true

/-- three entries over attributes 0 (string, multi-valued) and 1 (number) -/
def exWorld : World where
  live := [1, 2, 3]
  ent := fun id =>
    if id = 1 then Entry.ofList [(0, [.str [97, 98, 99], .str [120]]), (1, [.num 5])]
    else if id = 2 then Entry.ofList [(0, [.str [97, 98]]), (1, [.num 9])]
    else Entry.ofList [(0, [.str [120]])]

/-- attribute 0 equality- and substring-indexed, attribute 1 not indexed at all -/
def exCfg : Nat → IType → Bool := fun a t => a == 0 && (t == .equality || t == .substring)

/-- `And[Or[cnt 0 "ab" (indexed), eq 0 "x" (indexed)], lt 1 7 (unindexed), AndNot(eq 0 "ab")]` -/
def exFilter : F :=
  .and [.or [.cnt 0 (.str [97, 98]) (some 2), .eq 0 (.str [120]) (some 1)] none,
        .lessThan 1 (.num 7) none,
        .andnot (.eq 0 (.str [97, 98]) (some 1)) none] none

example : exFilter.safe = true := by decide +kernel
example : IdxSound exWorld (idxOf exWorld exCfg) := idxOf_sound _ _
/-- a non-empty strict subset, reached through a `Partial` candidate set and the re-test -/
example : search ValSem.std ⟨false, 10, 10⟩ exWorld (idxOf exWorld exCfg) noRep exFilter = .ok [1] := by
  decide +kernel
example : (exFilter.idl (idxOf exWorld exCfg) noRep 0).kind = .part := by decide +kernel
example : «exists» ValSem.std ⟨false, 10, 10⟩ exWorld (idxOf exWorld exCfg) noRep exFilter = .ok true := by
  decide +kernel
/-- the limit error is reachable: nothing indexed and `unindexed_allow = false` -/
example : search ValSem.std ⟨false, 10, 10⟩ exWorld (idxOf exWorld (fun _ _ => false)) noRep
    (.eq 0 (.str [120]) none) = .error .resourceLimit := by decide +kernel
/-- the threshold early return is reachable -/
example : (exFilter.idl (idxOf exWorld exCfg) noRep 5).kind = .thres := by decide +kernel

/-- the representation matters to `below_threshold` only: an empty *compressed* candidate set takes
the threshold return even at threshold 0, an empty sparse one does not (both are sound) -/
example :
    (((F.and [.pres 0 (some 1), .lessThan 1 (.num 7) (some 1), .andnot (.pres 0 (some 1)) none,
        .andnot (.pres 1 (some 1)) none] none).idl (idxOf exWorld (fun _ _ => true)) allRep 0).kind,
     ((F.and [.pres 0 (some 1), .lessThan 1 (.num 7) (some 1), .andnot (.pres 0 (some 1)) none,
        .andnot (.pres 1 (some 1)) none] none).idl (idxOf exWorld (fun _ _ => true)) noRep 0).kind)
      = (.thres, .part) := by
  decide +kernel

/-- the same filter before resolution; resolved against "everything indexed with slope 1" and
against "nothing indexed" it is rewritten differently, yet both searches return the same list -/
def exFC : FC :=
  .and [.or [.cnt 0 (.str [97, 98]), .eq 0 (.str [120])], .lessThan 1 (.num 7),
        .andnot (.eq 0 (.str [97, 98]))]

example :
    ((exFC.resolveIdx ⟨8, 9⟩ (.num 0) (fun _ _ => some 1)).map (fun g =>
        searchT 0 ValSem.std ⟨true, 10, 10⟩ exWorld (idxOf exWorld (fun _ _ => true)) noRep
          (g.optimise sortAsc sortDesc)),
     (exFC.resolveIdx ⟨8, 9⟩ (.num 0) (fun _ _ => none)).map (fun g =>
        searchT 3 ValSem.std ⟨true, 10, 10⟩ exWorld (idxOf exWorld (fun _ _ => false)) allRep
          (g.optimise sortAsc sortDesc)))
      = (some (.ok [1]), some (.ok [1])) := by
  decide +kernel

end Kanidm.Filter
