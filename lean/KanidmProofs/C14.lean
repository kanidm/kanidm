import KanidmProofs.Lemmas.Codec
/-!
# C14 — Replication wire framing survives any fragmentation

`decodeStep`/`decode` are the transcription of `decode_length_checked_json`, `encode`/`frameOf` of
`encode_length_checked_json` (server/core/src/repl/codec.rs); the header size, the length
type/endianness, every comparison, the order of the checks with the kind of their early
return, and the trim/advance amounts come from the generated module, i.e. from the source
as it is.  `feed`/`feedAll` model the `Framed` read loop (append what was read, decode
until `Ok(None)`, a decode error ends the stream).

The payload codec (serde_json) is abstract: `print : M → Bytes`, `parse : Bytes → Option M`
with `parse (print m) = some m`.  `ValidPayload max p` = `0 < |p| ≤ max` and `|p| < 2^64`.
A *chunking* of a byte stream `s` is any `chunks : List Bytes` with `chunks.flatten = s`
(any number of reads, empty reads included).
-/
namespace Kanidm.Codec
open Kanidm.Gen.Codec

variable {M : Type}

/-- The length header written by the encoder is `hdrSplit` (= 8) bytes and
is read back by the decoder as the same number, for every `u64`. -/
theorem be64_roundtrip (n : Nat) (h : n < 2 ^ 64) :
    (encodeLen encEndian encLenBytes n).length = hdrSplit ∧
    decodeLen decEndian (encodeLen encEndian encLenBytes n) = n :=
  ⟨by rw [hdr_length]; rfl, hdr_roundtrip n h⟩

/-- No input makes the decoder panic (`split_at`, `copy_from_slice`, `assert_eq!`, `advance`
are always within bounds). -/
theorem decode_never_panics (parse : Bytes → Option M) (max : Nat) (src : Bytes) :
    decodeStep max src ≠ .panic ∧ (decode parse max src).1 ≠ .err .panic := by
  refine ⟨decodeStep_ne_panic max src, ?_⟩
  fun_cases decode parse max src with
  | case2 e hs => intro h; cases h; exact decodeStep_ne_err_panic max src hs  -- `.err e`
  | case3 hs => exact absurd hs (decodeStep_ne_panic max src)  -- `.panic`
  | _ => nofun  -- `.needMore`, a frame (parsed or not): another outcome by construction

/-- Once the 8 header bytes are there and say length 0, `decode` fails with
`InvalidInput` — whatever else is or is not buffered — and consumes nothing. -/
theorem zero_rejected (parse : Bytes → Option M) (max : Nat) (src : Bytes)
    (h8 : hdrSplit ≤ src.length) (hz : decodeLen decEndian (src.take hdrSplit) = 0) :
    decode parse max src = (.err .invalidInput, src) := by
  rw [decode, decodeStep_bad_header h8 (.inl hz), if_pos hz]

/-- Once the 8 header bytes are there and announce more than `max`
bytes, `decode` fails with `OutOfMemory` *for every amount of payload already buffered,
including none* (`src.length = 8`): the frame is refused before any of it is buffered. -/
theorem oversize_rejected_early (parse : Bytes → Option M) (max : Nat) (src : Bytes)
    (h8 : hdrSplit ≤ src.length) (hbig : max < decodeLen decEndian (src.take hdrSplit)) :
    decode parse max src = (.err .outOfMemory, src) := by
  rw [decode, decodeStep_bad_header h8 (.inr hbig), if_neg (Nat.ne_of_gt (Nat.zero_lt_of_lt hbig))]

/-- A successful `decode` removes exactly one frame — 8 header bytes whose
value is the payload length, then exactly that many payload bytes (non-empty, within the
limit), which are what was parsed — and leaves every later byte in place.  `Ok(None)` and the
two framing errors leave the buffer untouched. -/
theorem consumes_exactly (parse : Bytes → Option M) (max : Nat) (src : Bytes) :
    (∀ m rest, decode parse max src = (.msg m, rest) →
      ∃ hdr payload, src = hdr ++ payload ++ rest ∧ hdr.length = hdrSplit ∧
        decodeLen decEndian hdr = payload.length ∧ parse payload = some m ∧
        0 < payload.length ∧ payload.length ≤ max) ∧
    (∀ b, decode parse max src = (.needMore, b) → b = src) ∧
    (∀ e b, decode parse max src = (.err e, b) → e ≠ .badPayload → b = src) := by
  fun_cases decode parse max src with
  | case1 => exact ⟨nofun, fun _ h => (Prod.mk.inj h).2.symm, nofun⟩  -- `.needMore`
  | case2 => exact ⟨nofun, nofun, fun _ _ h _ => (Prod.mk.inj h).2.symm⟩  -- `.err e`
  | case3 => exact ⟨nofun, nofun, fun _ _ h _ => (Prod.mk.inj h).2.symm⟩  -- `.panic`
  | case4 p r hs m' hp =>  -- frame `p`, parsed as `m'`
    cases Framing.of_eq hs with
    | frame _ h8 hn h0 hm =>
      refine ⟨fun m rest h => ?_, nofun, nofun⟩
      cases h
      exact ⟨_, p, (List.append_assoc ..).symm, h8, hn, hp, h0, hm⟩
  | case5 => exact ⟨nofun, nofun, fun _ _ h hne => absurd (by cases h; rfl) hne⟩  -- frame, not parsed

/-- For EVERY byte stream (well-formed or not) and EVERY way of
splitting it into reads, the connection yields the same messages in the same order and ends
with the same error (or none) as if the whole stream had arrived in one read; without an
error the bytes left pending are the same too. -/
theorem chunking_invariance (parse : Bytes → Option M) (max : Nat) (chunks : List Bytes) :
    (feedAll parse max {} chunks).2 = (feed parse max {} chunks.flatten).2 ∧
    (feedAll parse max {} chunks).1.fault = (feed parse max {} chunks.flatten).1.fault ∧
    ((feed parse max {} chunks.flatten).1.fault = none →
      (feedAll parse max {} chunks).1.buf = (feed parse max {} chunks.flatten).1.buf) := by
  cases chunks with
  | nil => simp [feedAll, feed, drain_needMore parse max (src := []) (decodeStep_short (by decide))]
  | cons x xs => exact feedAll_cons_fuse parse max xs {} x rfl

/-- The three `*_any_split*` theorems are this for a `t` that waits, is empty, or starts with a bad
header. -/
theorem feedAll_stream (parse : Bytes → Option M) (print : M → Bytes)
    (hpp : ∀ m, parse (print m) = some m) (max : Nat) (msgs : List M)
    (hv : ∀ m ∈ msgs, ValidPayload max (print m)) (t : Bytes)
    (chunks : List Bytes) (hc : chunks.flatten = encodeAll print msgs ++ t) :
    (feedAll parse max {} chunks).2 = msgs ++ (drain parse max t).msgs ∧
    (feedAll parse max {} chunks).1.fault = (drain parse max t).fault ∧
    ((drain parse max t).fault = none →
      (feedAll parse max {} chunks).1.buf = (drain parse max t).buf) := by
  simpa only [hc, feed_live parse max {} _ rfl, List.nil_append,
    drain_encodeAll parse max print hpp msgs hv t] using chunking_invariance parse max chunks

theorem feedAll_frames_then (parse : Bytes → Option M) (print : M → Bytes)
    (hpp : ∀ m, parse (print m) = some m) (max : Nat) (msgs : List M)
    (hv : ∀ m ∈ msgs, ValidPayload max (print m)) (t : Bytes) (ht : decodeStep max t = .needMore)
    (chunks : List Bytes) (hc : chunks.flatten = encodeAll print msgs ++ t) :
    feedAll parse max {} chunks = (⟨t, none⟩, msgs) := by
  obtain ⟨h1, h2, h3⟩ := feedAll_stream parse print hpp max msgs hv t chunks hc
  rw [drain_needMore parse max ht] at h1 h2 h3
  generalize feedAll parse max {} chunks = r at h1 h2 h3 ⊢
  obtain ⟨⟨b, f⟩, ms⟩ := r
  simp only [List.append_nil, forall_const] at h1 h2 h3
  subst h1 h2 h3
  rfl

/-- The main property: any sequence of messages whose payloads are non-empty
and within the limit, written back to back by the encoder, is decoded as exactly the same
sequence in the same order under every chunking of the byte stream; the connection ends
live with an empty buffer. -/
theorem frames_any_split (parse : Bytes → Option M) (print : M → Bytes)
    (hpp : ∀ m, parse (print m) = some m) (max : Nat) (msgs : List M)
    (hv : ∀ m ∈ msgs, ValidPayload max (print m))
    (chunks : List Bytes) (hc : chunks.flatten = encodeAll print msgs) :
    feedAll parse max {} chunks = (({} : Conn), msgs) :=
  feedAll_frames_then parse print hpp max msgs hv [] (decodeStep_short (by decide)) chunks
    (by rw [hc, List.append_nil])

/-- The buffer invariant behind it: if what has arrived so far is
some whole frames followed by a proper prefix `t` of a further legitimate frame, then under
every chunking exactly the whole frames have been delivered, in order, no error has been
raised, and exactly `t` is pending. -/
theorem frames_any_split_pending (parse : Bytes → Option M) (print : M → Bytes)
    (hpp : ∀ m, parse (print m) = some m) (max : Nat) (msgs : List M)
    (hv : ∀ m ∈ msgs, ValidPayload max (print m))
    (next : M) (hn : ValidPayload max (print next)) (t u : Bytes) (hu : u ≠ [])
    (htu : t ++ u = frameOf (print next))
    (chunks : List Bytes) (hc : chunks.flatten = encodeAll print msgs ++ t) :
    feedAll parse max {} chunks = (⟨t, none⟩, msgs) :=
  feedAll_frames_then parse print hpp max msgs hv t (decodeStep_strict_prefix hn hu htu) chunks hc

/-- A frame announcing length 0 or more than `max`, arriving
after any legitimate frames, ends the connection with the corresponding error under every
chunking, as soon as its 8 header bytes are there (`tail` may be just the header); the frames
before it are delivered, nothing of it or after it is. -/
theorem bad_frame_rejected_any_split (parse : Bytes → Option M) (print : M → Bytes)
    (hpp : ∀ m, parse (print m) = some m) (max : Nat) (msgs : List M)
    (hv : ∀ m ∈ msgs, ValidPayload max (print m))
    (tail : Bytes) (h8 : hdrSplit ≤ tail.length)
    (hbad : decodeLen decEndian (tail.take hdrSplit) = 0 ∨
      max < decodeLen decEndian (tail.take hdrSplit))
    (chunks : List Bytes) (hc : chunks.flatten = encodeAll print msgs ++ tail) :
    (feedAll parse max {} chunks).2 = msgs ∧
    (feedAll parse max {} chunks).1.fault =
      some (if decodeLen decEndian (tail.take hdrSplit) = 0 then .invalidInput else .outOfMemory) := by
  obtain ⟨h1, h2, -⟩ := feedAll_stream parse print hpp max msgs hv tail chunks hc
  rw [drain_err parse max (decodeStep_bad_header h8 hbad)] at h1 h2
  exact ⟨by rw [h1, List.append_nil], h2⟩

/-! ### Non-vacuity: a concrete codec and stream meeting the hypotheses -/

/-- Toy payload codec: `true ↦ "{}"`, `false ↦ "1"`. -/
def exPrint : Bool → Bytes := fun b => if b then [0x7b, 0x7d] else [0x31]
def exParse : Bytes → Option Bool := fun p =>
  if p = [0x7b, 0x7d] then some true else if p = [0x31] then some false else none

example : ∀ m, exParse (exPrint m) = some m := by decide
example : ∀ m ∈ [true, false, true], ValidPayload 2 (exPrint m) := by
  unfold ValidPayload; decide
-- the encoder's bytes, and three reads cutting through a header and through a payload
example : encodeAll exPrint [true, false] =
    [0,0,0,0,0,0,0,2,0x7b,0x7d, 0,0,0,0,0,0,0,1,0x31] := by decide
example : feedAll exParse 2 {} [[0,0,0], [0,0,0,0,2,0x7b], [0x7d,0,0,0,0,0,0,0,1,0x31]] =
    (({} : Conn), [true, false]) := by decide
-- pending prefix, zero header, oversize header with nothing buffered after it (the 3 it announces is a `u64`,
-- `be64_roundtrip`'s hypothesis)
example : feedAll exParse 2 {} [[0,0,0,0,0,0,0,2,0x7b,0x7d,0,0], [0,0,0,0]] =
    (⟨[0,0,0,0,0,0], none⟩, [true]) := by decide
example : decode exParse 2 [0,0,0,0,0,0,0,0] = (.err .invalidInput, [0,0,0,0,0,0,0,0]) := by
  exact zero_rejected exParse 2 _ (by decide) (by decide)
example : (feedAll exParse 2 {} [[0,0,0,0], [0,0,0,3]]).1.fault = some .outOfMemory := by decide
example : (3 : Nat) < 2 ^ 64 := by decide

end Kanidm.Codec
