import KanidmProofs.Lemmas.OAuth2Token
/-!
# C39 — OAuth2 tokens are redeemable only as issued

The model (`KanidmModel/OAuth2/Token.lean`) transcribes the token endpoint, introspection, userinfo and
revocation of `idm/oauth2.rs` and `check_oauth2_account_uuid_valid` of `idm/server.rs` over C36's
model of an account entry; every comparison, error kind, constant and the order of the checks is
regenerated from the source (`Gen.OAuth2Token`), so an edit of the anchored code re-states these
theorems.  Right-hand sides are written from the property text (`Revoked`, `ExpiredAt`, `LiveAt`,
plain `<`, `⊆`).

Each grant has one walk through its checks, `…_refused_or_terms` (every failing check leaves the state
alone; otherwise the request is on the grant's terms — or, for refresh, a reuse), and one lemma per other
outcome saying what is answered and written (`…_of_terms`, `exchangeRefresh_of_reuse`).  A token's
consumers all demand that it is `Honoured`; the rejection theorems are `rejected_unless_honoured`.  The
histories go through `AcctStep` (what one event does to each account's entry).  What concerns one entry
or one write is in `Lemmas/OAuth2Token.lean`.
-/
namespace Kanidm.OAuth2.Token
open Kanidm.OAuth2 Kanidm.Gen.OAuth2Token Kanidm.SessionPlugin Kanidm.SessionMerge Kanidm.Gen.SessionOrd

/-- The order of the checks of the two grants, as the translator lists them from the source, and the
commit rule of the token endpoint's caller. A re-ordering in the source re-generates the lists and
breaks this theorem by name; that `exchangeCode` / `exchangeRefresh` test in this order is not stated in
Lean (they do not read the lists), the correspondence run ties them. `tokenEndpoint` does read the
commit rule. -/
theorem check_orders_pinned :
    codeCheckOrder = [.parse, .decrypt, .expiry, .pkce, .redirect, .account, .window, .parentSession] ∧
    refreshCheckOrder = [.parse, .decrypt, .kind, .expiry, .valid, .sessionPresent, .reuse, .scopes] ∧
    commitOnOk = true ∧ (∀ e, commitOnErr e = true ↔ e = .invalidGrant) :=
  ⟨rfl, rfl, rfl, fun _ => beq_iff_eq⟩

/-- The token endpoint's grant function refuses the request with `e`, the state becoming `w'`. -/
def RefusedWith {α : Type} (x : World × Except OErr α) (w' : World) (e : OErr) : Prop := x = (w', Except.error e)

def Refused {α : Type} (x : World × Except OErr α) (w' : World) : Prop := ∃ e, RefusedWith x w' e

def Fails {α : Type} (x : Except OErr α) : Prop := ∃ e, x = Except.error e

/-- One guard of a grant function. -/
theorem Refused.or_of_guard {α : Type} {c : Prop} [Decidable c] {w : World} {e : OErr}
    {rest : World × Except OErr α} {Q : Prop} (h : ¬c → Refused rest w ∨ Q) :
    Refused (if c then (w, .error e) else rest) w ∨ Q := by
  by_cases hc : c
  · rw [if_pos hc]; exact .inl ⟨e, rfl⟩
  · rw [if_neg hc]; exact h hc

/-- The statement's PKCE clause: a recorded challenge needs a verifier hashing to it; and (as
coded) without a recorded challenge the client must not require PKCE and no verifier may be sent. -/
def PkceOk (hash : Nat → Nat) (c : TClient) (cd : ExchangeCode) (v : Option Nat) : Prop :=
  (∃ ch x, cd.codeChallenge = some ch ∧ v = some x ∧ hash x = ch) ∨
  (cd.codeChallenge = none ∧ c.base.requirePkce = false ∧ v = none)

theorem pkce_matrix (hash : Nat → Nat) (c : TClient) (cd : ExchangeCode) (v : Option Nat) :
    pkceCheck hash c cd v = none ↔ PkceOk hash c cd v := by
  unfold pkceCheck PkceOk pkceVerifyFails pkceVerify pkceRequiredButAbsent pkceStrayVerifier
  cases hc : cd.codeChallenge with
  | some ch =>
    cases v with
    | none => simp
    | some x =>
      by_cases hx : ch = hash x
      · simp [hx]
      · simp [hx, Ne.symm hx]
  | none =>
    cases hr : c.base.requirePkce <;> cases v <;> simp

example : PkceOk id ⟨⟨1, .pub false, [], [], false, [], []⟩, 0, 60, [], []⟩ ⟨2, 3, 100, some 7, 5, [0], none, none⟩ (some 7) :=
  Or.inl ⟨7, 7, rfl, rfl, rfl⟩

/-- The login session that authorised the code is on record and revoked or expired. -/
def ParentDead (e : Entry) (sid ct : Nat) : Prop := ∃ s, uatOf e sid = some s ∧ (Revoked s ∨ ExpiredAt s ct)

theorem codeParentDeadOn_iff (e : Entry) (sid ct : Nat) : codeParentDeadOn e sid ct = true ↔ ParentDead e sid ct := by
  unfold codeParentDeadOn ParentDead
  show (match uatOf e sid with | some s => _ | none => _) = true ↔ _
  cases uatOf e sid with
  | none => simp [codeParentAbsent]
  | some s =>
    -- arm by arm the negation of `session_state_live`
    refine Iff.trans ?_ ((stateLive_false_iff s ct).trans
      ⟨fun h => ⟨s, rfl, h⟩, fun ⟨_, h, h'⟩ => Option.some.inj h ▸ h'⟩)
    dsimp only
    cases s.state <;>
      simp [stateLive, liveRevoked, liveExpires, liveNever, codeParentDeadRevoked, codeParentDeadExpires,
        codeParentDeadNever]

/-- The terms on which a code is redeemable, in the words of the statement: it is a code of this
very client (`H_jwe`: it decrypts under the client's key), not expired, the PKCE clause holds, the
redirect URI is the one in the code, the account exists and is inside its validity window, and the
authorising login session is neither revoked nor expired. -/
structure CodeTerms (hash : Nat → Nat) (w : World) (c : TClient) (t : Tok) (redirect : Nat)
    (verifier : Option Nat) (ct : Nat) (cd : ExchangeCode) (e : Entry) : Prop where
  isCode : t = .code c.base.uuid cd
  unexpired : asSecs ct < cd.expiry
  pkce : PkceOk hash c cd verifier
  sameRedirect : redirect = cd.redirectUri
  account : w.acct cd.accountUuid = some e
  window : withinWindow e ct = true
  parentLive : ¬ ParentDead e cd.sessionId ct

/-- The response `generate_access_token_response` builds. -/
def grantResp (c : TClient) (ct : Nat) (scopes : List Nat) (parent : Option Nat) (sid acct : Nat)
    (nonce : Option Nat) : Resp :=
  { sid := sid, acct := acct, parent := parent, scopes := scopes, iat := asSecs ct, aexp := accessExp ct,
    rexp := some (refreshExp (asSecs ct) c.refreshExpiry), idToken := scopes.contains scopeOpenid,
    access := .access c.base.uuid ⟨scopes, parent, sid, accessExp ct, acct, asSecs ct⟩,
    refresh := some (.refresh c.base.uuid
      ⟨scopes, parent, sid, refreshExp (asSecs ct) c.refreshExpiry, acct, asSecs ct, nonce⟩) }

theorem generate_of_write {w w' : World} {c : TClient} {ct : Nat} {scopes : List Nat} {parent : Option Nat}
    {sid acct : Nat} {nonce : Option Nat}
    (h : w.write acct (.grant sid parent (some (sessionExpiry ct c.refreshExpiry)) ct) ct = some w') :
    generate w c ct scopes parent sid acct nonce = (w', .ok (grantResp c ct scopes parent sid acct nonce)) := by
  unfold generate; rw [h]; rfl

theorem exchangeCode_refused_or_terms (hash : Nat → Nat) (w : World) (c : TClient) (t : Tok) (u : Nat)
    (v : Option Nat) (ct : Nat) :
    Refused (exchangeCode hash w c t u v ct) w ∨ ∃ cd e, CodeTerms hash w c t u v ct cd e := by
  fun_cases exchangeCode hash w c t u v ct
  -- the two arms behind the last check (`generate` answers or fails): every check has passed
  case case12 | case13 =>
    rename_i key cd hk hx hp hr e ha hwn hd _ _ _
    exact .inr ⟨cd, e, by rw [Decidable.of_not_not hk], by simpa [codeExpired] using hx,
      (pkce_matrix hash c cd v).mp hp, by simpa [redirectDiffers] using hr, ha,
      by simpa [codeOutsideWindow] using hwn, by rwa [← codeParentDeadOn_iff]⟩
  all_goals exact .inl ⟨_, rfl⟩

theorem exchangeCode_of_terms {hash : Nat → Nat} {w : World} {c : TClient} {t : Tok} {u : Nat}
    {v : Option Nat} {ct : Nat} {cd : ExchangeCode} {e : Entry} (ht : CodeTerms hash w c t u v ct cd e) :
    ∃ w1, w.write cd.accountUuid
        (.grant w.nextSid (some cd.sessionId) (some (sessionExpiry ct c.refreshExpiry)) ct) ct = some w1 ∧
      exchangeCode hash w c t u v ct = ({ w1 with nextSid := w1.nextSid + 1 },
        .ok (grantResp c ct cd.scopes (some cd.sessionId) w.nextSid cd.accountUuid cd.nonce)) := by
  obtain ⟨w1, hw⟩ := update_isSome (w := w) id
    (.grant w.nextSid (some cd.sessionId) (some (sessionExpiry ct c.refreshExpiry)) ct) ct ht.account
  refine ⟨w1, hw, ?_⟩
  have hp := (pkce_matrix hash c cd v).mpr ht.pkce
  have hd : codeParentDeadOn e cd.sessionId ct = false := by
    rw [← Bool.not_eq_true, codeParentDeadOn_iff]; exact ht.parentLive
  simp [exchangeCode, ht.isCode, codeExpired, ht.unexpired, hp, redirectDiffers, ht.sameRedirect, ht.account,
    codeOutsideWindow, ht.window, hd, generate_of_write hw]

/-- **First sentence of the property, both directions.** The code grant yields tokens exactly on
the terms `CodeTerms`. -/
theorem exchange_code_ok_iff (hash : Nat → Nat) (w : World) (c : TClient) (t : Tok) (redirect : Nat)
    (verifier : Option Nat) (ct : Nat) :
    (∃ w' r, exchangeCode hash w c t redirect verifier ct = (w', .ok r)) ↔
      ∃ cd e, CodeTerms hash w c t redirect verifier ct cd e := by
  constructor
  · rintro ⟨w', r, h⟩
    rcases exchangeCode_refused_or_terms hash w c t redirect verifier ct with ⟨err, he⟩ | ht
    · rw [he] at h; cases h
    · exact ht
  · rintro ⟨cd, e, ht⟩
    obtain ⟨w1, _, h⟩ := exchangeCode_of_terms ht
    exact ⟨_, _, h⟩

/-- What a successful code exchange hands out: exactly the code's scopes, bound to the code's
account and to the login session that authorised it, under the redeeming client's key, in a fresh
OAuth2 session. -/
theorem exchange_code_grant {hash : Nat → Nat} {w w' : World} {c : TClient} {t : Tok} {redirect : Nat}
    {verifier : Option Nat} {ct : Nat} {r : Resp}
    (h : exchangeCode hash w c t redirect verifier ct = (w', .ok r)) :
    ∃ cd, t = .code c.base.uuid cd ∧ r.scopes = cd.scopes ∧ r.acct = cd.accountUuid ∧
      r.parent = some cd.sessionId ∧ r.sid = w.nextSid ∧
      r.access = .access c.base.uuid ⟨cd.scopes, some cd.sessionId, w.nextSid, accessExp ct, cd.accountUuid, asSecs ct⟩ ∧
      r.refresh = some (.refresh c.base.uuid ⟨cd.scopes, some cd.sessionId, w.nextSid,
        refreshExp (asSecs ct) c.refreshExpiry, cd.accountUuid, asSecs ct, cd.nonce⟩) := by
  obtain ⟨cd, e, ht⟩ := (exchange_code_ok_iff hash w c t redirect verifier ct).mp ⟨w', r, h⟩
  obtain ⟨w1, _, h1⟩ := exchangeCode_of_terms ht
  rw [h1] at h
  cases h
  exact ⟨cd, ht.isCode, rfl, rfl, rfl, rfl, rfl, rfl⟩

/-- The terms on which a refresh token is redeemable: it is a refresh token of this very client,
not expired, its account passes `check_oauth2_account_uuid_valid`, its OAuth2 session is on record
and was not re-issued in a later second than the token (= the token was not rotated, as the code
measures it), and requested scopes, if any, are among the token's. -/
structure RefreshTerms (w : World) (c : TClient) (t : Tok) (req : Option (List Nat)) (ct : Nat)
    (rt : RefreshTok) (e : Entry) (s : Sess) : Prop where
  isRefresh : t = .refresh c.base.uuid rt
  unexpired : asSecs ct < rt.exp
  account : w.acct rt.acct = some e
  valid : acctValid e rt.sid rt.parent rt.iat ct = true
  session : lookup e.o2s rt.sid = some s
  notRotated : ¬ rt.iat < asSecs s.issued
  narrow : ∀ rs, req = some rs → ∀ x ∈ rs, x ∈ rt.scopes

/-- Past the checks either the reuse check fires (first alternative: `exchangeRefresh_of_reuse`) or
`RefreshTerms` hold. -/
theorem exchangeRefresh_refused_or_terms (w : World) (c : TClient) (t : Tok) (req : Option (List Nat))
    (ct : Nat) :
    Refused (exchangeRefresh w c t req ct) w ∨
      ∃ rt e s,
        (t = .refresh c.base.uuid rt ∧ asSecs ct < rt.exp ∧ w.acct rt.acct = some e ∧
          acctValid e rt.sid rt.parent rt.iat ct = true ∧ lookup e.o2s rt.sid = some s ∧
          rt.iat < asSecs s.issued) ∨
        RefreshTerms w c t req ct rt e s := by
  cases t with
  | refresh key rt =>
    simp only [exchangeRefresh]
    refine Refused.or_of_guard fun hk => Refused.or_of_guard fun hx => ?_
    cases ha : w.acct rt.acct with
    | none => exact .inl ⟨_, rfl⟩
    | some e =>
    dsimp only
    refine Refused.or_of_guard fun hv => ?_
    cases hs : lookup e.o2s rt.sid with
    | none => exact .inl ⟨_, rfl⟩
    | some s =>
    dsimp only
    have hk : key = c.base.uuid := Decidable.of_not_not hk
    have hx : asSecs ct < rt.exp := by simpa [refreshExpired] using hx
    have hv : acctValid e rt.sid rt.parent rt.iat ct = true := by simpa using hv
    by_cases hr : rt.iat < asSecs s.issued
    case pos => exact .inr ⟨rt, e, s, .inl ⟨by rw [hk], hx, ha, hv, hs, hr⟩⟩
    rw [if_neg (by simpa [refreshReuse] using hr)]
    cases req with
    | none => exact .inr ⟨rt, e, s, .inr ⟨by rw [hk], hx, ha, hv, hs, hr, nofun⟩⟩
    | some rs =>
      dsimp only
      by_cases hsub : refreshScopesOk (rs.all (fun x => rt.scopes.contains x)) = true
      case neg => exact .inl ⟨_, if_neg hsub⟩
      refine .inr ⟨rt, e, s, .inr ⟨by rw [hk], hx, ha, hv, hs, hr, fun rs' h => ?_⟩⟩
      cases h
      simpa [refreshScopesOk] using hsub
  | _ => exact .inl ⟨_, rfl⟩

/-- The reuse check: the refusal carries the write that revokes the session. -/
theorem exchangeRefresh_of_reuse {w : World} {rt : RefreshTok} {ct : Nat} {e : Entry} {s : Sess} (c : TClient)
    (req : Option (List Nat)) (hexp : asSecs ct < rt.exp) (ha : w.acct rt.acct = some e)
    (hv : acctValid e rt.sid rt.parent rt.iat ct = true) (hs : lookup e.o2s rt.sid = some s)
    (hrot : rt.iat < asSecs s.issued) :
    ∃ w', w.write rt.acct (.revokeO2 rt.sid) ct = some w' ∧
      exchangeRefresh w c (.refresh c.base.uuid rt) req ct = (w', .error refreshReuseErr) := by
  obtain ⟨w', hw'⟩ := update_isSome (w := w) id (.revokeO2 rt.sid) ct ha
  refine ⟨w', hw', ?_⟩
  simp [exchangeRefresh, refreshExpired, Nat.not_le.mpr hexp, ha, hv, hs, refreshReuse, hrot, World.write, hw']

theorem exchangeRefresh_of_terms {w : World} {c : TClient} {t : Tok} {req : Option (List Nat)} {ct : Nat}
    {rt : RefreshTok} {e : Entry} {s : Sess} (ht : RefreshTerms w c t req ct rt e s) :
    ∃ w1, w.write rt.acct (.grant rt.sid rt.parent (some (sessionExpiry ct c.refreshExpiry)) ct) ct = some w1 ∧
      exchangeRefresh w c t req ct =
        (w1, .ok (grantResp c ct (req.getD rt.scopes) rt.parent rt.sid rt.acct rt.nonce)) := by
  obtain ⟨w1, hw⟩ := update_isSome (w := w) id
    (.grant rt.sid rt.parent (some (sessionExpiry ct c.refreshExpiry)) ct) ct ht.account
  refine ⟨w1, hw, ?_⟩
  cases req <;>
    simp [exchangeRefresh, ht.isRefresh, refreshExpired, Nat.not_le.mpr ht.unexpired, ht.account, ht.valid,
      ht.session, refreshReuse, ht.notRotated, generate_of_write hw, refreshScopesOk]
  exact ht.narrow _ rfl

theorem exchange_refresh_ok_iff (w : World) (c : TClient) (t : Tok) (req : Option (List Nat)) (ct : Nat) :
    (∃ w' r, exchangeRefresh w c t req ct = (w', .ok r)) ↔ ∃ rt e s, RefreshTerms w c t req ct rt e s := by
  constructor
  · rintro ⟨w', r, h⟩
    rcases exchangeRefresh_refused_or_terms w c t req ct with
      ⟨err, he⟩ | ⟨rt, e, s, ⟨rfl, hx, ha, hv, hs, hr⟩ | ht⟩
    · rw [he] at h; cases h
    · obtain ⟨w1, _, he⟩ := exchangeRefresh_of_reuse c req hx ha hv hs hr
      rw [he] at h; cases h
    · exact ⟨rt, e, s, ht⟩
  · rintro ⟨rt, e, s, ht⟩
    obtain ⟨w1, _, h⟩ := exchangeRefresh_of_terms ht
    exact ⟨_, _, h⟩

/-- **Second sentence, first half.** What a successful refresh hands out: scopes that are all among
the presented token's, the same OAuth2 session, account and parent, under the same client's key. -/
theorem exchange_refresh_grant {w w' : World} {c : TClient} {t : Tok} {req : Option (List Nat)} {ct : Nat}
    {r : Resp} (h : exchangeRefresh w c t req ct = (w', .ok r)) :
    ∃ rt, t = .refresh c.base.uuid rt ∧ (∀ x ∈ r.scopes, x ∈ rt.scopes) ∧
      (∀ rs, req = some rs → r.scopes = rs) ∧ (req = none → r.scopes = rt.scopes) ∧
      r.sid = rt.sid ∧ r.acct = rt.acct ∧ r.parent = rt.parent ∧
      r.access = .access c.base.uuid ⟨r.scopes, rt.parent, rt.sid, accessExp ct, rt.acct, asSecs ct⟩ ∧
      r.refresh = some (.refresh c.base.uuid
        ⟨r.scopes, rt.parent, rt.sid, refreshExp (asSecs ct) c.refreshExpiry, rt.acct, asSecs ct, rt.nonce⟩) := by
  obtain ⟨rt, e, s, ht⟩ := (exchange_refresh_ok_iff w c t req ct).mp ⟨w', r, h⟩
  obtain ⟨w1, _, h1⟩ := exchangeRefresh_of_terms ht
  rw [h1] at h
  cases h
  refine ⟨rt, ht.isRefresh, ?_, fun rs h => by rw [h]; rfl, fun h => by rw [h]; rfl, rfl, rfl, rfl, rfl, rfl⟩
  cases req with
  | none => exact fun x hx => hx
  | some rs => exact ht.narrow rs rfl

theorem exchangeCC_refused_or_granted (w : World) (c : TClient) (valid : Bool) (req : Option (List Nat))
    (ct : Nat) :
    Refused (exchangeCC w c valid req ct) w ∨
      ∃ w1 r a, valid = true ∧
        w.write c.base.uuid (.grant w.nextSid none (some (ccSessionExpiry ct)) ct) ct = some w1 ∧
        exchangeCC w c valid req ct = ({ w1 with nextSid := w1.nextSid + 1 }, .ok r) ∧
        r.access = .clientAccess c.base.uuid a := by
  fun_cases exchangeCC w c valid req ct
  -- authenticated, the requested scopes available, the write of the fresh session done
  case case4 hw =>
    have hv : valid = true := by simpa [ccAuthOk] using ‹¬(!ccAuthOk valid) = true›
    exact .inr ⟨_, _, _, hv, hw, rfl, rfl⟩
  all_goals exact .inl ⟨_, rfl⟩

/-! ## Revoked or expired means rejected — by exchange, introspection and userinfo -/

/-- What the refresh grant, introspection and userinfo all demand of the claims a token carries: its own
expiry (whole seconds) has not come, its account exists and passes `check_oauth2_account_uuid_valid`. -/
def Honoured (w : World) (acct sid : Nat) (parent : Option Nat) (iat exp ct : Nat) : Prop :=
  asSecs ct < exp ∧ ∃ e, w.acct acct = some e ∧ acctValid e sid parent iat ct = true

theorem not_honoured_of_expired {w : World} {acct sid : Nat} {parent : Option Nat} {iat exp ct : Nat}
    (h : exp ≤ asSecs ct) : ¬ Honoured w acct sid parent iat exp ct :=
  fun hh => Nat.not_lt.mpr h hh.1

theorem not_honoured_of_invalid {w : World} {acct sid : Nat} {parent : Option Nat} {iat exp ct : Nat} {e : Entry}
    (ha : w.acct acct = some e) (hv : acctValid e sid parent iat ct = false) :
    ¬ Honoured w acct sid parent iat exp ct := by
  rintro ⟨_, e', he', hv'⟩
  rw [ha] at he'; cases he'
  rw [hv] at hv'; cases hv'

/-- Userinfo answers only at the client whose key signed the access token. -/
theorem access_token_only_at_its_client (w : World) (id : List Char) (t : Tok) (ct : Nat) (x : Nat × Nat)
    (h : userinfo w id t ct = .ok x) :
    ∃ c a, w.client id = some c ∧ t = .access c.base.uuid a ∧ asSecs ct < a.exp ∧
      ∃ e, w.acct a.acct = some e ∧ acctValid e a.sid a.parent a.iat ct = true := by
  revert h
  fun_cases userinfo w id t ct <;> intro h <;> cases h
  rename_i c hc key a hk hx e ha hv
  exact ⟨c, a, hc, by rw [Decidable.of_not_not hk], by simpa [userinfoExpired] using hx, e, ha, hv⟩

/-- An active introspection answer: exactly an unexpired access token whose account passes the
validity test (and hence, by `dead_not_valid`, is not `Dead`). -/
theorem introspect_active_only_if (w : World) (t : Tok) (ct sid acct : Nat) (scopes : List Nat)
    (iat exp client : Nat) (h : introspect w t ct = .ok (.active sid acct scopes iat exp client)) :
    (∃ key a, t = .access key a ∧ asSecs ct < a.exp ∧ a.sid = sid ∧ a.acct = acct ∧ a.scopes = scopes ∧
      ∃ e, w.acct a.acct = some e ∧ acctValid e a.sid a.parent a.iat ct = true) ∨
    (∃ key a, t = .clientAccess key a ∧ asSecs ct < a.exp ∧ a.sid = sid ∧ a.acct = acct ∧ a.scopes = scopes ∧
      ∃ e, w.acct a.acct = some e ∧ acctValid e a.sid none a.iat ct = true) := by
  revert h
  -- every arm but the two that answer `active` gives another answer
  fun_cases introspect w t ct <;> intro h <;> cases h
  · rename_i hx e ha hv
    exact .inl ⟨_, _, rfl, by simpa [introspectJwtExpired] using hx, rfl, rfl, rfl, e, ha, hv⟩
  · rename_i hx e ha hv
    exact .inr ⟨_, _, rfl, by simpa [introspectJweExpired] using hx, rfl, rfl, rfl, e, ha, hv⟩

/-- `Honoured` of the claims a token carries; a code or garbage carries none. -/
def TokHonoured (w : World) (ct : Nat) : Tok → Prop
  | .refresh _ rt => Honoured w rt.acct rt.sid rt.parent rt.iat rt.exp ct
  | .access _ a => Honoured w a.acct a.sid a.parent a.iat a.exp ct
  | .clientAccess _ a => Honoured w a.acct a.sid none a.iat a.exp ct
  | _ => False

/-- The token is rejected wherever it is presented: by the refresh grant (state untouched), by
introspection (never reported active), by userinfo — whichever client presents it and whatever else the
request says. -/
structure Rejected (w : World) (ct : Nat) (t : Tok) : Prop where
  byRefresh : ∀ c req, Refused (exchangeRefresh w c t req ct) w
  byIntrospect : ∀ x, introspect w t ct = .ok x → x = .inactive
  byUserinfo : ∀ id, Fails (userinfo w id t ct)

theorem rejected_unless_honoured {w : World} {ct : Nat} {t : Tok} (h : ¬ TokHonoured w ct t) :
    Rejected w ct t := by
  refine ⟨fun c req => ?_, fun x hx => ?_, fun id => ?_⟩
  · rcases exchangeRefresh_refused_or_terms w c t req ct with
      hr | ⟨rt', e, s, ⟨rfl, hx, ha, hv, _⟩ | ht⟩
    · exact hr
    · exact (h ⟨hx, e, ha, hv⟩).elim
    · cases ht.isRefresh; exact (h ⟨ht.unexpired, e, ht.account, ht.valid⟩).elim
  · cases x with
    | inactive => rfl
    | active =>
      rcases introspect_active_only_if _ _ _ _ _ _ _ _ _ hx with
        ⟨_, _, rfl, hlt, _, _, _, hv⟩ | ⟨_, _, rfl, hlt, _, _, _, hv⟩ <;> exact (h ⟨hlt, hv⟩).elim
  · cases hr : userinfo w id t ct with
    | error err => exact ⟨err, rfl⟩
    | ok x =>
      obtain ⟨_, _, _, rfl, hlt, hv⟩ := access_token_only_at_its_client w id _ ct x hr
      exact (h ⟨hlt, hv⟩).elim

/-- What the third sentence of the property names: the account is outside its validity window, or
the token's OAuth2 session (on record) is revoked or expired, or its parent login session (on
record) is revoked or expired.  "On record": the OAuth2 session is written by the transaction that
issues the token; a token whose session is *not* on the entry is, as coded, honoured for the five
minute replication grace window whatever the parent's state (C36's `orphan_…` theorems). -/
def Dead (e : Entry) (sid : Nat) (parent : Option Nat) (ct : Nat) : Prop :=
  withinWindow e ct = false ∨
  ∃ o, lookup e.o2s sid = some o ∧
    ((Revoked o ∨ ExpiredAt o ct) ∨
     ∃ p u, parent = some p ∧ uatOf e p = some u ∧ (Revoked u ∨ ExpiredAt u ct))

theorem dead_not_valid {e : Entry} {sid : Nat} {parent : Option Nat} {ct : Nat} (iat : Nat)
    (h : Dead e sid parent ct) : acctValid e sid parent iat ct = false := by
  refine Bool.eq_false_iff.mpr fun hv => ?_
  obtain ⟨hw, hlive⟩ := o2Check_live (acctValid_eq_o2Check .. ▸ hv)
  have hnl : ∀ s, Revoked s ∨ ExpiredAt s ct → ¬ Kanidm.SessionPlugin.LiveAt ct s :=
    fun s hd hl => hd.elim ((liveAt_iff s ct).mpr hl).1 ((liveAt_iff s ct).mpr hl).2
  rcases h with h | ⟨o, ho, hd | ⟨p, u, hpp, hu, hd⟩⟩
  · rw [hw] at h; cases h
  · exact hnl o hd (hlive o ho).1
  · exact hnl u hd ((hlive o ho).2 p u hpp hu)

/-- Whatever fails `check_oauth2_account_uuid_valid` is rejected by the refresh grant (state
untouched), is never reported active by introspection, and is refused by userinfo — whichever client
presents it and whatever else the request says.  With `revoked_session_refused_forever`: the tokens
of a revoked session, for good. -/
theorem invalid_rejected_everywhere (w : World) (e : Entry) (ct : Nat) :
    (∀ c key (rt : RefreshTok) req, w.acct rt.acct = some e → acctValid e rt.sid rt.parent rt.iat ct = false →
        Refused (exchangeRefresh w c (.refresh key rt) req ct) w) ∧
    (∀ key (a : AccessTok), w.acct a.acct = some e → acctValid e a.sid a.parent a.iat ct = false →
        ∀ x, introspect w (.access key a) ct = .ok x → x = .inactive) ∧
    (∀ key (a : ClientAccessTok), w.acct a.acct = some e → acctValid e a.sid none a.iat ct = false →
        ∀ x, introspect w (.clientAccess key a) ct = .ok x → x = .inactive) ∧
    (∀ id key (a : AccessTok), w.acct a.acct = some e → acctValid e a.sid a.parent a.iat ct = false →
        Fails (userinfo w id (.access key a) ct)) := by
  exact ⟨fun c key rt req ha hv => (rejected_unless_honoured (t := .refresh key rt) (not_honoured_of_invalid ha hv)).byRefresh c req,
    fun key a ha hv => (rejected_unless_honoured (t := .access key a) (not_honoured_of_invalid ha hv)).byIntrospect,
    fun key a ha hv => (rejected_unless_honoured (t := .clientAccess key a) (not_honoured_of_invalid ha hv)).byIntrospect,
    fun id key a ha hv => (rejected_unless_honoured (t := .access key a) (not_honoured_of_invalid ha hv)).byUserinfo id⟩

/-- **Third sentence of the property.** A token whose account is outside its validity window, or
whose OAuth2 session or parent login session has been revoked or has expired, is rejected by the
refresh grant (state untouched), is never reported active by introspection, and is refused by
userinfo — whichever client presents it and whatever else the request says. -/
theorem dead_rejected_everywhere (w : World) (e : Entry) (ct : Nat) :
    (∀ c key (rt : RefreshTok) req, w.acct rt.acct = some e → Dead e rt.sid rt.parent ct →
        Refused (exchangeRefresh w c (.refresh key rt) req ct) w) ∧
    (∀ key (a : AccessTok), w.acct a.acct = some e → Dead e a.sid a.parent ct →
        ∀ x, introspect w (.access key a) ct = .ok x → x = .inactive) ∧
    (∀ key (a : ClientAccessTok), w.acct a.acct = some e → Dead e a.sid none ct →
        ∀ x, introspect w (.clientAccess key a) ct = .ok x → x = .inactive) ∧
    (∀ id key (a : AccessTok), w.acct a.acct = some e → Dead e a.sid a.parent ct →
        Fails (userinfo w id (.access key a) ct)) := by
  obtain ⟨h1, h2, h3, h4⟩ := invalid_rejected_everywhere w e ct
  exact ⟨fun c key rt req ha hd => h1 c key rt req ha (dead_not_valid rt.iat hd),
    fun key a ha hd => h2 key a ha (dead_not_valid a.iat hd),
    fun key a ha hd => h3 key a ha (dead_not_valid a.iat hd),
    fun id key a ha hd => h4 id key a ha (dead_not_valid a.iat hd)⟩

/-- The same for the code grant: an account outside its window, or an authorising login session
that is revoked or expired, and the code yields nothing (D12, and its expiry half). -/
theorem dead_code_rejected (hash : Nat → Nat) (w : World) (c : TClient) (key : Nat) (cd : ExchangeCode)
    (redirect : Nat) (verifier : Option Nat) (ct : Nat) (e : Entry)
    (ha : w.acct cd.accountUuid = some e)
    (hd : withinWindow e ct = false ∨ ParentDead e cd.sessionId ct) :
    Refused (exchangeCode hash w c (.code key cd) redirect verifier ct) w := by
  rcases exchangeCode_refused_or_terms hash w c (.code key cd) redirect verifier ct with h | ⟨cd', e', ht⟩
  · exact h
  · cases ht.isCode
    have he := ht.account
    rw [ha] at he; cases he
    rcases hd with hwin | hpd
    · rw [ht.window] at hwin; cases hwin
    · exact absurd hpd ht.parentLive

/-- Every token's own expiry: at or after `exp` (whole seconds) nothing is redeemable. -/
theorem expired_token_rejected (hash : Nat → Nat) (w : World) (ct : Nat) :
    (∀ c key (cd : ExchangeCode) u v, cd.expiry ≤ asSecs ct →
        Refused (exchangeCode hash w c (.code key cd) u v ct) w) ∧
    (∀ c key (rt : RefreshTok) req, rt.exp ≤ asSecs ct →
        Refused (exchangeRefresh w c (.refresh key rt) req ct) w) ∧
    (∀ key (a : AccessTok), a.exp ≤ asSecs ct →
        ∀ x, introspect w (.access key a) ct = .ok x → x = .inactive) ∧
    (∀ id key (a : AccessTok), a.exp ≤ asSecs ct → Fails (userinfo w id (.access key a) ct)) := by
  refine ⟨fun c key cd u v h => ?_,
    fun c key rt req h => (rejected_unless_honoured (t := .refresh key rt) (not_honoured_of_expired h)).byRefresh c req,
    fun key a h => (rejected_unless_honoured (t := .access key a) (not_honoured_of_expired h)).byIntrospect,
    fun id key a h => (rejected_unless_honoured (t := .access key a) (not_honoured_of_expired h)).byUserinfo id⟩
  rcases exchangeCode_refused_or_terms hash w c (.code key cd) u v ct with hr | ⟨cd', e', ht⟩
  · exact hr
  · cases ht.isCode
    exact absurd ht.unexpired (Nat.not_lt.mpr h)

/-! ## Reuse of a rotated refresh token revokes the session -/

def O2Revoked (w : World) (a sid : Nat) : Prop := ∃ e, w.acct a = some e ∧ RevokedIn e.o2s sid

def LoginRevoked (w : World) (a p : Nat) : Prop := ∃ e, w.acct a = some e ∧ UatRevoked e p

/-- Whatever account `a` has on record under OAuth2 session id `sid` is revoked — "revoked or gone"
(C36's `DeadO2`): every write starts with the `Entry::invalidate` trim, which drops a revocation
once it is older than `CHANGELOG_MAX_AGE`. -/
def O2Dead (w : World) (a sid : Nat) : Prop := ∃ e, w.acct a = some e ∧ DeadO2 e sid

/-- The same for login session id `p` (C36's `DeadUat`; the trim also drops the oldest login
sessions of an account that holds more than `SESSION_MAXIMUM`). -/
def LoginDead (w : World) (a p : Nat) : Prop := ∃ e, w.acct a = some e ∧ DeadUat e p

/-- With distinct session ids (the value sets are `BTreeMap`s) on record and revoked is a case of
revoked or gone. -/
theorem o2Dead_of_revoked {w : World} {a sid : Nat} (h : O2Revoked w a sid)
    (hn : ∀ e, w.acct a = some e → KeysNodup e.o2s) : O2Dead w a sid := by
  obtain ⟨e, he, hr⟩ := h
  exact ⟨e, he, deadO2_of_revokedIn (hn e he) hr⟩

theorem loginDead_of_revoked {w : World} {a p : Nat} (h : LoginRevoked w a p)
    (hn : ∀ e m, w.acct a = some e → e.uats = some m → KeysNodup m) : LoginDead w a p := by
  obtain ⟨e, he, hr⟩ := h
  exact ⟨e, he, deadUat_of_uatRevoked (fun m hm => hn e m he hm) hr⟩

theorem valid_session_live {e : Entry} {sid : Nat} {parent : Option Nat} {iat ct : Nat} {s : Sess}
    (hv : acctValid e sid parent iat ct = true) (hs : lookup e.o2s sid = some s) : LiveAt s ct :=
  (liveAt_iff s ct).mpr ((o2Check_live (acctValid_eq_o2Check .. ▸ hv)).2 s hs).1

theorem write_revokeO2 {w w' : World} {a sid ct : Nat} {e : Entry} (ha : w.acct a = some e)
    (hw : w.write a (.revokeO2 sid) ct = some w') :
    O2Dead w' a sid ∧
      ∀ s, lookup e.o2s sid = some s → (∀ c, s.state = .revokedAt c → ¬ c < trimCidOf w.cid) → O2Revoked w' a sid := by
  obtain ⟨e0, he0, he1, _⟩ := write_spec hw
  rw [ha] at he0; cases he0
  refine ⟨⟨_, he1, deadO2_revokeO2_write e ct w.cid sid⟩, fun s hs hkeep => ⟨_, he1, ?_⟩⟩
  obtain ⟨c, hc⟩ := revoke_revoked w.cid s
  refine ⟨_, lookup_write_o2s _ ct w.cid hs hkeep, c, ?_⟩
  rw [modO2_revokeO2, o2Post_of_revoked hc]
  exact hc

/-- **Second sentence, second half, as coded.** A refresh token that is otherwise honoured
(unexpired, account and sessions valid) but older, in whole seconds, than the last re-issue of its
session is refused with `invalid_grant`, the session is revoked by that very request (on record and
revoked, and nothing else on record under its id), and the caller commits the revocation. -/
theorem reuse_revokes_session (w : World) (c : TClient) (rt : RefreshTok) (req : Option (List Nat))
    (ct : Nat) (e : Entry) (s : Sess)
    (hexp : asSecs ct < rt.exp) (ha : w.acct rt.acct = some e)
    (hv : acctValid e rt.sid rt.parent rt.iat ct = true)
    (hs : lookup e.o2s rt.sid = some s) (hrot : rt.iat < asSecs s.issued) :
    ∃ w', RefusedWith (exchangeRefresh w c (.refresh c.base.uuid rt) req ct) w' .invalidGrant ∧
      O2Revoked w' rt.acct rt.sid ∧ O2Dead w' rt.acct rt.sid ∧ commitOnErr .invalidGrant = true := by
  obtain ⟨w', hw', he⟩ := exchangeRefresh_of_reuse c req hexp ha hv hs hrot
  obtain ⟨hdead, hrev⟩ := write_revokeO2 ha hw'
  -- the session passed the validity test, so the write's trim keeps it
  exact ⟨w', he, hrev s hs (fun c hc => absurd ⟨c, hc⟩ (valid_session_live hv hs).1), hdead, rfl⟩

/-- The revocation endpoint: an unexpired token of a registered client revokes its session — after
it nothing on record under the session id is live; the session is on record and revoked unless it
already was revoked so long ago that this write's trim drops it. -/
theorem revoke_endpoint_revokes (w : World) (key : Nat) (rt : RefreshTok) (ct : Nat) (c : TClient) (e : Entry) (s : Sess)
    (hc : w.clientByKey key = some c) (hexp : asSecs ct < rt.exp) (ha : w.acct rt.acct = some e)
    (hs : lookup e.o2s rt.sid = some s) :
    O2Dead (revoke w (.refresh key rt) ct).1 rt.acct rt.sid ∧
    ((∀ c', s.state = .revokedAt c' → ¬ c' < trimCidOf w.cid) →
      O2Revoked (revoke w (.refresh key rt) ct).1 rt.acct rt.sid) := by
  obtain ⟨w', hw'⟩ := update_isSome (w := w) id (.revokeO2 rt.sid) ct ha
  have : (revoke w (.refresh key rt) ct).1 = w' := by
    simp [revoke, hc, revokeCore, revokeExpired, Nat.not_le.mpr hexp, World.write, hw']
  rw [this]
  obtain ⟨hdead, hrev⟩ := write_revokeO2 ha hw'
  exact ⟨hdead, hrev s hs⟩

/-- A successful refresh that extends the session (its new expiry is later than the recorded one:
always so when time has advanced under an unchanged refresh lifetime) stamps the session with the
instant of the refresh. -/
theorem rotation_stamps_session {w w' : World} {c : TClient} {rt : RefreshTok} {req : Option (List Nat)}
    {ct : Nat} {r : Resp} {e : Entry} {s : Sess}
    (h : exchangeRefresh w c (.refresh c.base.uuid rt) req ct = (w', .ok r))
    (ha : w.acct rt.acct = some e) (hs : lookup e.o2s rt.sid = some s)
    (hext : ∀ x, s.state = .expiresAt x → x < sessionExpiry ct c.refreshExpiry) :
    ∃ e' s', w'.acct rt.acct = some e' ∧ lookup e'.o2s rt.sid = some s' ∧ s'.issued = ct := by
  obtain ⟨rt', e0, s0, ht⟩ := (exchange_refresh_ok_iff w c _ req ct).mp ⟨w', r, h⟩
  obtain rfl : rt = rt' := (Tok.refresh.inj ht.isRefresh).2
  obtain ⟨w1, hw, h1⟩ := exchangeRefresh_of_terms ht
  rw [h1] at h; cases h
  obtain ⟨e1, he1, he2, _⟩ := write_spec hw
  rw [ha] at he1; cases he1
  obtain rfl : e = e0 := Option.some.inj (ha.symm.trans ht.account)
  -- the session passed the validity test, so it is not revoked and the re-issue replaces it
  obtain ⟨s', hs', hiss⟩ := grant_stamps_issued hs (valid_session_live ht.valid hs).1 hext rt.parent ct w.cid
  exact ⟨_, s', he2, hs', hiss⟩

/-- The full reading — *every* second presentation of a refresh token that was already redeemed
is refused — … -/
def reuse_revokes_full : Prop :=
  ∀ (w w1 w2 : World) (c : TClient) (rt : RefreshTok) (ct1 ct2 : Nat) (r1 : Resp) (x : Except OErr Resp),
    exchangeRefresh w c (.refresh c.base.uuid rt) none ct1 = (w1, .ok r1) → ct1 ≤ ct2 →
    exchangeRefresh w1 c (.refresh c.base.uuid rt) none ct2 = (w2, x) → ∃ err, x = .error err

/-- The witness world of finding D43: one basic client (uuid 400), one person (uuid 200) with a
never-expiring login session 300 and an OAuth2 session 1000 issued at 5.1 s. -/
def witnessClient : TClient := ⟨⟨400, .basic true false, [], [], false, [], []⟩, 7, 57600, [], []⟩
def witnessEntry : Entry :=
  { Entry.fresh (some 500) with
    uats := some [(300, ⟨.neverExpires, 0, 500⟩)],
    o2s := [(1000, ⟨.expiresAt (5100000000 + 57600 * 1000000000), 5100000000, 301⟩)] }
def witnessWorld : World :=
  { reg := [("rs".toList, witnessClient)], accts := [(200, witnessEntry)], nextSid := 1001, cid := 1 }
/-- The refresh token issued with that session: `iat` = second 5. -/
def witnessToken : RefreshTok := ⟨[0], some 300, 1000, 5 + 57600, 200, 5, none⟩

def isOkB {α : Type} : Except OErr α → Bool
  | .ok _ => true
  | .error _ => false

/-- … is false of the code (finding D43 / class `C39-F1:refresh-replay-same-second`): a rotation
inside the second the token was issued in (5.2 s) is invisible to the whole-second comparison, and
the rotated token is honoured again at 9 s. -/
theorem reuse_revokes_full_false : ¬ reuse_revokes_full := by
  intro h
  have h1 : isOkB (exchangeRefresh witnessWorld witnessClient (.refresh 400 witnessToken) none 5200000000).2 = true := by
    decide +kernel
  have h2 : isOkB (exchangeRefresh (exchangeRefresh witnessWorld witnessClient (.refresh 400 witnessToken) none 5200000000).1
      witnessClient (.refresh 400 witnessToken) none 9000000000).2 = true := by
    decide +kernel
  cases hr1 : exchangeRefresh witnessWorld witnessClient (.refresh 400 witnessToken) none 5200000000 with
  | mk w1 x1 =>
    rw [hr1] at h1 h2
    cases x1 with
    | error _ => simp [isOkB] at h1
    | ok r1 =>
      cases hr2 : exchangeRefresh w1 witnessClient (.refresh 400 witnessToken) none 9000000000 with
      | mk w2 x2 =>
        simp only at h2
        rw [hr2] at h2
        obtain ⟨err, herr⟩ := h witnessWorld w1 w2 witnessClient witnessToken 5200000000 9000000000 r1 x2 hr1 (by decide) hr2
        rw [herr] at h2
        simp [isOkB] at h2

/-- The partial statement that *is* true: once the rotation happened in a later second than the
token's `iat` and extended the session, presenting the rotated token again — right after, at any
later instant at which it would otherwise still be honoured — revokes the session. -/
theorem reuse_after_rotation_revokes {w w1 : World} {c : TClient} {rt : RefreshTok} {req1 req2 : Option (List Nat)}
    {ct1 ct2 : Nat} {r1 : Resp} {e : Entry} {s : Sess}
    (hrot : exchangeRefresh w c (.refresh c.base.uuid rt) req1 ct1 = (w1, .ok r1))
    (ha : w.acct rt.acct = some e) (hs : lookup e.o2s rt.sid = some s)
    (hext : ∀ x, s.state = .expiresAt x → x < sessionExpiry ct1 c.refreshExpiry)
    (hlater : rt.iat < asSecs ct1)
    (hexp : asSecs ct2 < rt.exp)
    (hvalid : ∀ e1, w1.acct rt.acct = some e1 → acctValid e1 rt.sid rt.parent rt.iat ct2 = true) :
    ∃ w2, RefusedWith (exchangeRefresh w1 c (.refresh c.base.uuid rt) req2 ct2) w2 .invalidGrant ∧
      O2Revoked w2 rt.acct rt.sid ∧ O2Dead w2 rt.acct rt.sid := by
  obtain ⟨e1, s1, he1, hs1, hiss⟩ := rotation_stamps_session hrot ha hs hext
  obtain ⟨w2, h2, hrev, hdead, _⟩ :=
    reuse_revokes_session w1 c rt req2 ct2 e1 s1 hexp he1 (hvalid e1 he1) hs1 (by rw [hiss]; exact hlater)
  exact ⟨w2, h2, hrev, hdead⟩

/-! ## Histories: what is revoked stays revoked or is trimmed away — never live again

"On record and revoked" is not an invariant of histories (the trim, see `O2Dead`); "revoked or gone" is —
provided the id is not handed out a second time: the endpoints never do (`EndpointMod`), a plain
directory write could (`NoReissue`). -/

/-- The modlists the endpoints write to an entry `e` in world `w`: a grant of the fresh session id (code
exchange, client credentials: `Uuid::new_v4`), a grant of a session id on record and not revoked (refresh
re-inserts the session it has just found valid), the revocation of an OAuth2 session, or nothing that
concerns sessions.  None records a login session. -/
inductive EndpointMod (w : World) (e : Entry) : Mod → Prop
  | fresh (parent exp : Option Nat) (issued : Nat) : EndpointMod w e (.grant w.nextSid parent exp issued)
  | regrant {sid : Nat} {s : Sess} (hs : lookup e.o2s sid = some s) (hl : ¬ Revoked s)
      (parent exp : Option Nat) (issued : Nat) : EndpointMod w e (.grant sid parent exp issued)
  | revokeO2 (sid : Nat) : EndpointMod w e (.revokeO2 sid)
  | touch : EndpointMod w e .touch

/-- What is known of the modlist event `op` applies to account `b`: a directory write applies the
modlist it names, every other event is an endpoint (or a change of the validity window: `touch`). -/
def OpMod (w : World) (op : Op) (b : Nat) (e : Entry) (md : Mod) : Prop :=
  (∃ ct, op = .dir b md ct) ∨ EndpointMod w e md

/-- `w'` differs from `w` by at most write transactions of event `op` on entries that exist (every
event of the model is of this kind).  Session ids already handed out stay handed out. -/
def AcctStep (w : World) (op : Op) (w' : World) : Prop :=
  w.nextSid ≤ w'.nextSid ∧
  ∀ a e, w.acct a = some e →
    ∃ e', w'.acct a = some e' ∧
      (e' = e ∨ ∃ e0 md ct cid, e0.uats = e.uats ∧ e0.o2s = e.o2s ∧ OpMod w op a e md ∧
        e' = Kanidm.SessionPlugin.step e0 (.write md ct cid))

theorem acctStep_refl (w : World) (op : Op) : AcctStep w op w :=
  ⟨Nat.le_refl _, fun _ e h => ⟨e, h, Or.inl rfl⟩⟩

theorem acctStep_nextSid {w w1 : World} {op : Op} (h : AcctStep w op w1) :
    AcctStep w op { w1 with nextSid := w1.nextSid + 1 } :=
  ⟨Nat.le_succ_of_le h.1, h.2⟩

theorem acctStep_update {w w' : World} {op : Op} {a : Nat} {f : Entry → Entry} {m : Mod} {ct : Nat}
    (hf : ∀ e : Entry, (f e).uats = e.uats ∧ (f e).o2s = e.o2s)
    (hP : ∀ e, w.acct a = some e → OpMod w op a e m) (h : w.update a f m ct = some w') : AcctStep w op w' := by
  obtain ⟨e0, he0, he1, hoth, _, hsid⟩ := update_spec h
  refine ⟨Nat.le_of_eq hsid.symm, ?_⟩
  intro b e hb
  by_cases hba : b = a
  · subst hba
    rw [he0] at hb; cases hb
    exact ⟨_, he1, Or.inr ⟨f e0, m, ct, w.cid, (hf e0).1, (hf e0).2, hP e0 he0, rfl⟩⟩
  · exact ⟨e, by rw [hoth b hba]; exact hb, Or.inl rfl⟩

theorem acctStep_write {w w' : World} {op : Op} {a : Nat} {m : Mod} {ct : Nat}
    (hP : ∀ e, w.acct a = some e → EndpointMod w e m) (h : w.write a m ct = some w') : AcctStep w op w' :=
  acctStep_update (f := id) (fun _ => ⟨rfl, rfl⟩) (fun e he => .inr (hP e he)) h

theorem acctStep_update_getD {w : World} {op : Op} {a : Nat} {f : Entry → Entry} {m : Mod} {ct : Nat}
    (hf : ∀ e : Entry, (f e).uats = e.uats ∧ (f e).o2s = e.o2s)
    (hP : ∀ e, w.acct a = some e → OpMod w op a e m) : AcctStep w op ((w.update a f m ct).getD w) := by
  cases h : w.update a f m ct with
  | none => exact acctStep_refl w op
  | some w' => exact acctStep_update hf hP h

theorem tokenEndpoint_acctStep {hash : Nat → Nat} {w : World} {auth : Option (List Char × Option Nat)}
    {g : Grant} {ct : Nat} {op : Op} : AcctStep w op (tokenEndpoint hash w auth g ct).1 := by
  have hd : ∀ c valid, AcctStep w op (dispatch hash w c valid g ct).1 := by
    intro c valid
    cases g with
    | code t u v =>
      show AcctStep w op (exchangeCode hash w c t u v ct).1
      rcases exchangeCode_refused_or_terms hash w c t u v ct with ⟨err, he⟩ | ⟨cd, e, ht⟩
      · rw [he]; exact acctStep_refl w op
      · obtain ⟨w1, hw, he⟩ := exchangeCode_of_terms ht
        rw [he]; exact acctStep_nextSid (acctStep_write (fun _ _ => .fresh _ _ _) hw)
    | refresh t req =>
      show AcctStep w op (exchangeRefresh w c t req ct).1
      rcases exchangeRefresh_refused_or_terms w c t req ct with
        ⟨err, he⟩ | ⟨rt, e, s, ⟨rfl, hx, ha, hv, hs, hr⟩ | ht⟩
      · rw [he]; exact acctStep_refl w op
      · obtain ⟨w1, hw, he⟩ := exchangeRefresh_of_reuse c req hx ha hv hs hr
        rw [he]; exact acctStep_write (fun _ _ => .revokeO2 _) hw
      · obtain ⟨w1, hw, he⟩ := exchangeRefresh_of_terms ht
        -- the re-issue re-inserts a session that has just passed the validity test
        rw [he]; refine acctStep_write (fun e' he' => ?_) hw
        rw [ht.account] at he'; cases he'
        exact .regrant ht.session (valid_session_live ht.valid ht.session).1 _ _ _
    | cc req =>
      show AcctStep w op (exchangeCC w c valid req ct).1
      rcases exchangeCC_refused_or_granted w c valid req ct with ⟨err, he⟩ | ⟨w1, r, a, _, hw, he, _⟩
      · rw [he]; exact acctStep_refl w op
      · rw [he]; exact acctStep_nextSid (acctStep_write (fun _ _ => .fresh _ _ _) hw)
  fun_cases tokenEndpoint hash w auth g ct
  -- client authentication failed
  case case1 => exact acctStep_refl w op
  -- `handle_oauth2_token_exchange` commits the grant function's state or drops it
  all_goals
    rename_i c valid _ _ _ h
    have := hd c valid
    rw [h] at this
    dsimp only
    split
    · exact this
    · exact acctStep_refl w op

theorem revoke_acctStep (w : World) (t : Tok) (ct : Nat) (op : Op) : AcctStep w op (revoke w t ct).1 := by
  have core : ∀ sid exp acct, AcctStep w op (revokeCore w sid exp acct ct).1 := by
    intro sid exp acct
    fun_cases revokeCore w sid exp acct ct
    -- not expired, the revoking write done
    case case2 hw => exact acctStep_write (fun _ _ => .revokeO2 _) hw
    all_goals exact acctStep_refl w op
  fun_cases revoke w t ct
  -- an access, refresh or client-access token of a registered client
  case case3 | case5 | case7 => exact core _ _ _
  all_goals exact acctStep_refl w op

theorem step_acctStep (hash : Nat → Nat) (w : World) (op : Op) : AcctStep w op (step hash w op) := by
  cases op with
  | token auth g ct => exact tokenEndpoint_acctStep
  | revoke t ct => exact revoke_acctStep w t ct _
  | dir a m ct => exact acctStep_update_getD (f := id) (fun _ => ⟨rfl, rfl⟩) (fun _ _ => .inl ⟨ct, rfl⟩)
  | setExpire a t ct => exact acctStep_update_getD (fun _ => ⟨rfl, rfl⟩) (fun _ _ => .inr .touch)
  | setValidFrom a t ct => exact acctStep_update_getD (fun _ => ⟨rfl, rfl⟩) (fun _ _ => .inr .touch)

/-- No directory write of the history puts session id `k` on account `a` again (session ids are
fresh uuids, recorded once; the endpoints never re-use one: `EndpointMod`). -/
def NoReissue (a k : Nat) (ops : List Op) : Prop :=
  ∀ op ∈ ops, ∀ m ct, op = .dir a m ct → (∀ c x i, m ≠ .record k c x i) ∧ (∀ p x i, m ≠ .grant k p x i)

/-- One step keeps "revoked or gone" under an id it does not hand out again: an endpoint never does, a
directory write must not (C36's `dead_oauth2_stays_dead_write`, `dead_stays_dead_write`). -/
theorem acctStep_keeps_dead {w w' : World} {op : Op} (h : AcctStep w op w') (a k : Nat)
    (hdir : ∀ m ct, op = .dir a m ct → (∀ c x i, m ≠ .record k c x i) ∧ (∀ p x i, m ≠ .grant k p x i)) :
    (k < w.nextSid → O2Dead w a k → O2Dead w' a k) ∧ (LoginDead w a k → LoginDead w' a k) := by
  constructor
  · rintro hk ⟨e, he, hd⟩
    obtain ⟨e', he', hc⟩ := h.2 a e he
    refine ⟨e', he', ?_⟩
    rcases hc with rfl | ⟨e0, md, ct, cid, _, ho, hp, rfl⟩
    · exact hd
    · have hd0 : DeadO2 e0 k := by unfold DeadO2; rw [ho]; exact hd
      refine dead_oauth2_stays_dead_write e0 md ct cid k hd0 ?_
      rintro p x i rfl
      rcases hp with ⟨ct', hop⟩ | hp
      · exact absurd rfl ((hdir _ ct' hop).2 p x i)
      · cases hp with
        | fresh => omega
        | regrant hs hl => exact absurd (hd.of_lookup hs) hl
  · rintro ⟨e, he, hd⟩
    obtain ⟨e', he', hc⟩ := h.2 a e he
    refine ⟨e', he', ?_⟩
    rcases hc with rfl | ⟨e0, md, ct, cid, hu, _, hp, rfl⟩
    · exact hd
    · have hd0 : DeadUat e0 k := by unfold DeadUat UatAt; rw [hu]; exact hd
      refine dead_stays_dead_write e0 md ct cid k hd0 ?_
      rintro c x i rfl
      rcases hp with ⟨ct', hop⟩ | hp
      · exact absurd rfl ((hdir _ ct' hop).1 c x i)
      · cases hp

/-- **Never after the session became invalid.** Once everything on record under an OAuth2 session
id (one already handed out) or a login session id is revoked, it stays so — revoked, or trimmed
away, never live again — after every continuation of the history: exchanges, refreshes, client
credentials, revocations, directory writes (not re-creating that very id), changes of the validity
window, at any instants, by any clients. -/
theorem revocation_is_permanent (hash : Nat → Nat) (ops : List Op) (w : World) (a k : Nat)
    (hno : NoReissue a k ops) :
    (k < w.nextSid → O2Dead w a k → O2Dead (run hash w ops) a k) ∧
    (LoginDead w a k → LoginDead (run hash w ops) a k) := by
  refine (List.foldlRecOn ops (step hash) (motive := fun w' => w.nextSid ≤ w'.nextSid ∧
    (k < w.nextSid → O2Dead w a k → O2Dead w' a k) ∧ (LoginDead w a k → LoginDead w' a k))
    ⟨Nat.le_refl _, fun _ => id, id⟩ ?_).2
  intro w' ⟨hle, h1, h2⟩ op hop
  have hs := step_acctStep hash w' op
  have hd := acctStep_keeps_dead hs a k (hno op hop)
  exact ⟨Nat.le_trans hle hs.1, fun hk h => hd.1 (Nat.lt_of_lt_of_le hk hle) (h1 hk h), fun h => hd.2 (h2 h)⟩

/-- Put together: after a revocation, in every later state of every history, the session is
revoked or trimmed away, and every token of it fails the validity test — at once while the
revocation is on record (`Dead`), and like any token whose session is not on record, i.e. from the
end of its own five-minute grace window on, once the trim has dropped it
(`invalid_rejected_everywhere`: refused by refresh, introspection and userinfo). -/
theorem revoked_session_refused_forever (hash : Nat → Nat) (ops : List Op) (w : World) (a sid : Nat)
    (h : O2Dead w a sid) (hsid : sid < w.nextSid) (hno : NoReissue a sid ops) (ct : Nat) :
    ∃ e, (run hash w ops).acct a = some e ∧
      (∀ parent, Dead e sid parent ct ∨ lookup e.o2s sid = none) ∧
      (∀ parent iat, iat * 1000000000 + fiveMinutesNs ≤ ct → acctValid e sid parent iat ct = false) := by
  obtain ⟨e, he, hd⟩ := (revocation_is_permanent hash ops w a sid hno).1 hsid h
  refine ⟨e, he, fun _ => ?_, fun parent iat hg => deadO2_not_valid hd parent hg⟩
  cases hs : lookup e.o2s sid with
  | none => exact Or.inr rfl
  | some s => exact Or.inl (Or.inr ⟨s, hs, Or.inl (Or.inl (hd.of_lookup hs))⟩)

/-- The same for the tokens under a revoked login session `p` (not an api token of the account):
in every later state the login session is revoked or trimmed away, and a token naming it as its
parent fails the validity test from the end of its grace window on — at once (`Dead`) while both
the login session and the token's own session are on record. -/
theorem revoked_login_refused_forever (hash : Nat → Nat) (ops : List Op) (w : World) (a p : Nat)
    (h : LoginDead w a p) (hno : NoReissue a p ops) (ct : Nat) :
    ∃ e, (run hash w ops).acct a = some e ∧
      (∀ sid o u, lookup e.o2s sid = some o → uatOf e p = some u → Dead e sid (some p) ct) ∧
      (p ∉ e.apis → ∀ sid iat, iat * 1000000000 + fiveMinutesNs ≤ ct →
        acctValid e sid (some p) iat ct = false) := by
  obtain ⟨e, he, hd⟩ := (revocation_is_permanent hash ops w a p hno).2 h
  refine ⟨e, he, fun sid o u ho hu => ?_, fun hapi sid iat hg => deadUat_not_valid hd hapi sid hg⟩
  exact Or.inr ⟨o, ho, Or.inr ⟨p, u, rfl, hu, Or.inl (hd.of_lookup hu)⟩⟩

/-! ## Only the client it was issued to; never broader than issued — along every chain of redemptions -/

/-- The uuid of the client whose key made the token. -/
def tokKey : Tok → Option Nat
  | .code k _ => some k
  | .refresh k _ => some k
  | .clientAccess k _ => some k
  | .access k _ => some k
  | .garbage => none

def tokScopes : Tok → List Nat
  | .code _ c => c.scopes
  | .refresh _ r => r.scopes
  | .clientAccess _ a => a.scopes
  | .access _ a => a.scopes
  | .garbage => []

def tokAcct : Tok → Option Nat
  | .code _ c => some c.accountUuid
  | .refresh _ r => some r.acct
  | .clientAccess _ a => some a.acct
  | .access _ a => some a.acct
  | .garbage => none

def InResp (r : Resp) (t' : Tok) : Prop := t' = r.access ∨ r.refresh = some t'

/-- `t'` was minted by redeeming `t` — at some client, in some state, at some instant. -/
inductive Minted (hash : Nat → Nat) : Tok → Tok → Prop where
  | byCode {w w' : World} {c : TClient} {t t' : Tok} {u : Nat} {v : Option Nat} {ct : Nat} {r : Resp} :
      exchangeCode hash w c t u v ct = (w', .ok r) → InResp r t' → Minted hash t t'
  | byRefresh {w w' : World} {c : TClient} {t t' : Tok} {req : Option (List Nat)} {ct : Nat} {r : Resp} :
      exchangeRefresh w c t req ct = (w', .ok r) → InResp r t' → Minted hash t t'

/-- Any chain of redemptions, across any states. -/
inductive Lineage (hash : Nat → Nat) : Tok → Tok → Prop where
  | one {a b : Tok} : Minted hash a b → Lineage hash a b
  | more {a b c : Tok} : Lineage hash a b → Minted hash b c → Lineage hash a c

def Narrower (t t' : Tok) : Prop :=
  tokKey t' = tokKey t ∧ tokAcct t' = tokAcct t ∧ ∀ x ∈ tokScopes t', x ∈ tokScopes t

theorem minted_narrower {hash : Nat → Nat} {t t' : Tok} (h : Minted hash t t') : Narrower t t' := by
  cases h with
  | byCode hx hin =>
    -- of its parts: the code redeemed, and (the last two) the access and the refresh token handed out
    obtain ⟨cd, ht, _, _, _, _, hacc, href⟩ := exchange_code_grant hx
    subst ht
    rcases hin with h1 | h1
    · rw [h1, hacc]; exact ⟨rfl, rfl, fun x hx => hx⟩
    · rw [href] at h1; injection h1 with h1; rw [← h1]; exact ⟨rfl, rfl, fun x hx => hx⟩
  | byRefresh hx hin =>
    -- the token redeemed, its scopes not exceeded, and (the last two) the two tokens handed out
    obtain ⟨rt, ht, hsub, _, _, _, _, _, hacc, href⟩ := exchange_refresh_grant hx
    subst ht
    rcases hin with h1 | h1
    · rw [h1, hacc]; exact ⟨rfl, rfl, hsub⟩
    · rw [href] at h1; injection h1 with h1; rw [← h1]; exact ⟨rfl, rfl, hsub⟩

/-- **A refresh never grants scopes beyond the original grant; tokens stay with their client and
account** — for every chain of redemptions starting from any token, through any sequence of
states. -/
theorem lineage_never_broadens {hash : Nat → Nat} {t t' : Tok} (h : Lineage hash t t') : Narrower t t' := by
  induction h with
  | one hm => exact minted_narrower hm
  | more _ hm ih =>
    obtain ⟨k1, a1, s1⟩ := ih
    obtain ⟨k2, a2, s2⟩ := minted_narrower hm
    exact ⟨k2.trans k1, a2.trans a1, fun x hx => s1 x (s2 x hx)⟩

theorem authenticate_ok {w : World} {auth : Option (List Char × Option Nat)} {c : TClient} {valid : Bool}
    (h : authenticate w auth = .ok (c, valid)) :
    ∃ id sec, auth = some (id, sec) ∧ w.client id = some c ∧
      (c.base.isBasic = true → sec = some c.secret) ∧ (valid = true → c.base.isBasic = true) := by
  revert h
  fun_cases authenticate w auth <;> intro h <;> cases h
  · -- a confidential client, its secret checked
    rename_i s hc hb hs
    exact ⟨_, _, rfl, hc, fun _ => by rw [show s = c.secret by simpa [authSecretOk] using hs], fun _ => hb⟩
  · -- a public client
    rename_i hc hb
    exact ⟨_, _, rfl, hc, fun hx => absurd hx hb, nofun⟩

/-- **Only at the client it was issued for.** Whatever the token endpoint grants, it grants to a
registered client named by the request, which (if confidential) presented its own secret, and the
redeemed code / refresh token was made under that client's key; the access token handed out is under
the same key (so is the refresh token: `exchange_code_grant`, `exchange_refresh_grant`). Client
credentials need a confidential client. -/
theorem token_endpoint_only_own_client {hash : Nat → Nat} {w w' : World}
    {auth : Option (List Char × Option Nat)} {g : Grant} {ct : Nat} {r : Resp}
    (h : tokenEndpoint hash w auth g ct = (w', .ok r)) :
    ∃ id sec c, auth = some (id, sec) ∧ w.client id = some c ∧
      (c.base.isBasic = true → sec = some c.secret) ∧
      (∀ t u v, g = .code t u v → ∃ cd, t = .code c.base.uuid cd) ∧
      (∀ t s, g = .refresh t s → ∃ rt, t = .refresh c.base.uuid rt) ∧
      (∀ s, g = .cc s → c.base.isBasic = true) ∧
      tokKey r.access = some c.base.uuid := by
  revert h
  fun_cases tokenEndpoint hash w auth g ct <;> intro h <;> cases h
  -- the one arm that answers `ok`: the client authenticated, the grant function answered `ok`
  rename_i c valid ha _ hd
  obtain ⟨id, sec, hauth, hclient, hsecret, hbasic⟩ := authenticate_ok ha
  refine ⟨id, sec, c, hauth, hclient, hsecret, ?_⟩
  cases g with
  | code t u v =>
    -- `hacc`: the access token handed out (the last part but one)
    obtain ⟨cd, ht, _, _, _, _, hacc, _⟩ := exchange_code_grant (show exchangeCode hash w c t u v ct = _ from hd)
    exact ⟨fun _ _ _ hg => (by cases hg; exact ⟨cd, ht⟩), fun _ _ hg => (by cases hg), fun _ hg => (by cases hg),
      by rw [hacc]; rfl⟩
  | refresh t s =>
    obtain ⟨rt, ht, _, _, _, _, _, _, hacc, _⟩ := exchange_refresh_grant (show exchangeRefresh w c t s ct = _ from hd)
    exact ⟨fun _ _ _ hg => (by cases hg), fun _ _ hg => (by cases hg; exact ⟨rt, ht⟩), fun _ hg => (by cases hg),
      by rw [hacc]; rfl⟩
  | cc s =>
    rcases exchangeCC_refused_or_granted w c valid s ct with ⟨err, he⟩ | ⟨w2, r2, a, hv, _, he, hacc⟩ <;>
      rw [show exchangeCC w c valid s ct = _ from hd] at he <;> cases he
    exact ⟨fun _ _ _ hg => (by cases hg), fun _ _ hg => (by cases hg), fun _ _ => hbasic hv, by rw [hacc]; rfl⟩

/-! ## The hypotheses are satisfiable -/

/-- A code of the witness client for the witness person (the world of `reuse_revokes_full_false`),
exchanged at 6 s with the right verifier: all of `CodeTerms` hold, so tokens are issued … -/
def witnessCode : ExchangeCode := ⟨200, 300, 65, some 7, 5, [0, 3], none, none⟩

example : ∃ cd e, CodeTerms id witnessWorld witnessClient (.code 400 witnessCode) 5 (some 7) 6000000000 cd e := by
  refine ⟨witnessCode, witnessEntry, ⟨rfl, by decide, Or.inl ⟨7, 7, rfl, rfl, rfl⟩, rfl, rfl, by decide, ?_⟩⟩
  rw [← codeParentDeadOn_iff]
  decide

/-- … and with a wrong verifier, another client's key, a changed redirect URI or at the second of
its expiry they are not. -/
example : isOkB (exchangeCode id witnessWorld witnessClient (.code 400 witnessCode) 5 (some 7) 6000000000).2 = true ∧
    isOkB (exchangeCode id witnessWorld witnessClient (.code 400 witnessCode) 5 (some 8) 6000000000).2 = false ∧
    isOkB (exchangeCode id witnessWorld witnessClient (.code 401 witnessCode) 5 (some 7) 6000000000).2 = false ∧
    isOkB (exchangeCode id witnessWorld witnessClient (.code 400 witnessCode) 6 (some 7) 6000000000).2 = false ∧
    isOkB (exchangeCode id witnessWorld witnessClient (.code 400 witnessCode) 5 (some 7) 65000000000).2 = false := by
  decide +kernel

/-- The witness refresh token is redeemable at 7 s (all of `RefreshTerms`), its session then
carries that instant, and presenting it again at 9 s revokes the session; the revoked session is
`Dead`. -/
example : isOkB (exchangeRefresh witnessWorld witnessClient (.refresh 400 witnessToken) (some [0]) 7000000000).2 = true ∧
    isOkB (exchangeRefresh witnessWorld witnessClient (.refresh 400 witnessToken) (some [0, 3]) 7000000000).2 = false ∧
    isOkB (exchangeRefresh (exchangeRefresh witnessWorld witnessClient (.refresh 400 witnessToken) none 7000000000).1
      witnessClient (.refresh 400 witnessToken) none 9000000000).2 = false := by
  decide +kernel

example : Dead { Entry.fresh (some 500) with o2s := [(1000, ⟨.revokedAt 3, 0, 0⟩)] } 1000 none 5 :=
  Or.inr ⟨_, rfl, Or.inl (Or.inl ⟨3, rfl⟩)⟩

/-- Why "revoked" reads "revoked or gone" in the histories: a write whose change id lies more than
`CHANGELOG_MAX_AGE` (7 days, in ns) after a revocation starts by trimming the revoked session away
(`Entry::invalidate`); from then on its tokens are those of a session not on record — honoured inside
their own five-minute grace window, refused after it. -/
example :
    let e : Entry := { Entry.fresh (some 500) with o2s := [(1000, ⟨.revokedAt 3, 0, 0⟩)] }
    let w : World := { reg := [], accts := [(200, e)], nextSid := 1001, cid := 700000000000000 }
    let w' := step id w (.dir 200 .touch 5)
    O2Revoked w 200 1000 ∧ O2Dead w 200 1000 ∧ NoReissue 200 1000 [.dir 200 .touch 5] ∧
    (w'.acct 200).map (·.o2s) = some [] ∧
    (w'.acct 200).map (fun e' => (acctValid e' 1000 none 0 299999999999, acctValid e' 1000 none 0 300000000000))
      = some (true, false) := by
  refine ⟨⟨_, rfl, _, rfl, 3, rfl⟩, ⟨_, rfl, ?_⟩, ?_, by decide, by decide⟩
  · intro s hs
    simp only [List.mem_singleton, Prod.mk.injEq, true_and] at hs
    exact ⟨3, by rw [hs]⟩
  · intro op hop m ct h
    simp only [List.mem_singleton] at hop
    rw [hop] at h
    injection h with _ h2 _
    subst h2
    exact ⟨fun _ _ _ h => (by cases h), fun _ _ _ h => (by cases h)⟩

end Kanidm.OAuth2.Token
