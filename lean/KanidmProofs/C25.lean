import KanidmProofs.C24
import KanidmProofs.Lemmas.DefaultRoles
/-
C25 — Default roles cannot act on high-privilege accounts.

Everything is about the definitions `km_c25` executes: C24's write-access model
(`KanidmModel/Access/Write.lean`) at the default profiles and default group nesting
`Kanidm.Gen.Default.*`, dumped from a server booted on the current tree on every check run.

Shape of the argument:
  * for all inputs and any table of profiles: what a user is allowed comes from configured profiles
    that *match* (C24); a profile matching a user outside the high-privilege closure and a
    high-privilege entry (not the user's own, not delegated to the user) has none of the first
    three escapes of `safeModify` / `safeProfile` (`Apart.not_safe`); so a table of safe profiles
    allows such a user nothing sensitive on such an entry;
  * for any nesting table: whatever groups outside the high-privilege closure a user is put in,
    its `memberof` stays outside (`closure_avoids`);
  * finite (`decide +kernel` over the regenerated table): every default profile is safe
    (`default_*_table_safe`). A new default profile, an edited target filter that loses the
    `AndNot(HP ∨ …)` clause, a role group added to a receiver list or removed from
    `idm_high_privilege` re-states these and they stop to build.
-/
namespace Kanidm.Access.Default
open Kanidm.Filter
open Kanidm.Access.Write
open Kanidm.Gen.Access
open Kanidm.Gen

/-- The entry is a member (directly or transitively: `memberof` is the closure, C17) of the
built-in high-privilege group. -/
def IsHP (fe : Filter.Entry) : Prop :=
  (fe A.MemberOf).contains (Val.num Default.uuidHighPrivilege) = true

/-- The acting user is outside the high-privilege group: its `memberof` is closed under the
default nesting of the built-in groups (whatever other groups it contains) and does not contain
`idm_high_privilege`. -/
def NonHp (id : Ident) : Prop :=
  ∀ mo, id.memberof = some mo → Closed Default.groups mo ∧ Default.uuidHighPrivilege ∉ mo

/-- The identity was built from the account's own entry: if the target *is* the caller's entry,
the groups on the entry are the groups of the identity. -/
def SelfConsistent (id : Ident) (fe : Filter.Entry) : Prop :=
  (fe A.Uuid).contains (Val.num id.uuid) = true →
    ∀ g, (fe A.MemberOf).contains (Val.num g) = true → ∃ mo, id.memberof = some mo ∧ g ∈ mo

/-- The statement's premise, seen from the acting user: every entry manager of the target is
high-privilege — so it is not the user's own account, and if it is a group the user belongs to,
the user is high-privilege. -/
def ManagersAreHP (id : Ident) (managedBy : Option (List Nat)) : Prop :=
  ∀ ems, managedBy = some ems → ∀ m, m ∈ ems →
    m ≠ id.uuid ∧ ∀ mo, id.memberof = some mo → m ∈ mo → Default.uuidHighPrivilege ∈ mo

/-- What the argument uses of the four notions above; nothing about `memberof` being closed. -/
structure Apart (id : Ident) (mb : Option (List Nat)) (fe : Filter.Entry) : Prop where
  groups : ∀ mo, id.memberof = some mo → ∀ g, g ∈ mo → g ∉ hpGroups
  isHP : IsHP fe
  notSelf : (fe A.Uuid).contains (Val.num id.uuid) = false
  managers : ∀ ems, mb = some ems → ∀ m, m ∈ ems →
    m ≠ id.uuid ∧ ∀ mo, id.memberof = some mo → m ∉ mo

theorem Apart.of_nonHp {id : Ident} {mb : Option (List Nat)} {fe : Filter.Entry} (hn : NonHp id)
    (hhp : IsHP fe) (hc : SelfConsistent id fe) (hm : ManagersAreHP id mb) : Apart id mb fe where
  groups mo hmo _ hg hh := (hn mo hmo).2 (hp_of_mem_hpGroups (hn mo hmo).1 hg hh)
  isHP := hhp
  -- were the target the caller's own entry, the caller would be high-privilege
  notSelf := Bool.eq_false_iff.mpr fun h =>
    let ⟨mo, hmo, hg⟩ := hc h _ hhp
    (hn mo hmo).2 hg
  managers ems hems m hmem :=
    ⟨(hm ems hems m hmem).1, fun mo hmo hin => (hn mo hmo).2 ((hm ems hems m hmem).2 mo hmo hin)⟩

theorem Apart.not_safe {id : Ident} {p : Profile} {mb : Option (List Nat)} {fe : Filter.Entry}
    (h : Apart id mb fe) (hpm : ProfileMatches id p mb fe) : safeProfile p = false := by
  obtain ⟨hr, f, hf, hmatch⟩ := hpm
  have htgt : targetExcludesHP p = false := by
    unfold targetExcludesHP
    rw [hf]
    -- the target matches, so `hpEval` cannot have committed to `false`
    refine beq_eq_false_iff_ne.mpr fun he => ?_
    have := hpEval_sound ValSem.std _ _ fe h.isHP h.notSelf f false he
    rw [hmatch] at this
    cases this
  unfold ReceiverMatches at hr
  unfold safeProfile receiverOnlyHP isEntryManager
  cases hrc : p.receiver with
  | none => rw [hrc] at hr; exact hr.elim
  | entryManager =>
    rw [hrc] at hr
    obtain ⟨ems, hems, ⟨mo, hmo, g, hg, hge⟩ | hu⟩ := hr
    · exact absurd hg ((h.managers ems hems g hge).2 mo hmo)
    · exact absurd rfl (h.managers ems hems _ hu).1
  | group gs =>
    rw [hrc] at hr
    obtain ⟨mo, hmo, g, hg, hgs⟩ := hr
    have hall : (gs.all fun g => hpGroups.contains g) = false :=
      Bool.eq_false_iff.mpr fun hq =>
        h.groups mo hmo g hg (List.contains_iff_mem.mp (List.all_eq_true.mp hq g hgs))
    show (((gs.all fun g => hpGroups.contains g) || false) || targetExcludesHP p) = false
    rw [hall, htgt]
    rfl

/-- **A profile that matches a user outside the high-privilege closure and a high-privilege entry
is none of: handed to high-privilege groups only, an entry-manager profile, a profile whose target
excludes high-privilege entries.** -/
theorem profile_matches_not_safe {id : Ident} {p : Profile} {mb : Option (List Nat)}
    {fe : Filter.Entry} (hn : NonHp id) (hhp : IsHP fe) (hc : SelfConsistent id fe)
    (hm : ManagersAreHP id mb) (h : ProfileMatches id p mb fe) : safeProfile p = false :=
  (Apart.of_nonHp hn hhp hc hm).not_safe h

/-! ## the default table (finite; re-stated whenever the dump changes) -/

/-- The model's high-privilege closure is the one the server stored. Relies on `Default.groups`
and `Default.groupMemberOf` listing the groups in the same order: a dump in another order makes
this lemma fail to build. The evaluations below rewrite with it first, so that the kernel reads the
closure off the dump and does not compute a closure for every group each time. -/
theorem hpGroups_eq_stored :
    hpGroups = (Default.groupMemberOf.filter fun gm =>
      gm.1 == Default.uuidHighPrivilege || gm.2.contains Default.uuidHighPrivilege).map (·.1) := by
  decide +kernel

/-- Every default modify profile is safe: handed to the high-privilege closure only, or an
entry-manager profile, or its target excludes `memberof = idm_high_privilege` entries (or is the
caller's own entry), or it grants none of the sensitive attributes. -/
theorem default_modify_table_safe : Default.modifyAcps.all safeModify = true := by
  unfold safeModify receiverOnlyHP
  rw [hpGroups_eq_stored]
  decide +kernel

theorem default_create_table_safe : Default.createAcps.all (fun p => safeProfile p.acp) = true := by
  unfold safeProfile receiverOnlyHP
  rw [hpGroups_eq_stored]
  decide +kernel

theorem default_delete_table_safe : Default.deleteAcps.all (fun p => safeProfile p.acp) = true := by
  unfold safeProfile receiverOnlyHP
  rw [hpGroups_eq_stored]
  decide +kernel

/-- A check of the dump on its own; no theorem below rests on it (an entry-manager profile is one
of the escapes of `safeProfile`, and `Apart.not_safe` refutes it from the statement's premise). No
default *delete* profile is an entry-manager profile (delete honours entry managers, delete.rs;
create never does, create.rs). -/
theorem default_delete_no_entry_manager :
    Default.deleteAcps.all (fun p => !isEntryManager p.acp) = true := by
  decide +kernel

/-- The statement's premise holds on the freshly migrated server itself: every entry manager of a
group of the high-privilege closure is a group of that closure. -/
theorem default_hp_groups_managed_by_hp :
    Default.groupManagers.all
      (fun gm => !hpGroups.contains gm.1 || gm.2.all (fun m => hpGroups.contains m)) = true := by
  rw [hpGroups_eq_stored]
  decide +kernel

/-- The model's closure is what the server's memberof plugin stored on the freshly migrated
server: for every group and builtin account, `memberof` (dumped) = closure of its parents. -/
theorem default_memberof_is_closure :
    (Default.groupMemberOf ++ Default.accounts).all
      (fun gm =>
        let mo := memberofClosure Default.groups (parentsOf Default.groups gm.1)
        subset mo gm.2 && subset gm.2 mo) = true := by
  decide +kernel

theorem class_sensitive : A.Class ∈ sensitiveAttrs := by decide

/-- Of the four escapes of `safeModify`, `Apart.not_safe` leaves this one. -/
theorem Apart.grants_nothing_sensitive {id : Ident} {p : AcpModify} {mb : Option (List Nat)}
    {fe : Filter.Entry} (h : Apart id mb fe) (hs : safeModify p = true)
    (hpm : ProfileMatches id p.acp mb fe) :
    (∀ a, a ∈ p.presAttrs → a ∉ sensitiveAttrs) ∧ (∀ a, a ∈ p.remAttrs → a ∉ sensitiveAttrs) := by
  have hs : (safeProfile p.acp || modifyGrantsNothingSensitive p) = true := hs
  rw [h.not_safe hpm, Bool.false_or] at hs
  unfold modifyGrantsNothingSensitive at hs
  rw [Bool.and_eq_true, disjoint_iff, disjoint_iff] at hs
  exact hs

theorem Apart.allow_nothing_sensitive {id : Ident} {acps : List AcpModify}
    {ag : List (Nat × List Nat)} {e : Ent} {a : ModAllow} (h : Apart id e.managedBy e.fe)
    (hsafe : acps.all safeModify = true) (hU : UserAllow id (modifyRelatedAcp id acps) ag e a) :
    (∀ x, x ∈ a.pres → x ∉ sensitiveAttrs) ∧ (∀ x, x ∈ a.rem → x ∉ sensitiveAttrs) := by
  have key := fun {p} (hp : p ∈ scopedModify id (modifyRelatedAcp id acps) e) =>
    h.grants_nothing_sensitive (List.all_eq_true.mp hsafe p (scopedModify_matches hp).1)
      (scopedModify_matches hp).2
  exact ⟨fun x hx => let ⟨_, hp, hxp⟩ := hU.pres x hx; (key hp).1 x hxp,
    fun x hx => let ⟨_, hp, hxp⟩ := hU.rem x hx; (key hp).2 x hxp⟩

theorem Apart.no_safe_match {α : Type} {prof : α → Profile} {acps : List α} {id : Ident}
    {mb : Option (List Nat)} {fe : Filter.Entry} (h : Apart id mb fe)
    (hsafe : acps.all (fun p => safeProfile (prof p)) = true) {p : α} (hp : p ∈ acps)
    (hpm : ProfileMatches id (prof p) mb fe) : False := by
  have hs := List.all_eq_true.mp hsafe p hp
  rw [h.not_safe hpm] at hs
  cases hs

theorem Apart.delete_refused {id : Ident} {acps : List AcpDelete} {e : Ent} (hu : IsUser id)
    (h : Apart id e.managedBy e.fe) (hsafe : acps.all (fun p => safeProfile p.acp) = true) :
    applyDeleteAccess id (deleteRelatedAcp id acps) e = false :=
  Bool.eq_false_iff.mpr fun hd => by
    obtain ⟨-, p, hp, hpm⟩ := delete_allowed_has_grant id hu acps e hd -- a matching profile `p`
    exact h.no_safe_match hsafe hp hpm

/-- Create never consults entry managers: `managedBy` is `none`. -/
theorem Apart.create_refused {id : Ident} {acps : List AcpCreate} {e : NewEnt} (hu : IsUser id)
    (hwf : A.Class ∈ e.attrs) (h : Apart id none e.fe)
    (hsafe : acps.all (fun p => safeProfile p.acp) = true) :
    createAllowPerEntry id (createRelatedAcp id acps) e = false :=
  Bool.eq_false_iff.mpr fun hc => by
    -- the one matching profile `p` that covers the entry
    obtain ⟨-, cls, -, p, hp, hpm, -⟩ := create_single_profile id hu acps e hwf hc
    exact h.no_safe_match hsafe hp hpm

/-- **Modify.** With the default profiles, a user outside the high-privilege group — whatever
built-in or other groups it belongs to — whose modification of a high-privilege entry is allowed
touches no credential-, session-, validity-, naming- or membership-bearing attribute of it, nor
its classes, provided the entry is not delegated to the user (the statement's premise). -/
theorem nonhp_cannot_modify_hp (id : Ident) (hu : IsUser id) (hn : NonHp id)
    (ag : List (Nat × List Nat)) (e : Ent) (hhp : IsHP e.fe) (hc : SelfConsistent id e.fe)
    (hm : ManagersAreHP id e.managedBy) (ml : List Mod)
    (h : modifyAllowPerEntry id (modifyRelatedAcp id Default.modifyAcps) ag e ml = true) :
    (∀ m, m ∈ ml → ∀ a, m.addsAttr = some a → a ∉ sensitiveAttrs) ∧
    (∀ m, m ∈ ml → ∀ a, m.removesAttr = some a → a ∉ sensitiveAttrs) ∧
    (∀ c, ¬ AddsClass e ml c) ∧ (∀ c, ¬ RemovesClass e ml c) := by
  obtain ⟨a, hU, hC⟩ := modifyAllow_user hu h
  obtain ⟨hpres, hrem⟩ :=
    (Apart.of_nonHp hn hhp hc hm).allow_nothing_sensitive default_modify_table_safe hU
  have hadd : ∀ m, m ∈ ml → ∀ a, m.addsAttr = some a → a ∉ sensitiveAttrs :=
    fun m hm x hx => hpres x (hC.adds m hm x hx)
  have hrm : ∀ m, m ∈ ml → ∀ a, m.removesAttr = some a → a ∉ sensitiveAttrs :=
    fun m hm x hx => hrem x (hC.removes m hm x hx)
  -- adding or removing a class is a modification of the attribute `class`, which is sensitive
  refine ⟨hadd, hrm, ?_, ?_⟩
  · rintro c (hpres | ⟨vs, hset, _, _⟩)
    · exact hadd _ hpres A.Class rfl class_sensitive
    · exact hadd _ hset A.Class rfl class_sensitive
  · rintro c (hr | ⟨vs, hset, _, _⟩)
    · exact hrm _ hr A.Class rfl class_sensitive
    · exact hrm _ hset A.Class rfl class_sensitive

/-- **Modify, as the caller observes it.** If a modify operation of such a user gets past the
access decision, then for every high-privilege candidate (not delegated to the user) the request
touches none of the sensitive attributes. -/
theorem nonhp_modify_op_spares_hp (id : Ident) (hu : IsUser id) (hn : NonHp id)
    (ag : List (Nat × List Nat)) (cands : List Ent) (ml : List Mod)
    (h : modifyOperation id ag cands ml = .proceed) :
    ∀ e, e ∈ cands → IsHP e.fe → SelfConsistent id e.fe → ManagersAreHP id e.managedBy →
      (∀ m, m ∈ ml → ∀ a, m.addsAttr = some a → a ∉ sensitiveAttrs) ∧
      (∀ m, m ∈ ml → ∀ a, m.removesAttr = some a → a ∉ sensitiveAttrs) := by
  intro e he hhp hc hm
  obtain ⟨_, _, hall, _⟩ := modifyOp_proceed id Default.modifyAcps ag cands ml h
  obtain ⟨hadds, hremoves, _⟩ := nonhp_cannot_modify_hp id hu hn ag e hhp hc hm ml (hall e he)
  exact ⟨hadds, hremoves⟩

/-- A request that touches a sensitive attribute of a high-privilege entry is refused with
`AccessDenied` (or finds nothing): the contrapositive, for one sensitive removal or addition. -/
theorem nonhp_sensitive_modify_denied (id : Ident) (hu : IsUser id) (hn : NonHp id)
    (ag : List (Nat × List Nat)) (e : Ent) (hhp : IsHP e.fe) (hc : SelfConsistent id e.fe)
    (hm : ManagersAreHP id e.managedBy) (ml : List Mod) (m : Mod) (hmem : m ∈ ml) (a : Nat)
    (hs : a ∈ sensitiveAttrs) (hma : m.addsAttr = some a ∨ m.removesAttr = some a) :
    modifyAllowPerEntry id (modifyRelatedAcp id Default.modifyAcps) ag e ml = false := by
  cases h : modifyAllowPerEntry id (modifyRelatedAcp id Default.modifyAcps) ag e ml with
  | false => rfl
  | true =>
    obtain ⟨hadds, hremoves, _⟩ := nonhp_cannot_modify_hp id hu hn ag e hhp hc hm ml h
    rcases hma with ha | ha
    · exact absurd hs (hadds m hmem a ha)
    · exact absurd hs (hremoves m hmem a ha)

/-- **Delete.** Such a user cannot delete a high-privilege entry. -/
theorem nonhp_cannot_delete_hp (id : Ident) (hu : IsUser id) (hn : NonHp id) (e : Ent)
    (hhp : IsHP e.fe) (hc : SelfConsistent id e.fe) (hm : ManagersAreHP id e.managedBy) :
    applyDeleteAccess id (deleteRelatedAcp id Default.deleteAcps) e = false :=
  (Apart.of_nonHp hn hhp hc hm).delete_refused hu default_delete_table_safe

theorem nonhp_delete_op_denied (id : Ident) (hu : IsUser id) (hn : NonHp id) (cands : List Ent)
    (e : Ent) (he : e ∈ cands) (hhp : IsHP e.fe) (hc : SelfConsistent id e.fe)
    (hm : ManagersAreHP id e.managedBy) : deleteOperation id cands ≠ .proceed := by
  intro h
  obtain ⟨_, hall, _⟩ := deleteOp_proceed id Default.deleteAcps cands h
  have := nonhp_cannot_delete_hp id hu hn e hhp hc hm
  rw [hall e he] at this
  cases this

/-- **Create.** Such a user cannot create an entry that claims membership of the high-privilege
group. -/
theorem nonhp_cannot_create_hp (id : Ident) (hu : IsUser id) (hn : NonHp id) (e : NewEnt)
    (hwf : A.Class ∈ e.attrs) (hhp : IsHP e.fe) (hc : SelfConsistent id e.fe) :
    createAllowPerEntry id (createRelatedAcp id Default.createAcps) e = false :=
  (Apart.of_nonHp hn hhp hc (by intro _ h; cases h)).create_refused hu hwf default_create_table_safe

/-! ### every combination of the default roles

`subsetsOf` and `isClosed` are the vocabulary of `every_default_role_subset_*` only. -/

def subsetsOf : List Nat → List (List Nat)
  | [] => [[]]
  | x :: xs => (subsetsOf xs).map (x :: ·) ++ subsetsOf xs

theorem mem_of_mem_subsetsOf : ∀ {l S : List Nat}, S ∈ subsetsOf l → ∀ x, x ∈ S → x ∈ l
  | [], S, h, x, hx => by
    rw [subsetsOf, List.mem_singleton] at h
    rwa [h] at hx
  | y :: ys, S, h, x, hx => by
    rw [subsetsOf, List.mem_append, List.mem_map] at h
    rcases h with ⟨T, hT, rfl⟩ | h
    · rcases List.mem_cons.mp hx with rfl | hx
      · exact List.mem_cons_self
      · exact List.mem_cons_of_mem _ (mem_of_mem_subsetsOf hT x hx)
    · exact List.mem_cons_of_mem _ (mem_of_mem_subsetsOf h x hx)

theorem self_mem_subsetsOf : ∀ l : List Nat, l ∈ subsetsOf l
  | [] => List.mem_singleton.mpr rfl
  | x :: xs => by
    rw [subsetsOf, List.mem_append, List.mem_map]
    exact Or.inl ⟨xs, self_mem_subsetsOf xs, rfl⟩

theorem mem_nonHpGroups {g : Nat} :
    g ∈ nonHpGroups ↔ (∃ ms, (g, ms) ∈ Default.groups) ∧ g ∉ hpGroups := by
  simp [nonHpGroups, List.mem_filter]

def isClosed (gs : List (Nat × List Nat)) (mo : List Nat) : Bool :=
  mo.all fun g => (parentsOf gs g).all fun p => mo.contains p

theorem isClosed_iff {gs : List (Nat × List Nat)} {mo : List Nat} :
    isClosed gs mo = true ↔ Closed gs mo := by
  simp only [isClosed, List.all_eq_true, List.contains_iff_mem, mem_parentsOf, Closed]
  exact ⟨fun h g hg p ms hmem hgm => h g hg p ⟨ms, hmem, hgm⟩,
    fun h g hg p ⟨ms, hmem, hgm⟩ => h g hg p ms hmem hgm⟩

/-- A `memberof` that stays outside the high-privilege closure: closed under the default nesting,
without `idm_high_privilege`, without any group of the closure. -/
structure OutsideHp (mo : List Nat) : Prop where
  closed : Closed Default.groups mo
  lacksHp : Default.uuidHighPrivilege ∉ mo
  avoids : ∀ g, g ∈ mo → g ∉ hpGroups

/-- Whatever default groups outside the high-privilege closure an account is put in directly, its
`memberof` stays outside: none of those groups reaches `idm_high_privilege`, so nothing above
them does (`closure_avoids`). -/
theorem closure_of_nonHp {S : List Nat} (hS : ∀ g, g ∈ S → g ∈ nonHpGroups) :
    OutsideHp (memberofClosure Default.groups S) := by
  have h := closure_avoids (gs := Default.groups) (hp := Default.uuidHighPrivilege)
    fun s hs hb =>
      let ⟨hk, hn⟩ := mem_nonHpGroups.mp (hS s hs)
      hn (mem_hpGroupsOf.mpr ⟨hk, hb⟩)
  exact ⟨memberofClosure_closed _ _, fun hm => h _ hm (.inl rfl),
    fun g hg hh => h g hg (mem_hpGroupsOf.mp hh).2⟩

/-- The default groups outside the high-privilege closure are closed under the nesting: a group
above one of them that reached `idm_high_privilege` would take it along. So an account in all of
them has exactly them as `memberof`. -/
theorem nonHpGroups_closed : Closed Default.groups nonHpGroups := fun g hg p ms hmem hgm =>
  have h := closure_of_nonHp (S := [g]) fun _ hx => List.mem_singleton.mp hx ▸ hg
  mem_nonHpGroups.mpr ⟨⟨ms, hmem⟩,
    h.avoids p (h.closed g (subset_closeN _ _ List.mem_cons_self) p ms hmem hgm)⟩

theorem memberofClosure_nonHpGroups : memberofClosure Default.groups nonHpGroups = nonHpGroups :=
  closeN_of_closed nonHpGroups_closed _

/-- **Every combination of the default groups outside the closure** (dynamic groups included)
gives a `memberof` that is closed, contains no group of the high-privilege closure and not
`idm_high_privilege` itself: the hypothesis `NonHp` of the theorems above is met by each of them
(and the closure computation reached its fixpoint). -/
theorem every_default_role_subset_is_nonHp :
    (subsetsOf nonHpGroups).all (fun S =>
      let mo := memberofClosure Default.groups S
      isClosed Default.groups mo && !mo.contains Default.uuidHighPrivilege
        && disjoint mo hpGroups) = true := by
  rw [List.all_eq_true]
  intro S hS
  have h := closure_of_nonHp (mem_of_mem_subsetsOf hS)
  simp only [Bool.and_eq_true, Bool.not_eq_true', ← Bool.not_eq_true, List.contains_iff_mem,
    disjoint_iff, isClosed_iff]
  exact ⟨⟨h.closed, h.lacksHp⟩, h.avoids⟩

theorem actor_memberof {u : Nat} {S mo : List Nat} (hS : ∀ g, g ∈ S → g ∈ nonHpGroups)
    (hmo : (actor u S).memberof = some mo) : OutsideHp mo := by
  unfold actor Ident.memberof at hmo
  simp only [] at hmo
  split at hmo
  · cases hmo
  · cases hmo
    exact closure_of_nonHp hS

theorem actor_nonHp (u : Nat) (S : List Nat) (hS : S ∈ subsetsOf nonHpGroups) :
    NonHp (actor u S) :=
  fun _ hmo =>
    let h := actor_memberof (mem_of_mem_subsetsOf hS) hmo
    ⟨h.closed, h.lacksHp⟩

/-- What the default profiles leave open on an entry, for an identity. -/
def openAttrs (id : Ident) (e : Ent) : Option (List Nat × List Nat) :=
  match applyModifyAccess id (modifyRelatedAcp id Default.modifyAcps) [] e with
  | .deny => some ([], [])
  | .grant => none
  | .allow a => some (a.pres, a.rem)

def nothingSensitive (r : Option (List Nat × List Nat)) : Bool :=
  match r with
  | none => false
  | some (p, rm) => disjoint p sensitiveAttrs && disjoint rm sensitiveAttrs

theorem nothingSensitive_openAttrs {id : Ident} {e : Ent} (hu : IsUser id)
    (h : Apart id e.managedBy e.fe) : nothingSensitive (openAttrs id e) = true := by
  unfold openAttrs
  rcases applyModify_user hu (modifyRelatedAcp id Default.modifyAcps) [] e with hd | ⟨a, ha, hU⟩
  · rw [hd]; rfl
  · rw [ha]
    show (disjoint a.pres sensitiveAttrs && disjoint a.rem sensitiveAttrs) = true
    rw [Bool.and_eq_true, disjoint_iff, disjoint_iff]
    exact h.allow_nothing_sensitive default_modify_table_safe hU

/-- a read-write user whose `memberof` is exactly `mo` -/
def userWith (u : Nat) (mo : List Nat) : Ident := ⟨.user u (some mo), .readWrite⟩

theorem apart_userWith {u : Nat} {mo : List Nat} {e : Ent} (hmo : ∀ g, g ∈ mo → g ∈ nonHpGroups)
    (hhp : IsHP e.fe) (hns : (e.fe A.Uuid).contains (Val.num u) = false)
    (hm : ∀ ems, e.managedBy = some ems → ∀ m, m ∈ ems → m ≠ u ∧ m ∈ hpGroups) :
    Apart (userWith u mo) e.managedBy e.fe where
  groups _ h g hg := by
    obtain rfl := Option.some.inj h
    exact (mem_nonHpGroups.mp (hmo g hg)).2
  isHP := hhp
  notSelf := hns
  managers ems hems m hmem :=
    ⟨(hm ems hems m hmem).1, fun _ h hin => by
      obtain rfl := Option.some.inj h
      exact (mem_nonHpGroups.mp (hmo m hin)).2 (hm ems hems m hmem).2⟩

def uActor : Nat := 0x10000000000040008000000000c25001
def uPerson : Nat := 0x10000000000040008000000000c25002
def uService : Nat := 0x10000000000040008000000000c25003
def uGroup : Nat := 0x10000000000040008000000000c25004
def uuidIdmAdmins : Nat := 1
def uuidServiceDesk : Nat := 0x41
def mkFe (uuid : Nat) (classes : List Nat) (memberof : List Nat) (extra : List (Nat × List Val)) :
    Filter.Entry :=
  Entry.ofList ([(A.Class, classes.map fun c => Val.str [c]), (A.Uuid, [Val.num uuid]),
    (A.Name, [Val.str [110]])] ++
    (if memberof.isEmpty then [] else [(A.MemberOf, memberof.map Val.num)]) ++ extra)

def mkEnt (uuid : Nat) (classes : List Nat) (memberof : List Nat) (mb : Option (List Nat)) : Ent :=
  ⟨uuid, some classes, mb, none,
    mkFe uuid classes memberof (match mb with
      | some l => [(A.EntryManagedBy, l.map Val.num)]
      | none => [])⟩

def hpPerson : Ent :=
  mkEnt uPerson [C.Object, C.Account, C.Person, C.MemberOf]
    [uuidIdmAdmins, Default.uuidHighPrivilege] none
def hpService : Ent :=
  mkEnt uService [C.Object, C.Account, C.ServiceAccount, C.MemberOf]
    [uuidServiceDesk, Default.uuidHighPrivilege] (some [uuidIdmAdmins])
def hpGroup : Ent :=
  mkEnt uGroup [C.Object, C.Group, C.MemberOf] [uuidServiceDesk, Default.uuidHighPrivilege]
    (some [uuidIdmAdmins])
theorem idmAdmins_hp : uuidIdmAdmins ∈ hpGroups := by
  rw [hpGroups_eq_stored]
  decide +kernel

theorem hpPerson_isHP : IsHP hpPerson.fe := by unfold IsHP; decide +kernel

theorem managedBy_idmAdmins {mb : Option (List Nat)} (hmb : mb = some [uuidIdmAdmins]) :
    ∀ ems, mb = some ems → ∀ m, m ∈ ems → m ≠ uActor ∧ m ∈ hpGroups := by
  intro ems h m hm
  obtain rfl := Option.some.inj (hmb.symm.trans h)
  obtain rfl := List.mem_singleton.mp hm
  exact ⟨by decide, idmAdmins_hp⟩

/-- **All 2^n combinations** used directly as `memberof`, closed under the nesting or not: each such
user is `Apart` from a high-privilege person (here) and group (next), so nothing sensitive is left
open on them; for the service account the third theorem ranges over no role, every single role
and all of them. -/
theorem every_default_role_subset_spares_hp_person :
    (subsetsOf nonHpGroups).all (fun mo =>
      nothingSensitive (openAttrs (userWith uActor mo) hpPerson)) = true := by
  rw [List.all_eq_true]
  intro mo hmo
  exact nothingSensitive_openAttrs ⟨_, _, rfl⟩ (apart_userWith (mem_of_mem_subsetsOf hmo)
    hpPerson_isHP (by decide +kernel) (fun _ h => nomatch h))

theorem every_default_role_subset_spares_hp_group :
    (subsetsOf nonHpGroups).all (fun mo =>
      nothingSensitive (openAttrs (userWith uActor mo) hpGroup)) = true := by
  rw [List.all_eq_true]
  intro mo hmo
  exact nothingSensitive_openAttrs ⟨_, _, rfl⟩ (apart_userWith (mem_of_mem_subsetsOf hmo)
    (by unfold IsHP; decide +kernel) (by decide +kernel) (managedBy_idmAdmins rfl))

/-- the service account: every single role, none, and all of them -/
theorem every_default_role_spares_hp_service :
    (([] :: nonHpGroups :: nonHpGroups.map ([·])).all fun mo =>
      nothingSensitive (openAttrs (userWith uActor mo) hpService)) = true := by
  rw [List.all_eq_true]
  intro mo hmo
  have hsub : ∀ g, g ∈ mo → g ∈ nonHpGroups := by
    intro g hg
    rw [List.mem_cons, List.mem_cons, List.mem_map] at hmo
    rcases hmo with h | h | ⟨g', hg', h⟩
    · rw [h] at hg; cases hg
    · rwa [h] at hg
    · rw [← h, List.mem_singleton] at hg; rwa [hg]
  exact nothingSensitive_openAttrs ⟨_, _, rfl⟩ (apart_userWith hsub
    (by unfold IsHP; decide +kernel) (by decide +kernel) (managedBy_idmAdmins rfl))

/-! ### non-vacuity: the hypotheses are satisfiable, the model is not simply refusing -/

def allRoles : List Nat := nonHpGroups

def uuidAccountMailRead : Nat := 0x39
def uuidAllPersons : Nat := 0x35
def uuidAllAccounts : Nat := 0x36

def plainPerson : Ent := mkEnt uPerson [C.Object, C.Account, C.Person] [] none
def plainGroupManaged : Ent :=
  mkEnt uGroup [C.Object, C.Group] [] (some [uuidAccountMailRead])
/-- against the premise: a high-privilege group whose entry manager is outside the closure -/
def hpGroupDelegated : Ent :=
  mkEnt uGroup [C.Object, C.Group, C.MemberOf] [uuidServiceDesk, Default.uuidHighPrivilege]
    (some [uuidAccountMailRead])
/-- the acting person's own entry, for the direct memberships `S` -/
def actorEntry (S : List Nat) : Ent :=
  mkEnt uActor [C.Object, C.Account, C.Person, C.MemberOf] (memberofClosure Default.groups S) none

example : allRoles ∈ subsetsOf nonHpGroups := self_mem_subsetsOf _
example : IsHP hpPerson.fe := hpPerson_isHP
example : SelfConsistent (actor uActor allRoles) hpPerson.fe := by
  intro h; exact absurd h (by decide +kernel)
example : ManagersAreHP (actor uActor allRoles) hpGroup.managedBy := by
  intro ems h m hm
  obtain rfl := Option.some.inj h
  obtain rfl := List.mem_singleton.mp hm
  exact ⟨by decide, fun mo hmo hmem =>
    absurd idmAdmins_hp ((actor_memberof (fun _ h => h) hmo).avoids _ hmem)⟩

/-- a person holding every default role outside the closure may rename itself …
(the rewrites hand the kernel that person's `memberof`, `memberofClosure_nonHpGroups`, and the
stored high-privilege closure, `hpGroups_eq_stored`, in place of their computations) -/
example : modifyDecision (actor uActor allRoles) [] [actorEntry allRoles]
    [.purged A.DisplayName, .present A.DisplayName 0] = true := by
  rw [allRoles, actor, actorEntry, memberofClosure_nonHpGroups, nonHpGroups, hpGroups_eq_stored]
  decide +kernel
/-- … and reset its own credential (idm_acp_self_write) … -/
example : modifyDecision (actor uActor allRoles) [] [actorEntry allRoles]
    [.purged A.PrimaryCredential] = true := by
  rw [allRoles, actor, actorEntry, memberofClosure_nonHpGroups, nonHpGroups, hpGroups_eq_stored]
  decide +kernel
/-- … and manage the members of a group delegated to one of its roles … -/
example : modifyDecision (actor uActor [uuidAccountMailRead, uuidAllPersons, uuidAllAccounts]) []
    [plainGroupManaged] [.present A.Member 0] = true := by decide +kernel
/-- … but none of this on the high-privilege twins: -/
example : modifyDecision (actor uActor allRoles) [] [hpPerson] [.purged A.PrimaryCredential]
    = false := by
  rw [allRoles, actor, memberofClosure_nonHpGroups, nonHpGroups, hpGroups_eq_stored]
  decide +kernel
example : modifyDecision (actor uActor allRoles) [] [hpGroup] [.present A.Member 0] = false := by
  rw [allRoles, actor, memberofClosure_nonHpGroups, nonHpGroups, hpGroups_eq_stored]
  decide +kernel
example : deleteDecision (actor uActor allRoles) [hpPerson] = false := by
  rw [allRoles, actor, memberofClosure_nonHpGroups, nonHpGroups, hpGroups_eq_stored]
  decide +kernel
/-- a member of idm_people_admins (inside the closure) *can* reset a high-privilege person's
credential: the refusals above are not the model refusing everything -/
example : modifyDecision (actor uActor [0x13]) [] [hpPerson] [.purged A.PrimaryCredential]
    = true := by decide +kernel
/-- **The premise is needed**: a high-privilege group delegated to a role outside the closure
can have its members changed by that role (`idm_acp_group_entry_manager` has no HP clause). -/
example : modifyDecision (actor uActor [uuidAccountMailRead, uuidAllPersons, uuidAllAccounts]) []
    [hpGroupDelegated] [.present A.Member 0] = true := by decide +kernel
/-- nobody outside `idm_people_admins` / on-boarding creates persons: plain or high-privilege -/
example : createDecision (actor uActor allRoles)
    [⟨some uPerson, some [C.Object, C.Account, C.Person], [A.Class, A.Name, A.DisplayName],
      plainPerson.fe⟩] = false := by
  rw [allRoles, actor, memberofClosure_nonHpGroups, nonHpGroups, hpGroups_eq_stored]
  decide +kernel

end Kanidm.Access.Default
