import KanidmProofs.Lemmas.Actors
/-!
# C47 — stopping a supervisor stops everything under it

Theorems over `Kanidm.Actors` (model of `libs/actors/src/lib.rs`; statement orders and select
arms regenerated from the source into `Kanidm.Gen.Actors`).  `Reach σ` quantifies over every
tree (built dynamically by `spawnSup`/`spawnActor`, any depth and width) and every interleaving
of task steps and environment events.  (`stop_request_is_heard` is in `Lemmas/Actors.lean`.)
-/
namespace Kanidm.Actors
open Kanidm.Gen.Actors

/-- A completed actor has run its cleanup. -/
theorem exit_implies_cleanup_ran {σ : State} (h : Reach σ) {a : Nat} {n : Node}
    (ha : σ.nodes a = some n) (hk : n.kind = .actor) (hd : n.done = true) : n.cleaned = true := by
  rw [Node.done_iff] at hd
  exact ((h.inv.loc a n ha).cleaned_iff hk).mpr hd

/-- **Safety.** Once `Supervisor::stop` (or `Runtime::exec`) has returned for supervisor `s`, every
task registered under it — transitively, while the registering supervisor's task was running —
has completed, and every such actor completed only after its `cleanup` ran. -/
theorem stop_returned_implies_all_done {σ : State} (h : Reach σ) {s d : Nat} {sn : Node}
    (hs : σ.nodes s = some sn) (hk : sn.kind = .sup) (hr : sn.returned = true)
    (hd : Registered σ s d) :
    ∃ dn, σ.nodes d = some dn ∧ dn.done = true ∧ (dn.kind = .actor → dn.cleaned = true) := by
  have inv := h.inv
  induction hd with
  | refl =>
    refine ⟨sn, hs, ?_, fun e => by rw [hk] at e; cases e⟩
    rw [Node.done_iff]; exact (inv.loc s sn hs).returned_done hk hr
  | @child d p dn hdn hp ho _ ih =>
    obtain ⟨pn, hpn, hpd, _⟩ := ih
    have hdd := inv.doneKids d dn p pn hdn hp hpn hpd ho
    exact ⟨dn, hdn, hdd, fun e => exit_implies_cleanup_ran h hdn e hdd⟩

example : ∃ σ s d sn, Reach σ ∧ σ.nodes s = some sn ∧ sn.kind = .sup ∧ sn.returned = true ∧
    Registered σ s d ∧ d ≠ s := by
  -- primary 0, subordinate 1, actor 2 under 1; stop 1
  have hr : run init [.spawnSup none, .spawnSup (some 0), .spawnActor 1, .setupDone 2, .ready 2,
      .stopReq 1, .supStep 1, .supStep 1, .stepDone 2, .seeStop 2, .cleanupDone 2, .supStep 1,
      .stopReturn 1] = some _ := rfl
  refine ⟨_, 1, 2, _, reach_run Reach.init hr, rfl, rfl, rfl, ?_, by decide⟩
  exact Registered.child (p := 1) rfl rfl rfl Registered.refl

/-- The same for every descendant, when nothing was registered on a supervisor whose task had
already completed (no orphan): the tree-level statement of the property. -/
theorem stop_returned_all_descendants_done {σ : State} (h : Reach σ)
    (hno : ∀ i n, σ.nodes i = some n → n.orphan = false) {s d : Nat} {sn : Node}
    (hs : σ.nodes s = some sn) (hk : sn.kind = .sup) (hr : sn.returned = true)
    (hd : Desc σ s d) :
    ∃ dn, σ.nodes d = some dn ∧ dn.done = true ∧ (dn.kind = .actor → dn.cleaned = true) := by
  apply stop_returned_implies_all_done h hs hk hr
  induction hd with
  | refl => exact Registered.refl
  | child hdn hp _ ih => exact Registered.child hdn hp (hno _ _ hdn) ih

/-- It stays that way: in every later state of every continuation the registered tasks are still
completed, and none of their steps is enabled (so they handle nothing further). -/
theorem stop_returned_stable {σ σ' : State} (h : Reach σ) {es : List Ev}
    (hrun : run σ es = some σ') {s d : Nat} {sn : Node}
    (hs : σ.nodes s = some sn) (hk : sn.kind = .sup) (hr : sn.returned = true)
    (hd : Registered σ s d) :
    ∃ dn, σ'.nodes d = some dn ∧ dn.done = true ∧ (dn.kind = .actor → dn.cleaned = true) ∧
      ∀ e ∈ [Ev.setupDone d, .ready d, .stepDone d, .selfStop d, .seeStop d, .cleanupDone d,
        .supStep d], step σ' e = none := by
  -- all that is used of the supervisor is that `d` has completed: `pc` only grows
  obtain ⟨dn, hdn, hdd, -⟩ := stop_returned_implies_all_done h hs hk hr hd
  obtain ⟨h', hext⟩ := run_spec h hrun
  obtain ⟨dn', hdn', hm⟩ := hext d dn hdn
  have hdd' : dn'.done = true := hm.done_mono hdd
  refine ⟨dn', hdn', hdd', fun e => exit_implies_cleanup_ran h' hdn' e hdd', ?_⟩
  have hop : ∀ k, dn'.op ≠ some k := by
    intro k hk; rw [Node.op_iff] at hk; rw [Node.done_iff] at hdd'; omega
  intro e he
  simp only [List.mem_cons, List.mem_nil_iff, or_false] at he
  rcases he with rfl | rfl | rfl | rfl | rfl | rfl | rfl <;>
    simp [step, actorStep, Kanidm.Actors.supStep, hdn', hop] <;>
    cases dn'.kind <;> simp

/-- A task that has left its loop, by a stop it saw or by `ActorState::Stop`, handles no further
message in any continuation. -/
theorem past_loop_handles_nothing {σ σ' : State} (h : Reach σ) {es : List Ev}
    (hrun : run σ es = some σ') {a : Nat} {n : Node} (hn : σ.nodes a = some n) (hpc : 2 ≤ n.pc) :
    step σ' (.ready a) = none := by
  obtain ⟨m, hm, hu⟩ := (run_spec h hrun).2 a n hn
  have hop : m.op ≠ some 1 := by
    intro e; rw [Node.op_iff] at e; have := hu.pc; omega
  cases hk : m.kind <;> simp [step, actorStep, hm, hk, hop]

/-- After an actor observed the stop, it handles no further message, in any continuation. -/
theorem no_message_after_stop_observed {σ σ1 σ2 : State} (h : Reach σ) {a : Nat} {es : List Ev}
    (h1 : step σ (.seeStop a) = some σ1) (h2 : run σ1 es = some σ2) :
    step σ2 (.ready a) = none := by
  have r1 : Reach σ1 := Reach.step _ h h1
  obtain ⟨n, hn, hk, -, rfl⟩ := nodeStep_spec (K := .actor) h1
  let n' : Node := { n with pc := n.pc + 1, sawStop := true }
  have hn1 : (σ.set a n').nodes a = some n' := if_pos rfl
  -- an actor that saw the stop is past its loop
  exact past_loop_handles_nothing r1 h2 hn1
    ((r1.inv.loc a n' hn1).sawStop_pc hk rfl)

/-- A receiver created after the broadcast is not lost for ever: it observes the stop as soon as
the sender side is gone (parent task completed and the `Supervisor` handle dropped). -/
theorem no_lost_stop {σ : State} {a : Nat} {n : Node}
    (ha : σ.nodes a = some n) (hk : n.kind = .actor) (hl : n.pc = 1) (hi : n.inStep = false)
    (hc : σ.parentClosed n = true) : (step σ (.seeStop a)).isSome = true :=
  seeStop_enabled ha hk hl hi (Or.inr hc)

/-- An actor that is between two messages observes a waiting stop: the step that takes it to its
cleanup is enabled (and `run` is not entered again, see `no_message_after_stop_observed`). -/
theorem pending_stop_is_observable {σ : State} {a : Nat} {n : Node}
    (ha : σ.nodes a = some n) (hk : n.kind = .actor) (hl : n.pc = 1) (hi : n.inStep = false)
    (hp : n.pending = true) : (step σ (.seeStop a)).isSome = true :=
  seeStop_enabled ha hk hl hi (Or.inl hp)

/-- `Runtime::exec` leaves its loop on Terminate and Interrupt only (pins the generated table). -/
theorem exec_leaves_loop_on_terminate_and_interrupt :
    execSignalBreaks = [true, true, false, false, false, false] := by decide

/-- **No deadlock while stopping** (the safety half of liveness).  As long as nothing was registered
on a supervisor after its broadcast, a supervisor that can leave its loop, or has left it, and has
not completed always has a task below it (or itself) whose next step is enabled: with every actor
step terminating and a fair scheduler the stop therefore completes.  Fairness and termination of
the actor callbacks are the trusted part. -/
theorem stopping_makes_progress {σ : State} (h : Reach σ)
    (hno : ∀ i n, σ.nodes i = some n → n.late = false) {s : Nat} {sn : Node}
    (hs : σ.nodes s = some sn) (hk : sn.kind = .sup)
    (hb : σ.canBreak sn = true ∨ 1 ≤ sn.pc) (hnd : sn.done = false) :
    ∃ d, Desc σ s d ∧ Enabled σ d :=
  stopping_progress_aux h.inv hno s sn hs hk hb hnd

example : ∃ σ s sn, Reach σ ∧ (∀ i n, σ.nodes i = some n → n.late = false) ∧
    σ.nodes s = some sn ∧ sn.kind = .sup ∧ 1 ≤ sn.pc ∧ sn.done = false := by
  have hr : run init [.spawnSup none, .spawnSup (some 0), .spawnActor 1, .stopReq 1, .supStep 1]
      = some _ := rfl
  refine ⟨_, 1, _, reach_run Reach.init hr, ?_, rfl, rfl, by decide, rfl⟩
  intro i n hi
  have h3 : i < 3 := (reach_run Reach.init hr).inv.lt_size hi
  match i, h3 with
  | 0, _ => injection hi with hi; subst hi; rfl
  | 1, _ => injection hi with hi; subst hi; rfl
  | 2, _ => injection hi with hi; subst hi; rfl

/-- The statement for *all* descendants, including tasks registered on a subordinate handle
after that subordinate's task has completed. -/
def stop_full : Prop :=
  ∀ σ, Reach σ → ∀ s d sn, σ.nodes s = some sn → sn.kind = .sup → sn.returned = true →
    Desc σ s d → ∃ dn, σ.nodes d = some dn ∧ dn.done = true

/-- It is false of the code: `Supervisor::spawn` on a subordinate whose task already stopped
(primary 0, supervisor 1, subordinate 2 of 1; stop 1; 2 completes; spawn actor 3 on handle 2;
1 completes, `stop` returns; actor 3 is alive). -/
theorem stop_full_false : ¬ stop_full := by
  intro hf
  have hr : run init [.spawnSup none, .spawnSup (some 0), .spawnSup (some 1), .stopReq 1,
      .supStep 1, .supStep 1, .supStep 2, .supStep 2, .supStep 2, .spawnActor 2, .supStep 1,
      .stopReturn 1] = some _ := rfl
  obtain ⟨dn, hdn, hdd⟩ := hf _ (reach_run Reach.init hr) 1 3 _ rfl rfl rfl
    (Desc.child (p := 2) rfl rfl (Desc.child (p := 1) rfl rfl Desc.refl))
  injection hdn with hdn
  subst hdn
  simp [Node.done, Node.prog, actorRun] at hdd

/-- The progress statement without the no-late-registration premise. -/
def progress_full : Prop :=
  ∀ σ, Reach σ → ∀ s sn, σ.nodes s = some sn → sn.kind = .sup → 1 ≤ sn.pc → sn.done = false →
    ∃ d, Desc σ s d ∧ Enabled σ d

/-- It is false of the code: primary 0, supervisor 1, subordinate 2 of 1 hosting actor 3; stop 1;
3 completes; before task 2 is polled again actor 4 is spawned on handle 2 (`subscribe()` re-opens
the channel, 4 never gets the message): 2 waits for 4, 1 waits for 2, 4 waits for 2 — no task of
the system can move, `stop` never returns. -/
theorem progress_full_false : ¬ progress_full := by
  intro hf
  have hr : run init [.spawnSup none, .spawnSup (some 0), .spawnSup (some 1), .spawnActor 2,
      .setupDone 3, .stopReq 1, .supStep 1, .supStep 1, .supStep 2, .supStep 2, .seeStop 3,
      .cleanupDone 3, .spawnActor 2, .setupDone 4] = some _ := rfl
  have hreach := reach_run Reach.init hr
  obtain ⟨d, _, he⟩ := hf _ hreach 1 _ rfl rfl (by decide) rfl
  obtain ⟨n, hn⟩ := he.node
  -- the state is closed and has five tasks: the kernel evaluates their steps
  exact (by unfold Enabled; decide +kernel : ∀ d < 5, ¬ Enabled _ d) d (hreach.inv.lt_size hn) he

end Kanidm.Actors
