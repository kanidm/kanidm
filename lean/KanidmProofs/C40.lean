import KanidmProofs.Lemmas.LdapGateway
/-!
# C40 — The LDAP gateway is read-only and no more privileged than its bind

Property theorems and the world of their examples (helpers in `Lemmas/LdapGateway.lean`).  `handleRequest` / `Conn.step` /
`runConn` / `dbAlong` are the transcription of `handle_ldaprequest`, `client_process` and
`LdapServer::do_op` with its handlers; every table they consult is regenerated from the source on
each run (`Generated/LdapGatewayOps.lean`), so the statements below are re-proved about the
tables the current source has.

Part (a): no request — and no sequence of requests, whatever else happens to the server in
between — changes the database.  Part (b): the identity a search or compare runs as is the one
its connection's last successful bind determines: the anonymous entry with read-only scope for
every password bind (POSIX or application), the token's own account and scope for a token bind.
-/
-- the evaluated examples compare `Except` values
deriving instance DecidableEq for Except

namespace Kanidm.Ldap
open Kanidm.Ldap.Gen

def exAcct (u : Nat) : Acct :=
  { uuid := u, isAccount := true, validFrom := none, expire := none, unixPw := none,
    unixNeedsUpgrade := false, memberOf := [], appPws := [] }

/-- anonymous = 0; alice = 10 (unix password 42, old hash, member of group 20, application
password 43 for application 30); bob = 11 (unix password 45, application password 44 but not a member, expires at 50); service
account 7 with api token secret 5 (read-write, expires at 100). -/
def exWorld (ct : Nat) (flag : Bool) : World :=
  { ct := ct, basedn := "dc=example,dc=com".toList, anonymous := 0,
    names := [("alice".toList, 10), ("bob".toList, 11), ("anonymous".toList, 0)],
    accts := [exAcct 0,
      { exAcct 10 with unixPw := some 42, unixNeedsUpgrade := true, memberOf := [20], appPws := [(30, 43)] },
      { exAcct 11 with expire := some 50, unixPw := some 45, appPws := [(30, 44)] }, exAcct 7],
    apps := [⟨"mail".toList, 30, 20⟩], allowUnixPwBind := flag,
    tokens := [(5, .apit 7 9 50 (some 100) .readWrite)], apiSessions := [9], uatValid := [] }

/-- `exWorld` with its names spelt as character lists.  The kernel decodes a string literal character by
character through its UTF-8 bytes; an evaluation on `exWorld` rewrites with this first, and with
`String.toList_ofList` for the literals of its own statement (`rw`: it unifies a literal with `String.ofList`). -/
theorem exWorld_chars (ct : Nat) (flag : Bool) : exWorld ct flag =
    { exWorld ct flag with
      basedn := ['d', 'c', '=', 'e', 'x', 'a', 'm', 'p', 'l', 'e', ',', 'd', 'c', '=', 'c', 'o', 'm'],
      names := [(['a', 'l', 'i', 'c', 'e'], 10), (['b', 'o', 'b'], 11),
        (['a', 'n', 'o', 'n', 'y', 'm', 'o', 'u', 's'], 0)],
      apps := [⟨['m', 'a', 'i', 'l'], 30, 20⟩] } := by
  rw [exWorld]
  repeat rw [String.toList_ofList]

/-! ## (a) read-only -/

/-- Exactly five wire operations reach `do_op`: simple bind, unbind, search, compare and "Who am I?".
(`ServerOps::try_from`, regenerated.) -/
theorem dispatched_ops (op : WireOp) :
    (wireDispatch op).isSome = true ↔
      op ∈ [WireOp.bindSimple, .unbindRequest, .searchRequest, .compareRequest, .extendedWhoami] := by
  cases op <;> decide

/-- Anything that is not one of the five operations (responses sent as requests, SASL binds,
abandon, …) is refused before any handler runs: the answer is a disconnection notice with
`protocolError` and nothing is queued. -/
theorem undispatched_refused (w : World) (st : Option Token) (m : Msg)
    (h : wireDispatch m.wireOp = none) : handleRequest w st m = (.disconnect .protocolError, []) := by
  unfold handleRequest
  rw [h]
  rfl

/-- Every update operation of RFC 4511 (Add, Modify, ModifyDN, Delete) and every extended
operation other than "Who am I?" is among them: refused before any handler runs, by a
disconnection notice with `protocolError`, whatever the connection state. -/
theorem update_ops_refused (w : World) (st : Option Token) (m : Msg) (h : m.wireOp.isUpdate = true) :
    handleRequest w st m = (.disconnect .protocolError, []) := by
  apply undispatched_refused
  cases m with
  | bind | search | compare => cases h
  | other op => cases op <;> first | rfl | cases h

example : handleRequest (exWorld 60 true) (some ⟨7, .apiToken 7 9 50 (some 100) .readWrite⟩)
    (.other .modifyRequest) = (.disconnect .protocolError, []) := by decide +kernel
example : (WireOp.all.filter WireOp.isUpdate).length = 5 := by decide +kernel

/-- … and the refusal ends the connection without touching its session (`client_process`:
`Disconnect` ⇒ send the notice, `break`). -/
theorem update_ops_close_connection (c : Conn) (w : World) (m : Msg) (h : m.wireOp.isUpdate = true) :
    (c.step w m).1 = ⟨c.session, true⟩ := by
  unfold Conn.step
  rw [update_ops_refused w c.session m h]
  rfl

/-- Every transaction a handler opens is a read transaction: `do_bind` ↦ `auth()`, `do_search`
/ `do_compare` ↦ `proxy_read()`, each of which calls `self.qs.read()`; and the scan of every
function reachable from `do_op` finds no call of the write API, the auth transaction's `commit`
is a no-op. -/
theorem handlers_open_read_transactions_only :
    (∀ h t, t ∈ handlerTxns h → txnQs t = .read) ∧ writeApiCalls = [] ∧ authCommitNoop = true :=
  ⟨handler_txns_read, rfl, rfl⟩

/-- One request (`dbAfter`: the wire dispatch, then the handlers `do_op` calls) leaves the database as
it was — for every database, every notion of
modification, everything the code inside the handlers may attempt, every world, connection state
and message. -/
theorem doOp_db_unchanged {DB Mod : Type} (apply : DB → Mod → DB) (beh : Behaviour DB Mod)
    (w : World) (st : Option Token) (m : Msg) (db : DB) : dbAfter apply beh w st m db = db := by
  unfold dbAfter
  split
  · rfl
  · apply foldl_const
    intro a h _
    exact runHandler_id apply beh w m a h

/-- No sequence of LDAP messages changes the database, for any interleaving of outside changes
to what the gateway reads (each message meets its own world). -/
theorem connection_db_unchanged {DB Mod : Type} (apply : DB → Mod → DB) (beh : Behaviour DB Mod)
    (c : Conn) (db : DB) (msgs : List (World × Msg)) : dbAlong apply beh c db msgs = db := by
  induction msgs generalizing c db with
  | nil => rfl
  | cons wm rest ih =>
    obtain ⟨w, m⟩ := wm
    unfold dbAlong
    split
    · rfl
    · rw [doOp_db_unchanged]
      exact ih _ _

/-- The statement is not empty: a transaction of the other kind *would* change the database in
this model (so the theorem above really rests on the generated transaction kinds). -/
example : commitTxn (fun (db : List Nat) (x : Nat) => x :: db) [] .write [7] = [7] := rfl
example : txnQs .proxyWrite = .write := rfl

/-- The only thing a bind leaves behind besides its answer is, possibly, one delayed action, and
then it is the password-hash upgrade of the account that has just bound successfully with its
correct unix password while the flag allows it (`auth_with_unix_pass`, the only `DelayedAction`
the reachable functions name). -/
theorem only_delayed_action_is_pw_upgrade (w : World) (dn : List Char) (pw : Nat) (sl : Bool)
    (d : DelayedKind × Nat × Nat) (hd : d ∈ (doBind w dn pw sl).delayed) :
    ∃ a, d = (.unixPwUpgrade, a.uuid, pw) ∧ bindTarget w dn pw = .ok (.account a.uuid) ∧
      w.acct a.uuid = some a ∧ a.unixPw = some pw ∧ a.unixNeedsUpgrade = true ∧
      w.allowUnixPwBind = true ∧ (doBind w dn pw sl).res = .ok (some ⟨a.uuid, .unixBind a.uuid⟩) := by
  obtain ⟨t, ht⟩ := doBind_delayed hd
  obtain ⟨tgt, hb⟩ := doBind_target ht
  cases doBind_ok hb ht with
  | unix _ hflag hacct _ _ hpw hds =>
    obtain rfl := acct_uuid hacct
    rw [hds] at hd
    split at hd
    · exact ⟨_, List.mem_singleton.mp hd, hb, hacct, hpw, ‹_›, hflag, ht⟩
    · cases hd
  | _ => simp_all  -- every other row queues nothing

example : (doBind (exWorld 60 true) "alice".toList 42 false).delayed = [(.unixPwUpgrade, 10, 42)] := by
  rw [exWorld_chars, String.toList_ofList]
  decide +kernel

/-- The table of delayed actions the reachable functions can send, as regenerated. -/
theorem delayed_sends_table :
    delayedSends = [("auth_with_unix_pass", DelayedKind.unixPwUpgrade)] := rfl

/-! ## (b) no more privileged than the bind -/

/-- **Password binds only ever yield anonymous-level read rights.**  Whatever DN and secret led
to a successful bind that did not go through the token path (POSIX password of any account,
application password, the anonymous bind itself), every later search or compare on that session
— in any later state of the server — runs as the *anonymous entry* with *read-only* scope, and
only while the bound account still exists and is inside its validity window. -/
theorem password_bind_anonymous_rights (w : World) (dn : List Char) (pw : Nat) (sl : Bool) (t : Token)
    (h : (doBind w dn pw sl).res = .ok (some t)) (hk : bindTarget w dn pw ≠ .ok .apiToken)
    (w' : World) (id : Ident) (hv : validateLdapSession w' t.session = .ok id) :
    id = ⟨w'.anonymous, .readOnly⟩ ∧
      ∃ a, w'.acct t.session.subject = some a ∧ a.withinValidTime w'.ct = true := by
  obtain ⟨tgt, hb⟩ := doBind_target h
  have hs : ∃ u, t.session = .unixBind u := by
    cases doBind_ok hb h with
    | uat | apit => exact absurd hb hk
    | _ => exact ⟨_, rfl⟩
  obtain ⟨u, hs⟩ := hs
  rw [hs, validate_unixBind] at hv
  obtain ⟨h1, a, h2, _, h3⟩ := processLdapUuid_ok hv
  exact ⟨h1, a, by rw [hs]; exact h2, h3⟩

example : (doBind (exWorld 60 true) "name=alice,dc=example,dc=com".toList 42 false).res
    = .ok (some ⟨10, .unixBind 10⟩) ∧
    bindTarget (exWorld 60 true) "name=alice,dc=example,dc=com".toList 42 = .ok (.account 10) ∧
    validateLdapSession (exWorld 70 true) (.unixBind 10) = .ok ⟨0, .readOnly⟩ := by
  rw [exWorld_chars 60, String.toList_ofList]
  decide +kernel

/-- The identity half of the same, for *any* session of a password kind, however obtained. -/
theorem password_session_anonymous_rights (w : World) (s : Session)
    (hk : s.kind = .unixBind ∨ s.kind = .applicationPasswordBind) (id : Ident)
    (hv : validateLdapSession w s = .ok id) : id = ⟨w.anonymous, .readOnly⟩ := by
  cases s with
  | unixBind u => rw [validate_unixBind] at hv; exact (processLdapUuid_ok hv).1
  | applicationPasswordBind x u => rw [validate_appPw] at hv; exact (processLdapUuid_ok hv).1
  | userAuthToken | apiToken => simp [Session.kind] at hk

/-- **POSIX password binds are refused unless the domain enables them**: with the flag off, a
bind whose DN names any account other than anonymous answers `invalidCredentials` — right or
wrong password, existing or not — and queues nothing. -/
theorem unix_bind_needs_flag (w : World) (dn : List Char) (pw u : Nat) (sl : Bool)
    (hb : bindTarget w dn pw = .ok (.account u)) (hu : u ≠ w.anonymous)
    (hf : w.allowUnixPwBind = false) :
    (doBind w dn pw sl).res = .ok none ∧ (doBind w dn pw sl).delayed = [] := by
  rw [doBind_account sl hb]
  exact authLdap_flag_off hf hu

example : bindTarget (exWorld 60 false) "alice".toList 42 = .ok (.account 10) ∧
    (doBind (exWorld 60 false) "alice".toList 42 false).res = .ok none ∧
    (doBind (exWorld 60 true) "alice".toList 42 false).res = .ok (some ⟨10, .unixBind 10⟩) := by
  rw [exWorld_chars 60 false, exWorld_chars 60 true, String.toList_ofList]
  decide +kernel

/-- A successful POSIX bind means: the flag is on, the account exists, is an account, is inside
its validity window, is not soft-locked, and the secret is its unix password; the session is
`UnixBind` of exactly that account. -/
theorem unix_bind_requires_password (w : World) (dn : List Char) (pw u : Nat) (sl : Bool) (t : Token)
    (hb : bindTarget w dn pw = .ok (.account u)) (hu : u ≠ w.anonymous)
    (h : (doBind w dn pw sl).res = .ok (some t)) :
    w.allowUnixPwBind = true ∧ sl = false ∧ t = ⟨u, .unixBind u⟩ ∧
      ∃ a, w.acct u = some a ∧ a.isAccount = true ∧ a.withinValidTime w.ct = true ∧ a.unixPw = some pw := by
  cases doBind_ok hb h with
  | anonymous => exact absurd rfl hu
  | unix _ hflag hacct hisAcct hvalid hpw => exact ⟨hflag, rfl, rfl, _, hacct, hisAcct, hvalid, hpw⟩

/-- **Application binds require membership of the application's group** (and a matching
application password of that very application, a valid non-anonymous account); the session is
`UnixBind` of that account, hence anonymous rights by the theorems above. -/
theorem app_bind_needs_linked_group (w : World) (dn : List Char) (pw u : Nat) (appName : List Char)
    (sl : Bool) (t : Token) (hb : bindTarget w dn pw = .ok (.application appName u))
    (h : (doBind w dn pw sl).res = .ok (some t)) :
    ∃ a app, w.acct u = some a ∧ u ≠ w.anonymous ∧ a.withinValidTime w.ct = true ∧
      w.apps.find? (·.name == appName) = some app ∧
      app.linkedGroup ∈ a.memberOf ∧ (app.uuid, pw) ∈ a.appPws ∧ t = ⟨u, .unixBind u⟩ := by
  cases doBind_ok hb h with
  | application hacct _ hne hvalid happ hmember hpw =>
    exact ⟨_, _, hacct, hne, hvalid, happ, hmember, hpw, rfl⟩

example : bindTarget (exWorld 60 true) "alice,app=mail".toList 43 = .ok (.application "mail".toList 10) ∧
    (doBind (exWorld 60 true) "alice,app=mail".toList 43 false).res = .ok (some ⟨10, .unixBind 10⟩) ∧
    -- bob holds an application password for the same application but is not in its group
    (doBind (exWorld 40 true) "bob,app=mail,dc=example,dc=com".toList 44 false).res = .ok none := by
  rw [exWorld_chars 60, exWorld_chars 40, String.toList_ofList, String.toList_ofList, String.toList_ofList]
  decide +kernel

/-- Not a member ⇒ refused, whatever the password. -/
theorem app_bind_nonmember_refused (w : World) (appName : List Char) (u pw : Nat) (a : Acct) (app : App)
    (ha : w.acct u = some a) (happ : w.apps.find? (·.name == appName) = some app)
    (hm : app.linkedGroup ∉ a.memberOf) :
    ∀ t, (applicationAuthLdap w appName u pw).res ≠ .ok (some t) := by
  intro t h
  cases applicationAuthLdap_bound false h with
  | application hacct _ _ _ hfind hmember =>
    rw [ha] at hacct; cases hacct
    rw [happ] at hfind; cases hfind
    exact hm hmember

/-- **The anonymous bind checks the anonymous account's validity** — at bind time and again at
every search / compare. -/
theorem anonymous_bind_validity_checked (w : World) (dn : List Char) (pw : Nat) (sl : Bool) (t : Token)
    (hb : bindTarget w dn pw = .ok (.account w.anonymous))
    (h : (doBind w dn pw sl).res = .ok (some t)) :
    t = ⟨w.anonymous, .unixBind w.anonymous⟩ ∧
      (∃ a, w.acct w.anonymous = some a ∧ a.withinValidTime w.ct = true) ∧
      ∀ w' id, validateLdapSession w' t.session = .ok id →
        ∃ a, w'.acct w.anonymous = some a ∧ a.withinValidTime w'.ct = true := by
  cases doBind_ok hb h with
  | unix hne => exact absurd rfl hne
  | anonymous hacct _ hvalid =>
    refine ⟨rfl, ⟨_, hacct, hvalid⟩, ?_⟩
    intro w' id hv
    rw [validate_unixBind] at hv
    obtain ⟨_, a', h4, _, h5⟩ := processLdapUuid_ok hv
    exact ⟨a', h4, h5⟩

example : bindTarget (exWorld 60 true) [] 0 = .ok (.account 0) ∧
    (doBind (exWorld 60 true) [] 0 false).res = .ok (some ⟨0, .unixBind 0⟩) := by decide +kernel

/-- **A token bind yields the token's own identity, nothing more**: the session carries exactly
the verified token; an api token's identity is the token's account with the scope of the token's
purpose; a UAT's identity is its account, read-write only inside the UAT's own privilege window. -/
theorem token_bind_identity_is_tokens (w : World) (dn : List Char) (pw : Nat) (sl : Bool) (t : Token)
    (hb : bindTarget w dn pw = .ok .apiToken) (h : (doBind w dn pw sl).res = .ok (some t)) :
    (∃ a s e pu, lookup pw w.tokens = some (.uat a s e pu) ∧ t = ⟨a, .userAuthToken a s e pu⟩ ∧
        ∀ w' id, validateLdapSession w' t.session = .ok id →
          id.entry = a ∧ (id.scope = .readOnly ∨
            (id.scope = .readWrite ∧ ∃ x, pu = .readWrite (some x) ∧ w'.ct < x))) ∨
    (∃ a ti i e pu, lookup pw w.tokens = some (.apit a ti i e pu) ∧ t = ⟨a, .apiToken a ti i e pu⟩ ∧
        ∀ w' id, validateLdapSession w' t.session = .ok id → id = ⟨a, apitScope pu⟩) := by
  cases doBind_ok hb h with
  | uat h1 =>
    refine Or.inl ⟨_, _, _, _, h1, rfl, ?_⟩
    intro w' id hv
    rw [validate_uat] at hv
    obtain ⟨h3, h4, _⟩ := processUat_ok hv
    exact ⟨h3, h4⟩
  | apit h1 =>
    refine Or.inr ⟨_, _, _, _, _, h1, rfl, ?_⟩
    intro w' id hv
    rw [validate_apit] at hv
    exact (processApit_ok hv).1

example : bindTarget (exWorld 60 true) "dn=token".toList 5 = .ok .apiToken ∧
    (doBind (exWorld 60 true) "dn=token".toList 5 false).res
      = .ok (some ⟨7, .apiToken 7 9 50 (some 100) .readWrite⟩) ∧
    validateLdapSession (exWorld 70 true) (.apiToken 7 9 50 (some 100) .readWrite) = .ok ⟨7, .readWrite⟩ ∧
    nativeTokenIdent (exWorld 70 true) 5 = .ok ⟨7, .readWrite⟩ := by
  rw [String.toList_ofList]
  decide +kernel

/-- A token bind succeeds only if the session it creates is usable at that moment: the identity
builder of the token kind (account inside its validity window, session still stored / not
revoked) is run before the token is handed out (`token_auth_ldap`, regenerated flags). -/
theorem token_bind_validated_at_bind (w : World) (dn : List Char) (pw : Nat) (sl : Bool) (t : Token)
    (hb : bindTarget w dn pw = .ok .apiToken) (h : (doBind w dn pw sl).res = .ok (some t)) :
    ∃ id, validateLdapSession w t.session = .ok id := by
  cases doBind_ok hb h with
  | uat _ _ hident => exact ⟨_, (validate_uat ..).trans hident⟩
  | apit _ _ _ hident => exact ⟨_, (validate_apit ..).trans hident⟩

example : (doBind { exWorld 60 true with apiSessions := [], grace := 0 } "dn=token".toList 5 false).res
    = .error .sessionExpired := by
  rw [String.toList_ofList]
  decide +kernel

/-- While the token is unexpired and still verifies to the same content, the identity a
token-bound LDAP session runs as is exactly the identity the native API derives from the same
token presented as a bearer token (both end in the same two builders). -/
theorem token_session_identity_eq_native (w w' : World) (dn : List Char) (pw : Nat) (sl : Bool) (t : Token)
    (hb : bindTarget w dn pw = .ok .apiToken) (h : (doBind w dn pw sl).res = .ok (some t))
    (hsame : lookup pw w'.tokens = lookup pw w.tokens)
    (hlive : ∀ info, lookup pw w.tokens = some info →
      match info with
      | .uat _ _ e _ => ∀ x, e = some x → w'.ct < x
      | .apit _ _ _ e _ => ∀ x, e = some x → w'.ct < x)
    (id : Ident) :
    validateLdapSession w' t.session = .ok id ↔ nativeTokenIdent w' pw = .ok id := by
  cases doBind_ok hb h with
  | uat h1 =>
    have hl := hlive _ h1
    simp only at hl
    rw [validate_uat]
    unfold nativeTokenIdent
    rw [hsame, h1]
    simp [uatExpired_eq_false.mpr hl]
  | @apit a _ _ _ _ _ _ _ h1 =>
    have hl := hlive _ h1
    simp only at hl
    rw [validate_apit]
    unfold nativeTokenIdent
    rw [hsame, h1]
    have he := apitExpired_eq_false.mpr hl
    cases hacc : w'.acct a with
    | none => simp [processApit, hacc, he]
    | some acc => simp [he, hacc]

/-- `token_session_identity_eq_native` without its hypothesis `hlive` (the token is still unexpired when
the session is used); false, see `token_session_identity_eq_native_full_false`. -/
def token_session_identity_eq_native_full : Prop :=
  ∀ (w w' : World) (dn : List Char) (pw : Nat) (sl : Bool) (t : Token) (id : Ident),
    bindTarget w dn pw = .ok .apiToken → (doBind w dn pw sl).res = .ok (some t) →
    lookup pw w'.tokens = lookup pw w.tokens →
    (validateLdapSession w' t.session = .ok id ↔ nativeTokenIdent w' pw = .ok id)

def witnessAcct : Acct := exAcct 7

def witnessWorld (ct : Nat) : World :=
  { ct := ct, basedn := "dc=example,dc=com".toList, anonymous := 0, names := [],
    accts := [witnessAcct, { witnessAcct with uuid := 0 }], apps := [], allowUnixPwBind := true,
    tokens := [(5, .apit 7 9 50 (some 100) .readWrite)], apiSessions := [9], uatValid := [] }

/-- … a session bound with an api token that expires at 100 still runs as the token's identity
at time 200 (`validate_ldap_session` → `process_apit_to_identity` → `check_api_token_valid` looks
at the account window and the stored session, never at `apit.expiry`), while the native API
refuses the same token with `SessionExpired`.  The harness replays this on the implementation. -/
theorem token_session_identity_eq_native_full_false : ¬ token_session_identity_eq_native_full := by
  intro h
  have := h (witnessWorld 60) (witnessWorld 200) [] 5 false ⟨7, .apiToken 7 9 50 (some 100) .readWrite⟩
    ⟨7, .readWrite⟩ (by decide) (by decide) (by decide)
  exact absurd (this.mp (by decide)) (by decide)

/-- The last token an outcome list handed to the wire layer, starting from `init`. -/
def lastToken (init : Option Token) (os : List Outcome) : Option Token :=
  os.foldl (fun s o => match o.token with | some t => some t | none => s) init

/-- **The connection's session is always the token of its most recent successful bind** —
explicit (`Bind`) or the implicit anonymous bind of an unbound search / compare; every other
response (failed bind included) leaves it alone.  For every sequence of requests and worlds. -/
theorem session_is_last_successful_bind (c : Conn) (msgs : List (World × Msg)) :
    (runConn c msgs).1.session = lastToken c.session (runConn c msgs).2 := by
  induction msgs generalizing c with
  | nil => rfl
  | cons wm rest ih =>
    obtain ⟨w, m⟩ := wm
    unfold runConn
    split
    · rfl
    · simp only [lastToken, List.foldl_cons]
      rw [ih]
      rw [step_session]
      rfl

/-- bind as alice, fail a bind, search: the search still runs on alice's (anonymous-rights)
session; an unbound search binds anonymously by itself. -/
example : (runConn Conn.start
      [(exWorld 60 true, .bind "alice".toList 42 false), (exWorld 60 true, .bind "alice".toList 1 false),
       (exWorld 60 true, .search "dc=example,dc=com".toList .subtree 0 none)]).2
    = [.bound ⟨10, .unixBind 10⟩, .respond .invalidCredentials none, .query ⟨0, .readOnly⟩ 0 none] ∧
    (runConn Conn.start [(exWorld 60 true, .search "dc=example,dc=com".toList .subtree 0 none)])
    = (⟨some ⟨0, .unixBind 0⟩, false⟩, [.query ⟨0, .readOnly⟩ 0 (some ⟨0, .unixBind 0⟩)]) := by
  rw [exWorld_chars, String.toList_ofList, String.toList_ofList]
  decide +kernel

/-- A bind that does not succeed leaves the session as it was. -/
theorem failed_bind_keeps_session (c : Conn) (w : World) (m : Msg)
    (h : (c.step w m).2.1.token = none) : (c.step w m).1.session = c.session := by
  rw [step_session, h]

/-- **The identity of every search / compare is the one its connection's session determines**:
the session of the last successful bind when there is one, otherwise the implicit bind's, which
is the anonymous `UnixBind`. -/
theorem query_identity_from_session (c : Conn) (w : World) (m : Msg) (id : Ident)
    (h : (∃ ext imp, (c.step w m).2.1 = .query id ext imp) ∨ (∃ imp, (c.step w m).2.1 = .compare id imp)) :
    (∃ t, c.session = some t ∧ validateLdapSession w t.session = .ok id) ∨
    (c.session = none ∧ validateLdapSession w (.unixBind w.anonymous) = .ok id) := by
  exact handleRequest_ident (Outcome.ident_eq_some.mpr h)

end Kanidm.Ldap
