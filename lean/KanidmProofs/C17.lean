import KanidmProofs.Lemmas.MemberOf
/-!
# C17 — Group membership closure is always exact

The model (`KanidmModel/MemberOf.lean`) transcribes `apply_memberof` as coded: a synchronous
worklist over the *stored* memberof of parent groups.  What the code maintains is **local
consistency** (`LC`: every live entry's stored values equal the recomputation from its parents'
stored values), not the least fixpoint.  Hence:

* `closure_exact_partial` — for every history (any length, any graph, cycles included) whose
  operations are create / member change / delete / revive of an entry that lists no members,
  after the last operation: directmemberof is exact, memberof ⊇ closure, and memberof = closure
  whenever the *current* graph is acyclic (has a topological ranking);
* `closure_exact_full` (the property as stated) is **false** of the code: `closure_exact_full_false`
  (D6: a stale value sustained by a cycle), `closure_exact_full_false_revive` (D16: reviving a group
  does not re-propagate to its members);
* `worklist_terminates_ranked` / `worklist_livelock` (D21): the loop ends within `R+1` rounds on a
  graph ranked below `R`, and never ends on the recorded cyclic witness.
-/
namespace Kanidm.MemberOf
open Kanidm.Gen.MemberOf

/-- The tie of the proofs to `memberof.rs` / `plugins/mod.rs`: the change test is a
disjunction, the modify delta is the symmetric difference, parents are merged into memberof in
both passes, a changed group enqueues its members, `pre_delete` stashes dmo and purges mo, and
referential integrity runs before memberof. -/
theorem ops_as_modelled :
    (∀ a b, changedComb a b = (a || b)) ∧ modifyDeltaOp = .symmetricDifference ∧
    mergeDmoIntoMo = true ∧ leafInheritsGroupMo = true ∧ enqueueMembersOnChange = true ∧
    preDeleteStashesDmo = true ∧ preDeletePurgesMo = true ∧ refintBeforeMemberOf = true :=
  ⟨fun _ _ => rfl, rfl, rfl, rfl, rfl, rfl, rfl, rfl⟩

/-- Local consistency gives the closure as a lower bound, on any graph. -/
theorem lc_superset {s : State} (hlc : LC s) :
    ∀ e ∈ s, e.live = true → ∀ q, Reach s q e.id → q ∈ e.mo := by
  intro e he hl q hr
  refine hr.ind (M := fun x => ∀ e ∈ s, e.live = true → e.id = x → q ∈ e.mo) ?_ e he hl rfl
  -- a parent `g` of `e` is `q`, or holds `q` already: either way the recomputation for `e` yields `q`
  rintro _ _ ⟨g, hg, hp, rfl⟩ hq e he hl rfl
  rw [(hlc e he hl).1 q]
  exact mem_moOf.mpr ⟨g, hg, hp, hq.imp_right fun ih => ih g hg (isPar_iff.mp hp).2.1 rfl⟩

theorem lc_dmo_exact {s : State} (hlc : LC s) :
    ∀ e ∈ s, e.live = true → ∀ p, p ∈ e.dmo ↔ Edge s p e.id :=
  fun e he hl p => ((hlc e he hl).2 p).trans mem_dmoOf

/-- Acyclicity is needed only above the entry: a stale value is sustained by a cycle and handed down only
to what the cycle reaches. -/
theorem lc_mo_exact_above {s : State} {rank : Nat → Nat} (hlc : LC s) {e : Entry} (he : e ∈ s)
    (hl : e.live = true)
    (hr : ∀ p y, Edge s p y → y = e.id ∨ Reach s y e.id → rank p < rank y) :
    ∀ q, q ∈ e.mo ↔ Reach s q e.id := by
  refine fun q => ⟨?_, lc_superset hlc e he hl q⟩
  -- memberof ⊆ closure for `e` and everything above it, by induction on the rank
  have key : ∀ n, ∀ y ∈ s, y.live = true → y.id = e.id ∨ Reach s y.id e.id → rank y.id = n →
      ∀ q, q ∈ y.mo → Reach s q y.id := by
    intro n
    induction n using Nat.strongRecOn with
    | _ n ih =>
      intro y hy hyl hye hn q hq
      obtain ⟨g, hg, hp, hq'⟩ := mem_moOf.mp (((hlc y hy hyl).1 q).mp hq)
      have hedge : Edge s g.id y.id := ⟨g, hg, hp, rfl⟩
      rcases hq' with hq' | hq'
      · exact hq' ▸ Reach.edge hedge
      · have hlt : rank g.id < n := hn ▸ hr _ _ hedge hye
        have hge : Reach s g.id e.id := hye.elim (fun h => h ▸ Reach.edge hedge) (Reach.head hedge)
        exact Reach.step (ih _ hlt g hg (isPar_iff.mp hp).2.1 (.inr hge) rfl q hq') hedge
  exact key _ e he hl (.inl rfl) rfl q

/-- On an acyclic (ranked) graph local consistency is exactness. -/
theorem exact_of_lc_ranked {s : State} {rank : Nat → Nat} (hlc : LC s) (hr : Ranked s rank) :
    Exact s :=
  fun e he hl => ⟨lc_mo_exact_above hlc he hl fun p y h _ => hr p y h, lc_dmo_exact hlc e he hl⟩

/-- `closureIter` (breadth-first rounds over direct parents) collects exactly the specification's
reachability as the round count grows.  The driver's `closure` is round `s.length`; that this many
rounds suffice is not proved here (the harness compares it with its own oracle after every op). -/
theorem closure_is_reach (s : State) (x p : Nat) :
    Reach s p x ↔ ∃ k, p ∈ closureIter s x k :=
  ⟨mem_closureIter_of_reach, fun ⟨k, h⟩ => reach_of_mem_closureIter k p h⟩

theorem ranked_no_self_reach {s : State} {rank : Nat → Nat} (h : Ranked s rank) (x : Nat) :
    ¬ Reach s x x :=
  fun hr => Nat.lt_irrefl _ (ranked_acyclic h x x hr)

/-- The state after one operation of a history (`none` = the operation does not finish). -/
def next (fuel : Nat) (s : State) (op : Op) : Option State :=
  match step fuel s op with
  | .ok s' => some s'
  | .err => some s
  | .diverge => none

/-- Every operation of the history is safe at the state it is applied to (`SafeOp`: not a
revive of a group that still lists members — the D16 shape). -/
def Safe (fuel : Nat) : State → List Op → Prop
  | _, [] => True
  | s, op :: ops => SafeOp s op ∧ ∀ s', next fuel s op = some s' → Safe fuel s' ops

instance decSafeOp (s : State) (op : Op) : Decidable (SafeOp s op) := by
  cases op <;> simp only [SafeOp] <;> infer_instance

instance decSafe (fuel : Nat) : (s : State) → (ops : List Op) → Decidable (Safe fuel s ops)
  | _, [] => isTrue trivial
  | s, op :: ops =>
    match h : next fuel s op with
    | none => decidable_of_iff (SafeOp s op) (by simp [Safe, h])
    | some s1 =>
      have := decSafe fuel s1 ops
      decidable_of_iff (SafeOp s op ∧ Safe fuel s1 ops) (by simp [Safe, h])

theorem safe_of_no_revive (fuel : Nat) : ∀ (ops : List Op) (s : State),
    (∀ op ∈ ops, ∀ x, op ≠ .revive x) → Safe fuel s ops := by
  intro ops
  induction ops with
  | nil => intro _ _; trivial
  | cons op ops ih =>
    intro s h
    have hops : ∀ o ∈ ops, ∀ x, o ≠ .revive x := fun o ho => h o (List.mem_cons_of_mem _ ho)
    refine ⟨?_, fun s' _ => ih s' hops⟩
    cases op with
    | revive x => exact absurd rfl (h _ List.mem_cons_self x)
    | _ => trivial

theorem run_cons (fuel : Nat) (s : State) (op : Op) (ops : List Op) :
    run fuel s (op :: ops) = (next fuel s op).bind (run fuel · ops) := by
  simp only [run, next]
  cases step fuel s op <;> rfl

theorem next_inv {fuel : Nat} {s s' : State} {op : Op} (hinv : Inv s) (hsafe : SafeOp s op)
    (h : next fuel s op = some s') : Inv s' := by
  revert h
  fun_cases next fuel s op with
  | case1 s1 hst => rintro ⟨⟩; exact step_inv hinv hsafe hst  -- ok
  | case2 => rintro ⟨⟩; exact hinv  -- err: state unchanged
  | case3 => nofun  -- diverge

theorem inv_of_history (fuel : Nat) : ∀ (ops : List Op) (s s' : State),
    Inv s → Safe fuel s ops → run fuel s ops = some s' → Inv s' := by
  intro ops
  induction ops with
  | nil => intro s s' hinv _ h; cases h; exact hinv
  | cons op ops ih =>
    intro s s' hinv hsafe h
    rw [run_cons] at h
    obtain ⟨s1, h1, h2⟩ := Option.bind_eq_some_iff.mp h
    exact ih s1 s' (next_inv hinv hsafe.1 h1) (hsafe.2 s1 h1) h2

theorem inv_empty : Inv [] := ⟨(fun _ h => nomatch h), List.nodup_nil⟩

/-- **C17, the part that holds.**  After any safe history from a consistent state (e.g. a migrated
database), whatever the graphs it went through (cycles included): directmemberof is exact and
memberof contains the closure; if the graph is acyclic *now*, memberof is exactly the closure. -/
theorem closure_exact_partial_from (fuel : Nat) (ops : List Op) (s0 s : State) (h0 : Inv s0)
    (hsafe : Safe fuel s0 ops) (hrun : run fuel s0 ops = some s) :
    (∀ e ∈ s, e.live = true →
        (∀ p, p ∈ e.dmo ↔ Edge s p e.id) ∧ (∀ q, Reach s q e.id → q ∈ e.mo)) ∧
    (∀ rank, Ranked s rank → Exact s) :=
  have hlc := (inv_of_history fuel ops s0 s h0 hsafe hrun).1
  ⟨fun e he hl => ⟨lc_dmo_exact hlc e he hl, lc_superset hlc e he hl⟩,
    fun _ hr => exact_of_lc_ranked hlc hr⟩

/-- The same from the empty directory. -/
theorem closure_exact_partial (fuel : Nat) (ops : List Op) (s : State)
    (hsafe : Safe fuel [] ops) (hrun : run fuel [] ops = some s) :
    (∀ e ∈ s, e.live = true →
        (∀ p, p ∈ e.dmo ↔ Edge s p e.id) ∧ (∀ q, Reach s q e.id → q ∈ e.mo)) ∧
    (∀ rank, Ranked s rank → Exact s) :=
  closure_exact_partial_from fuel ops [] s inv_empty hsafe hrun

def demoOps : List Op :=
  [.create 13 false [], .create 3 true [13], .create 2 true [3], .create 1 true [2, 13],
   .setMembers 2 [], .setMembers 2 [3, 13], .delete [13], .revive 13, .delete [1]]

def demoState : State :=
  [⟨13, false, true, [], [2, 3], [2, 3], []⟩, ⟨3, true, true, [13], [2], [2], []⟩,
   ⟨2, true, true, [3, 13], [], [], []⟩, ⟨1, true, false, [2, 13], [], [], []⟩]

def demoRank : Nat → Nat
  | 2 => 1 | 3 => 2 | 13 => 3 | _ => 0

/-- Stated together because the kernel then evaluates each operation once for both. -/
theorem demo_run_safe : run 8 [] demoOps = some demoState ∧ Safe 8 [] demoOps := by decide +kernel

theorem demo_run : run 8 [] demoOps = some demoState := demo_run_safe.1

theorem demo_safe : Safe 8 [] demoOps := demo_run_safe.2

theorem demo_ranked : Ranked demoState demoRank := ranked_of_members (by decide)

/-- The hypotheses of `closure_exact_partial` are satisfiable by a nested history with removal,
delete and revive; its conclusion gives exactness of the final state. -/
example : Exact demoState :=
  (closure_exact_partial 8 demoOps demoState demo_safe demo_run).2 demoRank demo_ranked

/-- The property as stated: after *any* committed history, stored values are the closure. -/
def closure_exact_full : Prop :=
  ∀ (fuel : Nat) (ops : List Op) (s : State), run fuel [] ops = some s → Exact s

theorem reach_closed {s : State} (S : List Nat)
    (hS : ∀ g ∈ s, g.grp = true → g.live = true → ∀ x ∈ g.member, x ∈ S → g.id ∈ S) :
    ∀ p x, Reach s p x → x ∈ S → p ∈ S := by
  intro p x hr
  refine hr.ind (M := fun x => x ∈ S → p ∈ S) ?_
  rintro _ x ⟨g, hg, hp, rfl⟩ hq hx
  obtain ⟨h1, h2, h3⟩ := isPar_iff.mp hp
  exact hq.elim (· ▸ hS g hg h1 h2 x h3 hx) (· (hS g hg h1 h2 x h3 hx))

/-- D6 witness: D ∋ A, A ∋ B, B ∋ A; remove A from D. -/
def d6Ops : List Op :=
  [.create 4 true [], .create 1 true [], .create 2 true [1], .setMembers 1 [2],
   .setMembers 4 [1], .setMembers 4 []]

def d6State : State :=
  [⟨4, true, true, [], [], [], []⟩, ⟨1, true, true, [2], [1, 2, 4], [2], []⟩,
   ⟨2, true, true, [1], [1, 2, 4], [1], []⟩]

theorem d6_run : run 8 [] d6Ops = some d6State := by decide +kernel

/-- D6: after removing the only link from group 4 into the cycle {1, 2}, group 1 still
stores 4 in memberof although 4 no longer reaches it. -/
theorem stale_in_cycle_D6 :
    (∃ e ∈ d6State, e.id = 1 ∧ e.live = true ∧ 4 ∈ e.mo) ∧ ¬ Reach d6State 4 1 := by
  refine ⟨by decide, ?_⟩
  intro h
  have := reach_closed (s := d6State) [1, 2] (by decide) 4 1 h (by decide)
  revert this; decide

theorem closure_exact_full_false : ¬ closure_exact_full := by
  intro h
  have hex := h 8 d6Ops d6State d6_run
  obtain ⟨⟨e, he, hid, hl, hmo⟩, hnr⟩ := stale_in_cycle_D6
  exact hnr (hid ▸ ((hex e he hl).1 4).mp hmo)

/-- D16 witness: person 13 in group 1; delete the group; revive it. -/
def d16Ops : List Op := [.create 13 false [], .create 1 true [13], .delete [1], .revive 1]

def d16State : State :=
  [⟨13, false, true, [], [], [], []⟩, ⟨1, true, true, [13], [], [], []⟩]

theorem d16_run : run 8 [] d16Ops = some d16State := by decide +kernel

/-- D16: the revived group lists the person again, the person's memberof and
directmemberof do not mention the group. -/
theorem revive_group_members_stale :
    Edge d16State 1 13 ∧ ∃ e ∈ d16State, e.id = 13 ∧ e.live = true ∧ 1 ∉ e.mo ∧ 1 ∉ e.dmo := by
  refine ⟨⟨⟨1, true, true, [13], [], [], []⟩, by decide, by decide, rfl⟩, by decide⟩

theorem closure_exact_full_false_revive : ¬ closure_exact_full := by
  intro h
  have hex := h 8 d16Ops d16State d16_run
  obtain ⟨hedge, e, he, hid, hl, _, hdmo⟩ := revive_group_members_stale
  exact hdmo (((hex e he hl).2 1).mpr (hid ▸ hedge))

/-- The D16 history is exactly what `Safe` excludes. -/
example : ¬ Safe 8 [] d16Ops := by decide

/-- On a graph with a topological ranking bounded by `R`, `apply_memberof` finishes within
`R + 1` iterations of its loop, from any affected set ranked below `R`. -/
theorem worklist_terminates_ranked (rank : Nat → Nat) (R : Nat) (s : State) (aff : List Nat)
    (hr : Ranked s rank) (hm : ∀ g ∈ s, ∀ m ∈ g.member, rank m ≤ R)
    (ha : ∀ x ∈ aff, rank x ≤ R) :
    ∃ s', applyMemberOf (R + 1) s aff = some s' := by
  obtain ⟨r, hr'⟩ := applyGroups_terminates_ranked rank R (R + 1) 0 s aff aff hr hm
    (fun x hx => ⟨Nat.zero_le _, ha x hx⟩) (by omega)
  obtain ⟨s1, all1⟩ := r
  exact ⟨s1.map (leafUpd s1 all1), by simp [applyMemberOf, hr']⟩

example : ∃ s', applyMemberOf 4 demoState [2, 3, 13] = some s' :=
  worklist_terminates_ranked demoRank 3 demoState [2, 3, 13] demo_ranked (by decide) (by decide)

/-- D21 witness: the state before the last modify (group 1 holds the D6-stale value 10,
sustained only by its self link) and the modify `member(1) := {2}` closing the cycle 1→2→3→1. -/
def d21Prefix : List Op :=
  [.create 10 true [], .create 1 true [1], .setMembers 10 [1], .setMembers 10 [],
   .create 3 true [1], .create 2 true [3]]

def d21State : State :=
  [⟨10, true, true, [], [], [], []⟩, ⟨1, true, true, [1], [1, 2, 3, 10], [1, 3], []⟩,
   ⟨3, true, true, [1], [2], [2], []⟩, ⟨2, true, true, [3], [], [], []⟩]

theorem d21_prefix_run : run 8 [] d21Prefix = some d21State := by decide +kernel

/-- The worklist configurations the loop goes through: three rounds of lead-in, then a
period of three in which the stale value 10 rotates round the new cycle 1→2→3→1. -/
def d21c0 : State × List Nat := (setMem d21State 1 [2], modifyAffected 1 [1] [2])
def d21c1 : State × List Nat := roundStep d21c0.1 d21c0.2
def d21c2 : State × List Nat := roundStep d21c1.1 d21c1.2
def d21c3 : State × List Nat := roundStep d21c2.1 d21c2.2
def d21c4 : State × List Nat := roundStep d21c3.1 d21c3.2
def d21c5 : State × List Nat := roundStep d21c4.1 d21c4.2

def d21Orbit : List (State × List Nat) := [d21c0, d21c1, d21c2, d21c3, d21c4, d21c5]

theorem d21_orbit_closed : ∀ c ∈ d21Orbit, c.2 ≠ [] ∧ roundStep c.1 c.2 ∈ d21Orbit := by
  decide +kernel  -- six rounds evaluated; the one after `d21c5` gives `d21c3` again

/-- **D21.**  With any fuel the modify never finishes: `apply_memberof` livelocks. -/
theorem worklist_livelock (fuel : Nat) :
    step fuel d21State (.setMembers 1 [2]) = .diverge := by
  have horb := applyGroups_none_of_orbit d21Orbit d21_orbit_closed fuel
    (setMem d21State 1 [2]) (modifyAffected 1 [1] [2]) (modifyAffected 1 [1] [2])
    (by simp [d21Orbit, d21c0])
  have hfind : find d21State 1 = some ⟨1, true, true, [1], [1, 2, 3, 10], [1, 3], []⟩ := by decide
  have hcheck : (!((sdiff (norm [2]) [1]).all fun m => m == 1 || isLive d21State m)) = false := by
    decide
  simp only [step, opSet, hfind, Bool.not_true, Bool.false_eq_true, if_false, hcheck, applyMod,
    applyMemberOf]
  have hn : norm [2] = [2] := by decide
  rw [hn, horb]

/-- Whatever the fuel, the one-operation history `[setMembers 1 [2]]` run from `d21State` (the state
`d21_prefix_run` reaches from the empty directory) has no resulting state. -/
theorem worklist_livelock_history (fuel : Nat) :
    ∀ s, run fuel d21State [.setMembers 1 [2]] ≠ some s := by
  intro s h
  simp [run, worklist_livelock fuel] at h

end Kanidm.MemberOf
