import KanidmModel.RangeEntries
import KanidmProofs.Lemmas.RangeDiff
/-! C10 (extension): entry selection and per-entry change filtering of the supplier. -/
namespace Kanidm.RangeEntries
open Kanidm.RangeDiff Kanidm.Gen.RangeEntries

theorem lookupCid_mem {m : RuvIdx} {c : Cid} {ids : List Nat} (h : lookupCid m c = some ids) :
    (c, ids) ∈ m := by
  fun_induction lookupCid m c with
  | case1 => cases h  -- empty index
  | case2 v rest => cases h; exact List.mem_cons_self  -- the head has the cid
  | case3 k v rest hk ih => exact List.mem_cons_of_mem _ (ih h)  -- it has another cid

theorem mem_getD_lookupCid {m : RuvIdx} {c : Cid} {id : Nat} (h : id ∈ (lookupCid m c).getD []) :
    ∃ ids, (c, ids) ∈ m ∧ id ∈ ids := by
  cases hl : lookupCid m c with
  | none => rw [hl] at h; cases h
  | some ids => rw [hl] at h; exact ⟨ids, lookupCid_mem hl, h⟩

/-- The generated bound kinds and window test are the property's: strictly newer than the consumer's
newest change, up to and including the supplier's newest (or unbounded above: by `Capped` both select
the same ids); a server outside the ranges is not sent. -/
theorem entry_ops_are_spec (ts rmin rmax : Nat) :
    idlLower ts rmin = decide (rmin < ts) ∧ (idlUpper ts rmax = true ∨ idlUpper ts rmax = decide (ts ≤ rmax)) ∧
    attrWithin ts rmin rmax = decide (rmin < ts ∧ ts ≤ rmax) ∧ attrMissingRange = false := by
  refine ⟨rfl, Or.inl rfl, ?_, rfl⟩
  simp only [attrWithin, Bool.decide_and, gt_iff_lt]
  exact Bool.and_comm _ _

example : idlLower 5 5 = false ∧ idlLower 6 5 = true ∧ attrWithin 7 5 7 = true ∧ attrWithin 8 5 7 = false := by decide

theorem idlLower_iff (ts rmin : Nat) : idlLower ts rmin = true ↔ rmin < ts := by
  rw [(entry_ops_are_spec ts rmin 0).1, decide_eq_true_iff]

theorem idlUpper_of_le {ts rmax : Nat} (h : ts ≤ rmax) : idlUpper ts rmax = true := by
  rcases (entry_ops_are_spec ts 0 rmax).2.1 with h' | h'
  · exact h'
  · rw [h', decide_eq_true_iff]; exact h

theorem attrWithin_iff (ts rmin rmax : Nat) : attrWithin ts rmin rmax = decide (rmin < ts ∧ ts ≤ rmax) :=
  (entry_ops_are_spec ts rmin rmax).2.2.1

theorem attrMissingRange_eq : attrMissingRange = false := (entry_ops_are_spec 0 0 0).2.2.2

theorem within_iff (ctx : Ruv) (c : Cid) : within ctx c = true ↔ InRange ctx c := by
  unfold within InRange
  cases lookup ctx c.s with
  | none => simp only [attrMissingRange_eq, Bool.false_eq_true, reduceCtorEq, false_and, exists_const]
  | some r => simp only [attrWithin_iff, Bool.decide_and, Bool.and_eq_true,
      decide_eq_true_eq, Option.some.injEq, exists_eq_left']

theorem rangeToIdl_eq (ranged : Ranged) (ruv : RuvIdx) (ctx : Ruv) :
    rangeToIdl ranged ruv ctx = ctx.flatMap fun p =>
      (((lookupTs ranged p.1).getD []).filter fun ts =>
        idlLower ts p.2.tsMin && idlUpper ts p.2.tsMax).flatMap fun ts =>
          (lookupCid ruv ⟨p.1, ts⟩).getD [] := by
  unfold rangeToIdl
  congr; funext p
  cases lookupTs ranged p.1 with
  | none => rfl
  | some tss =>
    dsimp only [Option.getD_some]
    congr; funext ts
    cases lookupCid ruv ⟨p.1, ts⟩ <;> rfl

theorem mem_idl_iff (ranged : Ranged) (ruv : RuvIdx) (ctx : Ruv) (id : Nat) :
    id ∈ rangeToIdl ranged ruv ctx ↔
      ∃ p ∈ ctx, ∃ ts ∈ (lookupTs ranged p.1).getD [], idlLower ts p.2.tsMin = true ∧
        idlUpper ts p.2.tsMax = true ∧ id ∈ (lookupCid ruv ⟨p.1, ts⟩).getD [] := by
  simp only [rangeToIdl_eq, List.mem_flatMap, List.mem_filter, Bool.and_eq_true, and_assoc]

/-- An entry is sent iff it has a change in a supplied range (given the RUV-index invariant). -/
theorem entry_sent_iff (ranged : Ranged) (ruv : RuvIdx) (entries : List Entry) (ctx : Ruv)
    (hs : IndexSound ruv entries) (hc : IndexComplete ranged ruv entries)
    (hcap : Capped ranged ctx) (hm : MapLike ctx) (e : Entry) :
    e ∈ retrieveRange ranged ruv entries ctx ↔ e ∈ entries ∧ HasChangeIn ctx e := by
  unfold retrieveRange
  simp only [List.mem_filter, List.contains_iff_mem, mem_idl_iff]
  constructor
  · rintro ⟨he, p, hp, ts, hts, hlo, _, hid⟩
    obtain ⟨ids, hmem, hid'⟩ := mem_getD_lookupCid hid
    exact ⟨he, ⟨p.1, ts⟩, hs _ hmem _ hid' e he rfl, p.2, hm p hp, (idlLower_iff _ _).mp hlo,
      hcap p hp ts hts⟩
  · rintro ⟨he, c, hcm, r, hl, hlo, hhi⟩
    obtain ⟨h1, h2⟩ := hc e he c hcm
    exact ⟨he, (c.s, r), mem_of_lookup hl, c.ts, h1, (idlLower_iff _ _).mpr hlo, idlUpper_of_le hhi, h2⟩

/-- Hence what is sent is `incrEntry` of exactly the entries with a change in a supplied range
(membership; nothing is said about order). -/
theorem supplied_entries_exact (ranged : Ranged) (ruv : RuvIdx) (entries : List Entry) (ctx : Ruv)
    (hs : IndexSound ruv entries) (hc : IndexComplete ranged ruv entries)
    (hcap : Capped ranged ctx) (hm : MapLike ctx) (s : Sent) :
    s ∈ supplyEntries ranged ruv entries ctx ↔
      ∃ e ∈ entries, HasChangeIn ctx e ∧ s = incrEntry ctx e := by
  unfold supplyEntries
  simp only [List.mem_map, entry_sent_iff ranged ruv entries ctx hs hc hcap hm]
  constructor
  · rintro ⟨e, ⟨he, hh⟩, rfl⟩; exact ⟨e, he, hh, rfl⟩
  · rintro ⟨e, he, hh, rfl⟩; exact ⟨e, ⟨he, hh⟩, rfl⟩

/-- For a live entry every replicated change in range is included and nothing else is. -/
theorem sent_changes_exact (ctx : Ruv) (id : Nat) (at_ : Cid) (changes : List (Nat × Cid × Bool)) :
    ∃ attrs, incrEntry ctx ⟨id, .live at_ changes⟩ = .live id at_ attrs ∧
      ∀ a c, (a, c) ∈ attrs ↔ ((a, c, true) ∈ changes ∧ InRange ctx c) := by
  refine ⟨_, rfl, ?_⟩
  intro a c
  simp only [List.mem_map, List.mem_filter, Bool.and_eq_true, within_iff]
  constructor
  · rintro ⟨⟨a', c', b⟩, ⟨hmem, hb, hin⟩, heq⟩
    cases heq
    cases hb
    exact ⟨hmem, hin⟩
  · rintro ⟨hmem, hin⟩
    exact ⟨(a, c, true), ⟨hmem, rfl, hin⟩, rfl⟩

/-- A tombstone is sent as a tombstone at its cid, and only when that cid is in a supplied range. -/
theorem tombstone_sent_iff (ranged : Ranged) (ruv : RuvIdx) (entries : List Entry) (ctx : Ruv)
    (hs : IndexSound ruv entries) (hc : IndexComplete ranged ruv entries)
    (hcap : Capped ranged ctx) (hm : MapLike ctx) (id : Nat) (at_ : Cid)
    (he : (⟨id, .tombstone at_⟩ : Entry) ∈ entries) :
    (incrEntry ctx ⟨id, .tombstone at_⟩ = .tombstone id at_) ∧
    ((⟨id, .tombstone at_⟩ : Entry) ∈ retrieveRange ranged ruv entries ctx ↔ InRange ctx at_) := by
  refine ⟨rfl, ?_⟩
  rw [entry_sent_iff ranged ruv entries ctx hs hc hcap hm]
  simp [HasChangeIn, cids, he]

/-! ### Non-vacuity: a concrete index satisfying the invariant, with entries in and out of range -/
def exEntries : List Entry :=
  [⟨1, .live ⟨0, 2⟩ [(10, ⟨0, 2⟩, true), (11, ⟨0, 5⟩, true), (12, ⟨1, 7⟩, false)]⟩,
   ⟨2, .live ⟨0, 3⟩ [(10, ⟨0, 3⟩, true)]⟩,
   ⟨3, .tombstone ⟨1, 9⟩⟩, ⟨4, .tombstone ⟨0, 1⟩⟩]
def exRanged : Ranged := [(0, [1, 2, 3, 5]), (1, [7, 9])]
def exRuv : RuvIdx := [(⟨0, 1⟩, [4]), (⟨0, 2⟩, [1]), (⟨0, 3⟩, [2]), (⟨0, 5⟩, [1]), (⟨1, 7⟩, [1]), (⟨1, 9⟩, [3])]
def exCtx : Ruv := [(0, ⟨3, 5⟩), (1, ⟨7, 9⟩)]

example : IndexSound exRuv exEntries ∧ IndexComplete exRanged exRuv exEntries ∧ Capped exRanged exCtx ∧
    MapLike exCtx := by decide
example : supplyEntries exRanged exRuv exEntries exCtx =
    [.live 1 ⟨0, 2⟩ [(11, ⟨0, 5⟩)], .tombstone 3 ⟨1, 9⟩] := by decide
example : HasChangeIn exCtx ⟨1, .live ⟨0, 2⟩ [(10, ⟨0, 2⟩, true), (11, ⟨0, 5⟩, true), (12, ⟨1, 7⟩, false)]⟩ :=
  ⟨⟨0, 5⟩, by decide, ⟨3, 5⟩, by decide, by decide, by decide⟩
example : ¬ InRange exCtx ⟨0, 3⟩ := by
  rintro ⟨r, h, h1, _⟩
  have : r = ⟨3, 5⟩ := by simpa [exCtx, lookup] using h.symm
  subst this; exact absurd h1 (by decide)

end Kanidm.RangeEntries
