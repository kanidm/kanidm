import KanidmProofs.Lemmas.ReplReap
import KanidmProofs.C10
import KanidmProofs.C08
/-!
# C09 — deleted entries are never resurrected by replication

`vm` is `repl_merge_valueset`, `repl` is `schema.is_replicated` (C08).  The supplier's decision is
C10's `supplierDecide`, imported with its characterisation theorems.
-/
namespace Kanidm.ReplReap
open Kanidm.Cid (Cid cidLt cidLt_asymm)
open Kanidm.ReplMerge hiding lookup
open Kanidm.RangeDiff
open Kanidm.Gen.ReapOps Kanidm.Gen.ReplMergeOps

/-! ## The regenerated operators are the specified ones -/

/-- A tombstone may be reaped iff it is strictly older than the trim cid, a live entry never; a cid
leaves the update vector iff it is strictly below the trim cid; the supplier's view drops a server iff
its newest change is strictly older than the trim timestamp; the anchor is inserted before the trim;
the trim cid is the transaction cid minus the changelog window under the nil server; a recycled entry
expires iff its last modification is strictly before the cutoff; both windows are seven days.
`reapTestsTrimCid`, `trimDropsEmptyServers`, `trimFromChangelogMaxAge` and `recyclebinMaxAge` are not read by the
model (`reap`, `trimUpTo`, `trimCid` have what they say built in): this statement is all that ties them. -/
theorem reap_ops_are_spec :
    (∀ a t : Cid, canDeleteTomb cidLt a t = cidLt a t) ∧ canDeleteLive = false
    ∧ (∀ c t : Cid, trimRemoves cidLt c t = cidLt c t) ∧ trimDropsEmptyServers = true
    ∧ (∀ last t : Nat, filterDrops last t = true ↔ last < t)
    ∧ anchorBeforeTrim = true ∧ reapTestsTrimCid = true ∧ purgeAnchorsAtTxnCid = true
    ∧ trimFromChangelogMaxAge = true ∧ subSecsServer = 0
    ∧ changelogMaxAge = 7 * 86400 ∧ recyclebinMaxAge = 7 * 86400
    ∧ (∀ m c : Cid, recycleExpired cidLt m c = cidLt m c) ∧ purgeRecycledTombstonesAtTxnCid = true := by
  exact ⟨fun _ _ => rfl, rfl, fun _ _ => rfl, rfl, fun _ _ => decide_eq_true_iff, rfl, rfl, rfl, rfl, rfl,
    rfl, rfl, fun _ _ => rfl, rfl⟩

/-! ## A tombstone is final -/

/-- Whatever arrives, an entry that is a tombstone on the consumer stays a tombstone (with an `at` that
is not later); whatever the consumer holds, an arriving tombstone makes it a tombstone. -/
theorem tombstone_never_revived (vm : Nat → Nat → Option Nat) (repl : Nat → Bool) (txn a : Cid) (s : St) :
    (∃ b, applyEntry vm repl txn s (.tomb a) = .tomb b ∧ cidLt a b = false)
      ∧ (∃ b, applyEntry vm repl txn (.tomb a) s = .tomb b ∧ cidLt a b = false) := by
  obtain ⟨⟨b1, h1, hb1⟩, ⟨b2, h2, hb2⟩⟩ := tombstone_dominates vm repl a s
  exact ⟨⟨b2, by rw [applyEntry_tomb_right, h2]; rfl, hb2⟩,
    ⟨b1, by rw [applyEntry_tomb_left, h1]; rfl, hb1⟩⟩

/-- Two tombstones of one entry settle on the earlier `at` on both sides: the reaping time does not
depend on the replica. -/
theorem tombstones_settle_on_earliest (vm : Nat → Nat → Option Nat) (repl : Nat → Bool) (a b : Cid)
    (h : cidLt a b = true) :
    mergeState vm repl (.tomb a) (.tomb b) = .tomb a ∧ mergeState vm repl (.tomb b) (.tomb a) = .tomb a := by
  simp [mergeState, tombTombPickLeft, h, cidLt_asymm h]

/-! ## Purging the recycle bin, reaping, trimming -/

/-- `purge_recycled`: exactly the recycled entries last modified strictly before the cutoff become
tombstones, at the transaction cid; everything else is untouched. -/
theorem purge_recycled_exact (recycled : St → Bool) (now cutoff : Cid) (st : St) :
    purgeRecycledEntry recycled now cutoff st =
      (match st with
       | .tomb a => .tomb a
       | .live e => if recycled (.live e) = true ∧ cidLt (lastMod (.live e)) cutoff = true then .tomb now else .live e) := by
  cases st with
  | tomb a => rfl
  | live e =>
    simp only [purgeRecycledEntry, recycleExpired, purgeRecycledTombstonesAtTxnCid, Bool.and_eq_true, if_true]

/-- `reap_tombstones` deletes exactly the tombstones strictly older than the trim cid. -/
theorem reap_exact (now trim : Cid) (s : Server) (u : Nat) (st : St) :
    (u, st) ∈ (reap now trim s).ents ↔
      ((u, st) ∈ s.ents ∧ ¬ ∃ a, st = .tomb a ∧ cidLt a trim = true) := by
  simp only [reap, List.mem_filter, Bool.not_eq_true', ← Bool.not_eq_true, canDelete_iff]

/-- After a reap at trim cid `t` every cid left in the update vector is at or after
`t`, every range the server reports starts at or after `t`, and a server all of whose changes were
older is no longer listed. -/
theorem trim_moves_min (now t : Cid) (s : Server) :
    (∀ c ∈ (reap now t s).ruv, cidLt c t = false)
      ∧ (∀ k r, lookup (rangesOf (reap now t s).ruv) k = some r → t.ts ≤ r.tsMin)
      ∧ (∀ k, (∀ c ∈ insertCid now s.ruv, c.sUuid = k → cidLt c t = true) →
              lookup (rangesOf (reap now t s).ruv) k = none) := by
  rw [reap_ruv]
  refine ⟨fun c hc => ((mem_trimUpTo t _ c).mp hc).2, fun k r h => trimmed_min_ge h, fun k hk => ?_⟩
  refine Option.eq_none_iff_forall_ne_some.mpr fun r h => ?_
  obtain ⟨c, hc, hck⟩ := List.mem_map.mp (lookup_rangesOf_eq_some.mp h).1
  obtain ⟨hmem, hnlt⟩ := (mem_trimUpTo t _ c).mp hc
  exact Bool.false_ne_true (hnlt ▸ hk c hmem hck)

/-- A reap leaves the server's own origin listed, reaching the transaction cid
(`debug_assert!(cid > trim_cid)`), and no later view of a supplier whose trim timestamp is not beyond
that transaction drops it: every other server can always tell how recently this one was alive. -/
theorem anchor_advances (now t : Cid) (s : Server) (hnow : cidLt now t = false) :
    ∃ r, lookup (rangesOf (reap now t s).ruv) now.sUuid = some r ∧ now.ts ≤ r.tsMax
      ∧ ∀ t' : Cid, t'.ts ≤ now.ts →
          lookup (filterView t' (rangesOf (reap now t s).ruv)) now.sUuid = some r := by
  rw [reap_ruv]
  have hmem : now ∈ trimUpTo t (insertCid now s.ruv) :=
    (mem_trimUpTo t _ now).mpr ⟨mem_insertCid_self now s.ruv, hnow⟩
  obtain ⟨r, hl, _, hmax⟩ := lookup_rangesOf_of_mem hmem
  exact ⟨r, hl, hmax, fun t' ht' =>
    (lookup_filterView (nodup_rangesOf _)).mpr ⟨hl, Nat.not_lt.mpr (Nat.le_trans ht' hmax)⟩⟩

/-! ## The refusal protocol -/

theorem refused_of_lag {consumer supplier : Ruv} (hs : (supplier.map (·.1)).Nodup)
    (hlag : ∃ k, LagOn consumer supplier k) :
    supplierDecide consumer supplier = .reply .refreshRequired
      ∨ supplierDecide consumer supplier = .reply .unwillingToSupply := by
  by_cases hadv : ∃ k, AdvOn consumer supplier k
  · exact Or.inr ((supplier_refuse_iff _ _ hs).mpr (Or.inl hadv))
  · exact Or.inl ((supplier_refresh_iff _ _ hs).mpr ⟨hlag, hadv⟩)

theorem not_served_of_refused {d : Decision}
    (h : d = .reply .refreshRequired ∨ d = .reply .unwillingToSupply) :
    (∀ r, d ≠ .supply r) ∧ d ≠ .reply .noChangesAvailable := by
  rcases h with rfl | rfl <;> exact ⟨fun _ => nofun, nofun⟩

/-- **A lagging consumer is refused.**  The supplier reaped at trim cid `t`.  A consumer whose newest
change of some server the supplier still lists is older than `t` is neither supplied nor told "no
changes": the reply is `RefreshRequired`, or `UnwillingToSupply` when it is also ahead somewhere. -/
theorem lagging_consumer_refused (consumer : Ruv) (now t view : Cid) (s : Server)
    (k : Nat) (c : Range) (hc : lookup consumer k = some c) (hold : c.tsMax < t.ts)
    (hlisted : (lookup (filterView view (rangesOf (reap now t s).ruv)) k).isSome) :
    supplyDecision consumer (reap now t s).ruv view = .reply .refreshRequired
      ∨ supplyDecision consumer (reap now t s).ruv view = .reply .unwillingToSupply := by
  obtain ⟨sr, hv⟩ := Option.isSome_iff_exists.mp hlisted
  have hmin := reap_range_min_ge ((lookup_filterView (nodup_rangesOf _)).mp hv).1
  exact refused_of_lag (nodup_filterView view _ (nodup_rangesOf _))
    ⟨k, c, sr, hc, hv, Nat.lt_of_lt_of_le hold hmin⟩

/-- **A lagging supplier is refused.**  The consumer reaped at trim cid `t`.  A supplier whose newest
change of some server both still list is older than `t` gets `UnwillingToSupply`: it cannot push its
stale live entries into a replica that has already forgotten their tombstones. -/
theorem lagging_supplier_refused (now t view : Cid) (c : Server) (supplierRuv : RuvData)
    (k : Nat) (cr sr : Range)
    (hc : lookup (rangesOf (reap now t c).ruv) k = some cr)
    (hs : lookup (filterView view (rangesOf supplierRuv)) k = some sr) (hold : sr.tsMax < t.ts) :
    supplyDecision (rangesOf (reap now t c).ruv) supplierRuv view = .reply .unwillingToSupply := by
  unfold supplyDecision
  have hn := nodup_filterView view _ (nodup_rangesOf supplierRuv)
  have hmin := reap_range_min_ge hc
  have hcw := rangesOf_min_le_max hc
  have hsw := rangesOf_min_le_max ((lookup_filterView (nodup_rangesOf _)).mp hs).1
  -- sr.min ≤ sr.max < t ≤ cr.min ≤ cr.max
  have hlt : sr.tsMax < cr.tsMin := Nat.lt_of_lt_of_le hold hmin
  exact (supplier_refuse_iff _ _ hn).mpr (Or.inl ⟨k, cr, sr, hc, hs,
    Nat.not_lt.mpr (Nat.le_trans hsw (Nat.le_trans (Nat.le_of_lt hlt) hcw)), hlt⟩)

/-- What an accepted supply shows of the supplier: it lists the deleting server `d` beyond the reaped
tombstone's `at_`. -/
theorem accepted_supply_has_seen_deletion (now t view at_ : Cid) (c : Server) (supplierRuv : RuvData)
    (d : Nat) (cr sr : Range) (ranges : Ruv) (hat : at_.ts < t.ts)
    (hc : lookup (rangesOf (reap now t c).ruv) d = some cr)
    (hs : lookup (filterView view (rangesOf supplierRuv)) d = some sr)
    (hacc : supplyDecision (rangesOf (reap now t c).ruv) supplierRuv view = .supply ranges) :
    at_.ts ≤ sr.tsMax := by
  have hn := nodup_filterView view _ (nodup_rangesOf supplierRuv)
  have hov := (supplier_supplies_only_if_all_overlap _ _ hn ranges hacc).2 d cr sr hc hs
  have hmin := reap_range_min_ge hc
  -- at < t ≤ cr.min ≤ sr.max, the last because the windows overlap
  exact Nat.le_trans (Nat.le_of_lt (Nat.lt_of_lt_of_le hat hmin)) (Nat.not_lt.mp hov.2)

/-- **No resurrection through an accepted supply.**  The consumer reaped the tombstone of an entry: it
trimmed at `t`, and the tombstone's cid `at_` (written by server `d`) was older.  If a supplier's
changes are accepted (`V1`) and `d` is listed by both, then the supplier has seen `d` beyond `at_`
(`accepted_supply_has_seen_deletion`: this is what is proved of the model); a supplier whose update
vector keeps its promise (`hsound`, a hypothesis: having seen `d` up to a timestamp it holds every change
of `d` up to there) therefore does not hold the entry live — nothing live can arrive. -/
theorem no_resurrection_through_accepted_supply (now t view at_ : Cid) (c : Server) (supplierRuv : RuvData)
    (d : Nat) (cr sr : Range) (ranges : Ruv) (supplierHoldsLive : Prop)
    (hat : at_.ts < t.ts)
    (hc : lookup (rangesOf (reap now t c).ruv) d = some cr)
    (hs : lookup (filterView view (rangesOf supplierRuv)) d = some sr)
    (hacc : supplyDecision (rangesOf (reap now t c).ruv) supplierRuv view = .supply ranges)
    (hsound : at_.ts ≤ sr.tsMax → ¬ supplierHoldsLive) :
    ¬ supplierHoldsLive :=
  hsound (accepted_supply_has_seen_deletion now t view at_ c supplierRuv d cr sr ranges hat hc hs hacc)

/-- The dual, **no deletion is dropped**: the supplier reaped at `t` (so it no longer has the
tombstone to send); a consumer that still holds the entry live because it never saw the deletion
(`hstale`: its newest change of the deleting server `d` predates the deletion, which predates `t`) is
never answered `V1` or `NoChangesAvailable`. -/
theorem stale_consumer_never_served (consumer : Ruv) (now t view at_ : Cid) (s : Server)
    (d : Nat) (c : Range) (hc : lookup consumer d = some c) (hstale : c.tsMax < at_.ts) (hat : at_.ts < t.ts)
    (hlisted : (lookup (filterView view (rangesOf (reap now t s).ruv)) d).isSome) :
    (∀ r, supplyDecision consumer (reap now t s).ruv view ≠ .supply r)
      ∧ supplyDecision consumer (reap now t s).ruv view ≠ .reply .noChangesAvailable :=
  not_served_of_refused (lagging_consumer_refused consumer now t view s d c hc (Nat.lt_trans hstale hat) hlisted)

/-! ## The first sentence is false for the recycle-bin stage -/

def stillDeleted (cls rec : Nat) : St → Bool
  | .tomb _ => true
  | .live e => Kanidm.ReplMerge.lookup e.attrs cls == some rec

/-- "Once an entry has been deleted … no replication schedule makes it live again": a delete is a write
of the `class` attribute; whatever arrives for the same creation, the entry stays recycled or becomes a
tombstone. -/
def recycled_is_final : Prop :=
  ∀ (cls rec : Nat) (txn : Cid) (db inc : Live), inc.crAt = db.crAt →
    Kanidm.ReplMerge.lookup db.attrs cls = some rec →
    stillDeleted cls rec (applyEntry (fun _ _ => none) (fun _ => true) txn (.live inc) (.live db)) = true

/-- It is not: the delete is only a value of a last-writer-wins attribute; a later `class` write from a
replica that has not seen the delete (a posix extension, say) replaces it and the entry is live again
on the replica that deleted it (finding D52, class `recycled-revived-by-concurrent-class-write`). -/
theorem recycled_is_final_false : ¬ recycled_is_final := by
  intro h
  have := h 0 101 ⟨9, 1⟩
    ⟨⟨1, 1⟩, [(0, ⟨3, 1⟩), (1, ⟨1, 1⟩)], [(0, 101), (1, 7)]⟩
    ⟨⟨1, 1⟩, [(0, ⟨4, 2⟩), (1, ⟨1, 1⟩)], [(0, 102), (1, 7)]⟩ rfl (by decide +kernel)
  revert this
  decide +kernel

/-- Exactly what protects a recycled entry: it stays recycled under every arrival whose `class` write is
not later than the delete. -/
theorem recycled_kept_unless_later_class_write (vm : Nat → Nat → Option Nat) (hvm : ∀ n o, vm n o = none)
    (repl : Nat → Bool) (cls : Nat) (db inc : Live) (c : Cid) (rec : Option Nat)
    (hdb : rcell repl db cls = some (c, rec))
    (hnl : ∀ c' v', rcell repl inc cls = some (c', v') → cidLt c c' = false) :
    rcell repl (mergeLive vm repl inc db) cls = some (c, rec) := by
  rw [rcell_mergeLive vm hvm, hdb]
  cases hi : rcell repl inc cls with
  | none => rfl
  | some cv =>
    obtain ⟨c', v'⟩ := cv
    have := hnl c' v' hi
    simp [lww, this]

/-! ## The refusal sentence as given is false of the code -/

/-- "A replica that has been out of contact for longer than the changelog window is refused": all the
consumer ever held of server `k` predates the supplier's trim `t` — whatever the consumer has meanwhile
trimmed from its own update vector (`ownTrim`) — and the supplier still lists `k`; then the reply is a
refusal. -/
def lagging_always_refused : Prop :=
  ∀ (held : RuvData) (ownTrim now t view : Cid) (s : Server) (k : Nat),
    (∃ c ∈ held, c.sUuid = k) → (∀ c ∈ held, c.sUuid = k → c.ts < t.ts) →
    (lookup (filterView view (rangesOf (reap now t s).ruv)) k).isSome = true →
    (supplyDecision (rangesOf (trimUpTo ownTrim held)) (reap now t s).ruv view = .reply .refreshRequired
      ∨ supplyDecision (rangesOf (trimUpTo ownTrim held)) (reap now t s).ruv view = .reply .unwillingToSupply)

/-- It is not (finding D51, class `D46:lagging-consumer-forgot-origin-served`): the consumer's own trim
removes the stale origin from its update vector (`trim_up_to` drops a server left without timestamps);
the supplier then takes it for a server the consumer has never seen and supplies `[0, max]` — of which
its trimmed index holds only the anchor. -/
theorem lagging_always_refused_false : ¬ lagging_always_refused := by
  intro h
  have := h [⟨86400000000000, 1⟩, ⟨86400000000000, 2⟩, ⟨1036800000000000, 2⟩]
    ⟨950400000000000, 0⟩ ⟨1555200000000000, 1⟩ ⟨950400000000000, 0⟩ ⟨950400000000000, 0⟩
    ⟨1, [], [⟨86400000000000, 1⟩, ⟨172800000000000, 1⟩, ⟨1036800000000000, 2⟩]⟩ 1
    (by decide +kernel) (by decide +kernel) (by decide +kernel)
  revert this
  decide +kernel

/-- What remains true is exact: a consumer that lags on a server the supplier lists is served only if it
no longer lists that server itself. -/
theorem served_though_lagging_only_if_forgotten (consumer : Ruv) (now t view : Cid) (s : Server)
    (k : Nat) (r : Ruv)
    (hlisted : (lookup (filterView view (rangesOf (reap now t s).ruv)) k).isSome)
    (hserved : supplyDecision consumer (reap now t s).ruv view = .supply r
      ∨ supplyDecision consumer (reap now t s).ruv view = .reply .noChangesAvailable) :
    ∀ c, lookup consumer k = some c → t.ts ≤ c.tsMax := by
  intro c hc
  refine Nat.le_of_not_lt fun hold => ?_
  have h := not_served_of_refused (lagging_consumer_refused consumer now t view s k c hc hold hlisted)
  exact hserved.elim (h.1 r) h.2

/-- server 2 reaped at day 11 (it wrote at day 18); the consumer last heard of server 2 at day 9:
refresh required; a consumer that heard of it at day 12 is supplied -/
example :
    let day : Nat := 86400 * 1000000000
    let s : Server := ⟨2, [(7, .tomb ⟨10 * day, 2⟩), (8, .tomb ⟨15 * day, 2⟩)],
      [⟨9 * day, 2⟩, ⟨10 * day, 2⟩, ⟨12 * day, 2⟩, ⟨15 * day, 2⟩, ⟨9 * day, 1⟩]⟩
    let now : Cid := ⟨18 * day, 2⟩
    let t : Cid := ⟨11 * day, 0⟩
    trimCid now = some t
      ∧ (reap now t s).ents = [(8, .tomb ⟨15 * day, 2⟩)]
      ∧ rangesOf (reap now t s).ruv = [(2, ⟨12 * day, 18 * day⟩)]
      ∧ supplyDecision [(1, ⟨day, 9 * day⟩), (2, ⟨day, 9 * day⟩)] (reap now t s).ruv t = .reply .refreshRequired
      ∧ supplyDecision [(1, ⟨day, 9 * day⟩), (2, ⟨day, 12 * day⟩)] (reap now t s).ruv t
          = .supply [(2, ⟨12 * day, 18 * day⟩)] := by
  decide +kernel

end Kanidm.ReplReap
