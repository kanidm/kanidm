import KanidmProofs.Lemmas.OfflineCache
/-!
C44 — Offline login accepts only the last password verified online.

Model: `KanidmModel/OfflineCache.lean` (+ `Generated/OfflineCacheOps.lean`, `PwFormatTables.lean`,
`HostAuthzOps.lean`, all regenerated from the source).  Vocabulary (`sealed`, `lastVerified`,
`expected`, `Reachable`, `NotSealedHere`, …) in `Lemmas/OfflineCache.lean`, and with it the three helper
theorems its own proofs use (`unsealed_rejected`, `no_cache_no_offline`, `kdf_failure_clears`) and
`check_accepts_iff_sealed_here`, which they add up to.  `H_kdf` (hashes and HMAC never collide on the values in
play) is built into `verifyCtx`; see the model's header.
-/
namespace Kanidm.OfflineCache
open Kanidm.Gen.PwFormat (KdfTag)
open Kanidm.Gen.OfflineCache

/-- A credential sealed with another machine's key is refused for every password. -/
theorem sealed_elsewhere_rejected (hostKey key pw cred : Nat) (h : key ≠ hostKey) :
    checkCached hostKey (some (sealed key pw)) cred = false := by
  simp [sealed, checkCached_tpm, h]

/-- What a successful online verification stores accepts exactly the verified password, on this
machine only. -/
theorem update_then_check (hostKey key p cred : Nat) (old : Option Blob) :
    checkCached key (updateCached hostKey true p old) cred = true ↔ p = cred ∧ hostKey = key := by
  rw [updateCached_ok, check_accepts_iff_sealed_here]
  simp [sealed]

example : checkCached 7 (updateCached 7 true 5 none) 5 = true := by decide +kernel
example : checkCached 7 (updateCached 7 true 5 none) 6 = false := by decide +kernel
example : checkCached 8 (updateCached 7 true 5 none) 5 = false := by decide +kernel
example : checkCached 7 (some (.kdf .ARGON2ID 5 7)) 5 = false := by decide +kernel

/-- In every state a sequential history can reach, the credential held for every account is what
the events say: the sealed hash of the most recently verified password, unless the KDF failed,
the row was purged (account gone), the cache was cleared, or somebody overwrote it since. -/
theorem cache_tracks_history {hostKey : Nat} {w : World} {st : St} {evs : List Ev}
    (hr : Reachable hostKey w st evs) (id : Nat) :
    credOf st id = expected hostKey id evs :=
  reachable_tracks hr id    -- `Tracks` from the fresh host, which holds nothing, unfolds to this

/-- A login attempt that takes the offline path succeeds iff the credential the history left for
the account is the one this machine sealed from the offered password. -/
theorem offline_accept_iff_expected {hostKey : Nat} {w w' : World} {st st' : St} {evs e : List Ev}
    {id cred : Nat} {i : InitRes} {res : PamOut}
    (hr : Reachable hostKey w st evs)
    (h : step hostKey w st (.auth id cred) = (w', st', .auth i .offline (some res), e)) :
    res = .success ↔ expected hostKey id (evs ++ e) = some (sealed hostKey cred) := by
  obtain ⟨htr, hv⟩ := auth_spec hostKey w st id cred h
  rw [(hv i .offline res rfl).2, check_accepts_iff_sealed_here, tracks_history hr htr id]

/-- THE PROPERTY.  A password accepted on the offline path (a) is the most recent password the
directory verified for that account on this machine, (b) was checked against a credential sealed
with this machine's key, and the provider was not online — for every sequential history of
logins, server-side changes, outages, invalidations, clears, lookups and tampering, as long as
nobody planted a credential sealed with this very machine's key (which only this machine's TPM can
produce; re-planting an old row of the same machine is the one thing the cache cannot notice). -/
theorem offline_accept_only_last_verified_same_key {hostKey : Nat} {w w' : World} {st st' : St}
    {evs e : List Ev} {id cred : Nat} {i : InitRes}
    (hr : Reachable hostKey w st evs)
    (h : step hostKey w st (.auth id cred) = (w', st', .auth i .offline (some .success), e))
    (hplant : ∀ j b, Ev.planted j b ∈ evs ++ e → NotSealedHere hostKey b) :
    lastVerified id (evs ++ e) = some cred ∧ credOf st' id = some (sealed hostKey cred) ∧
      st'.net ≠ .online := by
  obtain ⟨htr, hv⟩ := auth_spec hostKey w st id cred h
  have hexp := (offline_accept_iff_expected hr h).mp rfl
  exact ⟨expected_sealed_is_last hplant hexp, by rw [tracks_history hr htr id, hexp],
    (hv i .offline .success rfl).1⟩

/-- Clause (b) alone needs no assumption about tampering. -/
theorem accepted_credential_is_sealed_here {hostKey : Nat} {w w' : World} {st st' : St}
    {evs e : List Ev} {id cred : Nat} {i : InitRes}
    (hr : Reachable hostKey w st evs)
    (h : step hostKey w st (.auth id cred) = (w', st', .auth i .offline (some .success), e)) :
    credOf st' id = some (sealed hostKey cred) := by
  rw [tracks_history hr (auth_spec hostKey w st id cred h).1 id, (offline_accept_iff_expected hr h).mp rfl]

/-- An attempt accepted on the online path was verified by the directory in that very attempt. -/
theorem online_accept_is_verified_now {hostKey : Nat} {w w' : World} {st st' : St} {e : List Ev}
    {id cred : Nat} {i : InitRes}
    (h : step hostKey w st (.auth id cred) = (w', st', .auth i .online (some .success), e)) :
    Ev.auth id cred true ∈ e :=
  (auth_spec hostKey w st id cred h).2 i .online .success rfl rfl

/-- An attempt without a session is never accepted. -/
theorem no_session_no_accept {hostKey : Nat} {w w' : World} {st st' : St} {e : List Ev}
    {id cred : Nat} {i : InitRes} {res : PamOut}
    (h : step hostKey w st (.auth id cred) = (w', st', .auth i .none (some res), e)) :
    res ≠ .success :=
  (auth_spec hostKey w st id cred h).2 i .none res rfl

/-- An offline session is only opened while the provider is not online, for an account that
holds a credential, and it snapshots the cached row. -/
theorem offline_session_only_when_not_online (w : World) (st : St) (id : Nat)
    {st' : St} {i : Nat} {snap : Tok} {r : InitRes} {e : List Ev}
    (h : authInit w st id = (st', some (.offline i snap), r, e)) :
    i = id ∧ st'.net ≠ .online ∧ snap.cred.isSome = true ∧
      ∃ row, st'.cache id = some row ∧ row.tok = snap := by
  obtain ⟨h1, h2, h3, h4⟩ := authInit_fresh h
  exact ⟨h1, h2, h3, (getCached_some h4).2⟩

/-- As coded: a login refused online (wrong or former password, any error reply) leaves the
cache — and so the offline credential — untouched. -/
theorem online_denial_keeps_cache (hostKey : Nat) (w : World) (st : St) (id cred : Nat)
    (h : (w.auth id cred).1 ≠ .token) :
    (onlineStep hostKey w st id cred).1 = st ∧ (onlineStep hostKey w st id cred).2.1 ≠ .success := by
  revert h
  unfold onlineStep
  rcases w.auth id cred with ⟨cls, v⟩
  intro h
  cases cls with
  | token => exact absurd rfl h
  | _ => exact ⟨rfl, fun hr => (nomatch hr)⟩

/-! ## Non-vacuity: concrete histories (host key 0, account 1) -/

/-- verified online with 5, server changes to 6, host forced offline: 5 accepted, 6 refused -/
def hist1 : List Op :=
  [.srv 1 (some ⟨5, true⟩), .auth 1 5, .srv 1 (some ⟨6, true⟩), .auth 1 5, .markOffline]

example : ∀ op ∈ hist1, op.sequential = true := by decide +kernel

example : (run 0 (hist1 ++ [.auth 1 5, .auth 1 6])).map (·.2.1) =
    [.ok, .auth .password .online (some .success), .ok, .auth .password .online (some .denied), .ok,
     .auth .password .offline (some .success), .auth .password .offline (some .denied)] := by decide +kernel

example : lastVerified 1 (exec 0 hist1).2.2 = some 5 ∧
    expected 0 1 (exec 0 hist1).2.2 = some (sealed 0 5) := by decide +kernel

/-- the same, but the directory then says the account is gone: the row is purged, nothing accepted -/
example : (run 0 [.srv 1 (some ⟨5, true⟩), .auth 1 5, .srv 1 none, .invalidate, .lookup 1,
      .markOffline, .auth 1 5]).map (·.2.1) =
    [.ok, .auth .password .online (some .success), .ok, .ok, .look none, .ok,
     .auth .unknown .none none] := by decide +kernel

/-- a credential sealed elsewhere (key 9) or not sealed at all, planted for the right password, is refused -/
example : (run 0 [.srv 1 (some ⟨5, true⟩), .auth 1 5, .markOffline, .plant 1 (some (sealed 9 5)),
      .auth 1 5, .plant 1 (some (.kdf .PBKDF2 5 0)), .auth 1 5]).map (·.2.1) =
    [.ok, .auth .password .online (some .success), .ok, .ok,
     .auth .password .offline (some .denied), .ok, .auth .password .offline (some .denied)] := by decide +kernel

/-! ## Outside the quantifier: a login attempt left open while another one completes

`AuthSession::Offline` snapshots the token at `init`; `unix_user_offline_auth_step` checks the
offered password against that snapshot.  So an attempt opened offline and answered after another
login verified a new password online still accepts the superseded one (observed on the real code
by the `interleaved` stream).  Sequential histories (`Reachable`) exclude it. -/
theorem stale_session_accepts_superseded_password :
    (run 0 [.srv 1 (some ⟨5, true⟩), .auth 1 5, .markOffline, .init 0 1, .markNextCheck, .invalidate,
        .srv 1 (some ⟨6, true⟩), .auth 1 6, .stepS 0 5]).map (·.2.1) =
      [.ok, .auth .password .online (some .success), .ok, .init .password .offline, .ok, .ok, .ok,
       .auth .password .online (some .success), .step .success .offline] ∧
    lastVerified 1 (exec 0 [.srv 1 (some ⟨5, true⟩), .auth 1 5, .markOffline, .init 0 1,
        .markNextCheck, .invalidate, .srv 1 (some ⟨6, true⟩), .auth 1 6, .stepS 0 5]).2.2 = some 6 := by
  decide +kernel

end Kanidm.OfflineCache
