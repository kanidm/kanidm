import KanidmProofs.Lemmas.TxnCommit
/-!
# C04 — failed or abandoned write transactions leave no trace

All statements are about `Kanidm.TxnCommit` (the functions the driver `km_c04` runs) over the
commit order regenerated from the source (`Kanidm.Gen.CommitOrder`).

The full statement ("whatever step of `commit()` fails, nothing is visible afterwards") is FALSE
of the generated order (D5): `commit_failure_no_trace_full_false`.  What holds:
`abort_leaves_no_trace` (drop at any point), `commit_failure_db_unchanged` (the stored data never
keeps a trace), `commit_failure_no_trace_partial` (failures before the first publication),
`commit_failure_trace_exact` (exactly which cells keep a trace otherwise), `atomic_if_ordered`
(any order without a publication before a fallible step is traceless — re-instantiates when the
source is reordered), and `commit_ok_publishes_all`.
-/
namespace Kanidm.TxnCommit
open Kanidm.Gen.CommitOrder

/-- Dropping the write transaction at any point — after any sequence of writes to the write copies
and to the open SQLite transaction — restores every cell and the database exactly. -/
theorem abort_leaves_no_trace (s : St) (hs : Clean s) (ops : List Op) :
    dropTxn (applyOps s ops) = s :=
  dropTxn_of_committed_eq hs (applyOps_committed ops s).1 (applyOps_committed ops s).2

example : dropTxn (applyOps zero [.stage .schema 1, .dbStage 7, .stage .dInfo 2, .stage .schema 3]) = zero :=
  abort_leaves_no_trace zero zero_clean _

/-- The flattened commit contains no unexpanded nested call. -/
theorem flat_no_call : flatSteps.all (fun st => !isCall st) = true := by decide +kernel

/-- `db.commit()?` precedes every step that cannot be undone inside `IdlArcSqliteWriteTransaction::commit`
and nothing after it can fail — in the whole flattened commit. -/
theorem flat_nothing_fails_after_db_commit : noFallibleAfterDbCommit flatSteps = true := by decide +kernel

/-- `IdlArcSqliteWriteTransaction::commit` alone is in the safe order. -/
theorem idl_commit_ordered : Ordered (flatOf .idl) = true := by decide +kernel

/-- `BackendWriteTransaction::commit` (with the idl commit inlined) is in the safe order. -/
theorem be_commit_ordered : Ordered (flatOf .be) = true := by decide +kernel

/-- D5: `QueryServerWriteTransaction::commit` publishes before steps that can still fail. -/
theorem qs_commit_not_ordered : Ordered (flatOf .qs) = false := by decide +kernel

/-- D5: so does `IdmServerProxyWriteTransaction::commit`. -/
theorem idm_commit_not_ordered : Ordered flatSteps = false := by decide +kernel

/-- The result of `commit()` with an arbitrary failing step, cell by cell: the cells whose
publication step was executed carry the transaction's value, all others and — unless `COMMIT` was
executed — the database carry the old one; nothing stays pending. -/
theorem commit_failure_trace_exact (s : St) (hs : Clean s) (ops : List Op) (fail : Option Nat) :
    let t := applyOps s ops
    let done := flatSteps.take (execCount flatSteps 0 fail)
    (∀ c, ((commit t fail).1.cells c) =
        ⟨if c ∈ publishedCells done then ((t.cells c).publish).committed else (s.cells c).committed, none⟩) ∧
    (commit t fail).1.db =
        ⟨if done.any isDbCommit then (t.db.publish).committed else s.db.committed, none⟩ ∧
    (commit t fail).2 = okOf flatSteps 0 fail := by
  intro t done
  -- written with `done`, so that the goals below match without unfolding it
  have hr : commit t fail = (dropTxn (applyAll done t), okOf flatSteps 0 fail) :=
    commitWith_eq flatSteps t fail
  have hc := applyOps_committed ops s
  rw [hr]
  refine ⟨fun c => ?_, ?_, rfl⟩
  · show ((applyAll done t).cells c).discard = _
    rw [applyAll_cell]
    exact CellSt.discard_ite _ _ (hc.1 c)
  · show (applyAll done t).db.discard = _
    rw [applyAll_db]
    exact CellSt.discard_ite _ _ hc.2

/-- **Stored data**: whenever `commit()` reports failure the database is exactly as before —
for every failing step (holds in full; uses `flat_nothing_fails_after_db_commit`). -/
theorem commit_failure_db_unchanged (s : St) (hs : Clean s) (ops : List Op) (fail : Option Nat)
    (hf : (commit (applyOps s ops) fail).2 = false) : (commit (applyOps s ops) fail).1.db = s.db := by
  rw [commit, commitWith_snd] at hf
  rw [commit, commitWith_eq]
  show (applyAll _ _).db.discard = s.db
  rw [applyAll_db, fail_before_first isDbCommit noFallibleAfterDbCommit (fun _ _ => rfl) flatSteps 0 fail
    flat_nothing_fails_after_db_commit hf, if_neg Bool.false_ne_true]
  exact CellSt.discard_eq hs.2 (applyOps_committed ops s).2

theorem commitWith_no_trace (steps : List CStep) (s : St) (hs : Clean s) (ops : List Op) (fail : Option Nat)
    (h : (steps.take (execCount steps 0 fail)).any publishes = false) :
    (commitWith steps (applyOps s ops) fail).1 = s := by
  rw [commitWith_eq]
  show dropTxn _ = s
  rw [applyAll_nopublish _ h]
  exact abort_leaves_no_trace s hs ops

/-- Index of the first publication in the flattened commit: every failure strictly before it is
traceless.  (With today's order: the four `reload` steps of the IDM commit.) -/
def tracelessBound : Nat := firstPublish flatSteps

/-- **Partial no-trace**: a commit that fails at a step before the first publication leaves every
cell and the database exactly as they were. -/
theorem commit_failure_no_trace_partial (s : St) (hs : Clean s) (ops : List Op) (i : Nat)
    (hi : i < tracelessBound) (hf : (commit (applyOps s ops) (some i)).2 = false) :
    (commit (applyOps s ops) (some i)).1 = s := by
  rw [commit, commitWith_snd] at hf
  apply commitWith_no_trace flatSteps s hs ops
  rw [← show i = execCount flatSteps 0 (some i) from Option.some.inj ((execCount_of_okOf flatSteps 0 (some i)).2 hf)]
  exact any_take_firstPublish flatSteps i (Nat.le_of_lt hi)

/-- The failing steps covered by the partial theorem exist and are fallible (non-vacuity): step 0
(`qs_write.reload()`) fails a commit that staged a schema and a database change, tracelessly. -/
example : (commit (applyOps zero [.stage .schema 1, .dbStage 1]) (some 0)).2 = false ∧ 0 < tracelessBound := by
  decide +kernel

/-- **Generic atomicity**: for *any* step list in the safe order, a failing commit leaves no trace
at all.  (The theorem a repaired `commit()` would instantiate.) -/
theorem atomic_if_ordered (steps : List CStep) (ho : Ordered steps = true) (s : St) (hs : Clean s)
    (ops : List Op) (fail : Option Nat) (hf : (commitWith steps (applyOps s ops) fail).2 = false) :
    (commitWith steps (applyOps s ops) fail).1 = s := by
  rw [commitWith_snd] at hf
  exact commitWith_no_trace steps s hs ops fail
    (fail_before_first publishes Ordered (fun _ _ => rfl) steps 0 fail ho hf)

/-- `atomic_if_ordered` is not vacuous: the backend commit is ordered and can fail. -/
example : Ordered (flatOf .be) = true ∧ okOf (flatOf .be) 0 (some 0) = false := ⟨be_commit_ordered, rfl⟩

/-- For every step of the flattened commit that can fail: the cells already published when it does. -/
def failureTraces : List (Nat × List Cell) :=
  ((List.zipIdx flatSteps).filter (fun p => p.1.fallible)).map (fun p => (p.2, publishedCells (flatSteps.take p.2)))

/-- **The exact extent of D5 today** (stated literally, so that a change of the publication order — e.g. a
publication moved even earlier — breaks this theorem): failures
of the four IDM reloads are traceless; a failing `qs.reload` / `set_db_ts_max` leaves the four IDM
cells; every failure inside `be_txn.commit()` (ruv write, the three cache flushes, `COMMIT`) leaves
all fourteen IDM + QS cells; nothing stored is ever left. -/
theorem d5_extent :
    failureTraces =
      [(0, []), (1, []), (2, []), (3, []),
       (8, [.applications, .oauth2rs, .credUpdateSessions, .oauth2ClientProviders]),
       (9, [.applications, .oauth2rs, .credUpdateSessions, .oauth2ClientProviders])] ++
      ([20, 21, 22, 23, 24].map fun i =>
        (i, [.applications, .oauth2rs, .credUpdateSessions, .oauth2ClientProviders, .cid, .resolveFilterCacheWrite,
             .schema, .dInfo, .systemConfig, .featureConfig, .phase, .dyngroupCache, .keyProviders, .accesscontrols])) := by
  decide +kernel

/-- The full property for `commit()`: a failing commit leaves no trace, whatever step fails. -/
def commit_failure_no_trace_full : Prop :=
  ∀ (s : St), Clean s → ∀ (ops : List Op) (i : Nat),
    (commit (applyOps s ops) (some i)).2 = false → (commit (applyOps s ops) (some i)).1 = s

/-- **D5**: the full property is false of the generated order.  Witness: a transaction that changed
the schema; the SQLite `COMMIT` fails; the new schema is visible afterwards. -/
theorem commit_failure_no_trace_full_false : ¬ commit_failure_no_trace_full := by
  intro h
  -- one evaluation of the witness commit for both facts
  have hw : (commit (applyOps zero [.stage .schema 1, .dbStage 1]) (some dbCommitIdx)).2 = false ∧
      ((commit (applyOps zero [.stage .schema 1, .dbStage 1]) (some dbCommitIdx)).1.cells .schema).committed = 1 := by
    decide +kernel
  have h2 := hw.2
  rw [h zero zero_clean _ dbCommitIdx hw.1] at h2
  cases h2

/-- A successful commit makes every staged value visible, in every cell and in the database, and
leaves nothing pending ("only a transaction whose commit reports success becomes visible" — the
positive half). -/
theorem commit_ok_publishes_all (s : St) (hs : Clean s) (ops : List Op) (fail : Option Nat)
    (hok : (commit (applyOps s ops) fail).2 = true) :
    (∀ c, (commit (applyOps s ops) fail).1.cells c = ⟨(((applyOps s ops).cells c).publish).committed, none⟩) ∧
    (commit (applyOps s ops) fail).1.db = ⟨((applyOps s ops).db.publish).committed, none⟩ := by
  have h := commit_failure_trace_exact s hs ops fail
  dsimp only at h
  obtain ⟨hcells, hdb, hflag⟩ := h  -- every cell, the database, the result flag
  rw [hflag] at hok
  rw [(execCount_of_okOf flatSteps 0 fail).1 hok, List.take_length] at hcells hdb
  refine ⟨fun c => ?_, ?_⟩
  · rw [hcells c, if_pos (flatSteps_publishes_all.1 c)]
  · rw [hdb, flatSteps_publishes_all.2, if_pos rfl]

example : (commit (applyOps zero [.stage .schema 1, .dbStage 1]) none).2 = true := by decide +kernel

theorem runTxn_clean (s : St) (t : TxnRun) : Clean (runTxn s t).1 := by
  unfold runTxn
  split <;> exact dropTxn_clean _

/-- A transaction that did not succeed ended traceless-ly: dropped, or failed before the first
publication. -/
def tracelessFinish (t : TxnRun) : Prop :=
  t.finish = none ∨ ∃ i, t.finish = some (some i) ∧ i < tracelessBound

theorem runTxn_failed_traceless (s : St) (hs : Clean s) (t : TxnRun) (hf : succeeded t = false)
    (ht : tracelessFinish t) : (runTxn s t).1 = s := by
  unfold succeeded at hf
  unfold runTxn
  rcases ht with h | ⟨i, h, hi⟩
  · rw [h]
    exact abort_leaves_no_trace s hs t.ops
  · rw [h] at hf ⊢
    exact commit_failure_no_trace_partial s hs t.ops i hi ((commitWith_snd _ _ _).trans hf)

/-- **Histories**: over any sequence of write transactions in which every unsuccessful one was
dropped or failed before the first publication, the final state is exactly the state reached by
running only the successful transactions: only a transaction whose commit reports success becomes
visible. -/
theorem only_successful_visible_partial (ts : List TxnRun) : ∀ (s : St), Clean s →
    (∀ t ∈ ts, succeeded t = false → tracelessFinish t) →
    runHist s ts = runHist s (ts.filter succeeded) := by
  induction ts with
  | nil => intro s _ _; rfl
  | cons t rest ih =>
    intro s hs h
    have hrest : ∀ t' ∈ rest, succeeded t' = false → tracelessFinish t' :=
      fun t' ht' => h t' (List.mem_cons_of_mem _ ht')
    cases hsucc : succeeded t with
    | true =>
      rw [List.filter_cons_of_pos hsucc]
      exact ih (runTxn s t).1 (runTxn_clean s t) hrest
    | false =>
      rw [List.filter_cons_of_neg (Bool.eq_false_iff.mp hsucc)]
      show runHist (runTxn s t).1 rest = _
      rw [runTxn_failed_traceless s hs t hsucc (h t (List.mem_cons_self ..) hsucc)]
      exact ih s hs hrest

/-- Non-vacuity: a history with a dropped transaction, a failing reload and two successes. -/
example :
    let ts : List TxnRun := [⟨[.stage .schema 1, .dbStage 1], some none⟩, ⟨[.stage .dInfo 5], none⟩,
      ⟨[.stage .accesscontrols 9, .dbStage 2], some (some 0)⟩, ⟨[.dbStage 3], some none⟩]
    (ts.map succeeded = [true, false, false, true]) ∧
    ((runHist zero ts).cells .schema).committed = 1 ∧ ((runHist zero ts).cells .dInfo).committed = 0 ∧
    ((runHist zero ts).cells .accesscontrols).committed = 0 ∧ (runHist zero ts).db.committed = 3 := by
  decide +kernel

end Kanidm.TxnCommit
