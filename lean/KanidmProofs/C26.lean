import KanidmProofs.Lemmas.Recycle
/-!
# C26 — Recycle bin lifecycle holds

The property theorems and their test vectors; `Inv`, `Always`, `InBin`, `LiveGroupIn` and the
helper lemmas are in `Lemmas/Recycle.lean`.  The model (`KanidmModel/Recycle.lean`)
is a machine over histories of write transactions `(clock reading, operation)`; every transaction
is stamped with C07's generated Lamport step.  The two windows, the comparison operators of both
purge cut-offs, the nil uuid of `Cid::sub_secs`, the field order of `Cid` and the attribute moves
of delete / revive are regenerated from the source on every run (`Generated/RecycleOps.lean`,
`Generated/CidOps.lean`), so editing the source re-states the theorems below.

`Inv` (unique uuids; entries outside the live state carry a committed stamp; tombstones carry
nothing) holds of the empty database and is kept by every transaction (`inv_run`).
-/
namespace Kanidm.Recycle
open Kanidm.Gen.Recycle

/-- The generated parameters are the ones the statements below are about: both windows are the
7 days the production constants document, both cut-offs are strict `<` against a cut-off cid
carrying the nil uuid, live entries are never reaped, and the attribute moves are in place. -/
theorem ops_as_modelled :
    recyclebinMaxAge = 604800 ∧ changelogMaxAge = 604800 ∧
    purgeRecycledWindow = recyclebinMaxAge ∧ trimWindow = changelogMaxAge ∧
    purgeRecycledOp = .lt ∧ canDeleteOp = .lt ∧ trimRangeOp = .lt ∧ canDeleteLive = false ∧
    subSecsUuid = 0 ∧ revivePurgesCascadeDeleted = true ∧ revivePurgesRdmo = true ∧
    reviveRestoresRefers = true ∧ deleteMarksCascade = true ∧ preDeleteStashesDmo = true := by
  decide

theorem inv_of_history (m sid : Nat) (steps : List (Nat × Op)) : Inv (run ⟨[], m, sid⟩ steps) :=
  inv_run (inv_empty m sid) steps

/-! ## a deleted entry disappears from normal searches and writes -/

/-- A normal search returns exactly the live entries, the recycle-bin search exactly the
recycled ones: a recycled entry or a tombstone is never returned by a normal search, a live entry
or a tombstone never by the recycle-bin search. -/
theorem deleted_invisible (es : List Entry) (x : Nat) :
    (x ∈ searchNormal es ↔ ∃ e ∈ es, e.id = x ∧ e.st = .live) ∧
    (x ∈ searchRecycleBin es ↔ ∃ e ∈ es, e.id = x ∧ e.st = .recycled) := by
  simp only [searchNormal, searchRecycleBin, List.mem_map, List.mem_filter, beq_iff_eq]
  constructor <;> constructor
  · rintro ⟨e, ⟨he, hl⟩, rfl⟩; exact ⟨e, he, rfl, hl⟩
  · rintro ⟨e, he, rfl, hl⟩; exact ⟨e, ⟨he, hl⟩, rfl⟩
  · rintro ⟨e, ⟨he, hl⟩, rfl⟩; exact ⟨e, he, rfl, hl⟩
  · rintro ⟨e, he, rfl, hl⟩; exact ⟨e, ⟨he, hl⟩, rfl⟩

/-- A successful delete moves every live entry it names into the recycle bin, stamped with this
transaction: afterwards the normal search no longer returns it and the recycle-bin search does. -/
theorem delete_recycles {s : State} (hi : Inv s) (ct : Nat) (ids : List Nat) (es' : List Entry)
    (n : Option Nat) (h : apply s ct (.delete ids) = .ok es' n) (x : Nat) (hx : x ∈ ids)
    (hl : isLive s.es x = true) :
    (∃ e', find (next s ct (.delete ids)).es x = some e' ∧ e'.st = .recycled ∧
      e'.lastMod = txnTs s ct) ∧
    x ∉ searchNormal (next s ct (.delete ids)).es ∧
    x ∈ searchRecycleBin (next s ct (.delete ids)).es := by
  have hnext := next_delete h
  have hinv : Inv (next s ct (.delete ids)) := inv_next hi ct _
  rw [hnext] at hinv ⊢
  obtain ⟨e, hfe, hel⟩ := isLive_iff.mp hl
  obtain ⟨F, hf, hF⟩ := delete_entries h
  have hrec := hF e (inD_of_named hfe hel hx)
  have hst := hrec.st
  have hlm := hrec.lastMod
  have hfe' := hf x e hfe
  have hmem := Keyed.find_some Entry.id hfe'
  refine ⟨⟨_, hfe', hst, hlm⟩, ?_, ?_⟩
  · rw [(deleted_invisible es' x).1]
    rintro ⟨e2, he2, hid, hl2⟩
    rw [eq_of_find_nodup hinv.nodup hfe' he2 hid, hst] at hl2
    cases hl2
  · rw [(deleted_invisible es' x).2]
    exact ⟨_, hmem.1, hmem.2, hst⟩

/-- A normal modify aimed at an entry that is not live finds no candidate: a member add or remove changes
nothing, a `touch` leaves every entry that is not live as it was; and a delete whose filter matches no live entry is
refused.  Stated on `applyOp`,
that is for any stamp and any trim cut-off: `apply` only adds the refusal of a clock below the changelog window. -/
theorem normal_writes_skip_deleted {s : State} (hi : Inv s) (ts : Nat) (trim : Cid.Cid) (x : Nat)
    (hx : isLive s.es x = false) :
    (∃ es', applyOp s ts trim (.touch x) = .ok es' none ∧
      ∀ y e, find s.es y = some e → e.st ≠ .live → find es' y = some e) ∧
    (∀ m, applyOp s ts trim (.addMember x m) = .ok s.es none) ∧
    (∀ m, applyOp s ts trim (.remMember x m) = .ok s.es none) ∧
    applyOp s ts trim (.delete [x]) = .err .noMatch := by
  have hnl : ∀ e, find s.es x = some e → (e.st != .live) = true := fun e hf => by
    simpa using fun hl => Bool.eq_false_iff.mp hx (isLive_iff.mpr ⟨e, hf, hl⟩)
  refine ⟨⟨_, rfl, fun y e hy hnl => find_recompute_nonlive _ hy hnl⟩, fun m => ?_, fun m => ?_, ?_⟩
  · simp only [applyOp, opAdd]
    cases hf : find s.es x with
    | none => rfl
    | some e => simp [hnl e hf]
  · simp only [applyOp, opRem]
    cases hf : find s.es x with
    | none => rfl
    | some e => simp [hnl e hf]
  · simp only [applyOp, opDelete]
    have : s.es.any (inT [x]) = false := by
      rw [List.any_eq_false]
      intro e he hT
      simp only [inT, Bool.and_eq_true, beq_iff_eq, List.contains_cons, List.contains_nil,
        Bool.or_false] at hT
      have := isLive_of_mem hi.nodup he hT.1
      rw [hT.2] at this
      rw [this] at hx; cases hx
    simp [this]

/-! ## revive: only from the bin; what is accepted, and what comes back -/

/-- Only a recycled entry can be revived: a revive of a live entry, of a tombstone or of an
unknown uuid is refused (and a refused operation leaves the database as it was). -/
theorem revive_only_from_recycled (s : State) (ct x : Nat) :
    (∀ es' n, apply s ct (.revive x) = .ok es' n → ∃ e, find s.es x = some e ∧ e.st = .recycled) ∧
    ((∀ e, find s.es x = some e → e.st ≠ .recycled) → next s ct (.revive x) = s) := by
  constructor
  · intro es' n h
    obtain ⟨trim, _, hap⟩ := apply_ok h
    simp only [applyOp] at hap
    obtain ⟨xe, hxe, hst, _⟩ := opRevive_ok hap
    exact ⟨xe, hxe, hst⟩
  · intro hno
    rcases next_eq s ct (.revive x) with h | ⟨trim, es', n, _, hap, _⟩
    · exact h
    · simp only [applyOp] at hap
      obtain ⟨xe, hxe, hst, _⟩ := opRevive_ok hap
      exact absurd hst (hno xe hxe)

/-- A tombstone can no longer be revived, whatever the clock says: the request is an error and
nothing changes. -/
theorem tombstone_not_revivable (s : State) (ct x : Nat) (e : Entry)
    (hx : find s.es x = some e) (ht : e.st = .tomb) :
    (∃ er, apply s ct (.revive x) = .err er) ∧ next s ct (.revive x) = s := by
  have hnext : next s ct (.revive x) = s :=
    (revive_only_from_recycled s ct x).2 (fun e' he' => by
      rw [hx] at he'; cases he'; rw [ht]; decide)
  refine ⟨?_, hnext⟩
  unfold apply
  split
  · exact ⟨_, rfl⟩
  · simp only [applyOp, opRevive, hx]
    have : (e.st != St.recycled) = true := by rw [ht]; decide
    simp [this]

/-- A recycled person or group (nothing it refers to, not itself cascade-deleted) is found by the
recycle-bin search and its revive succeeds at any clock reading the write transaction itself
accepts (`htime`), making it live again. -/
theorem recyclebin_can_find_and_revive {s : State} (hi : Inv s) (ct x : Nat) (xe : Entry)
    (hx : find s.es x = some xe) (hr : xe.st = .recycled) (hk : xe.kind ≠ .cert)
    (hrf : xe.refers = none) (hc : xe.casc = none)
    (htime : changelogMaxAge * NS ≤ txnTs s ct) :
    x ∈ searchRecycleBin s.es ∧
    ∃ es', apply s ct (.revive x) = .ok es' none ∧ ∃ e', find es' x = some e' ∧ e'.st = .live := by
  have hrrx : revRefers xe = none := by simp [revRefers, hc, hrf]
  obtain ⟨hbin, es', hap, e', hf', hl', _⟩ := revive_accepted hi.nodup hx hr htime
    ⟨by simp [hk], by simp [reviveRefBad, hc], by simp [reviveLoopBad, hrrx]⟩ fun _ _ _ _ => hrrx
  exact ⟨hbin, es', hap, e', hf', hl'⟩

/-- A recycled certificate that was deleted on its own (no cascade mark, still referring to `p`)
can be revived whenever `p` is live and itself refers to nothing, and no entry carries `x`'s cascade mark: the
dependent case of "can be found and revived". -/
theorem recycled_dependent_can_be_revived {s : State} (hi : Inv s) (ct x p : Nat) (xe pe : Entry)
    (hx : find s.es x = some xe) (hr : xe.st = .recycled) (hc : xe.casc = none)
    (hrf : xe.refers = some p) (hp : find s.es p = some pe) (hpl : pe.st = .live)
    (hpr : pe.refers = none) (hnodep : ∀ e ∈ s.es, e.casc ≠ some x)
    (htime : changelogMaxAge * NS ≤ txnTs s ct) :
    x ∈ searchRecycleBin s.es ∧
    ∃ es', apply s ct (.revive x) = .ok es' none ∧
      ∃ e', find es' x = some e' ∧ e'.st = .live ∧ e'.refers = some p := by
  have hrrx : revRefers xe = some p := by simp [revRefers, hc, hrf]
  have hfp1 : find (s.es.map (reviveE x (txnTs s ct))) p = some pe := by
    rw [find_map _ (reviveE_id x _), hp]
    simp [reviveE_not_inR (show inR x pe = false by simp [inR, hpl])]
  obtain ⟨hbin, es', hap, e', hf', hl', hrf'⟩ := revive_accepted hi.nodup hx hr htime
    ⟨by simp [hrrx], by simp [reviveRefBad, hc], by simp [reviveLoopBad, hrrx, hasRefers, hfp1, hpr]⟩
    fun e he _ h1 => absurd h1 (hnodep e he)
  exact ⟨hbin, es', hap, e', hf', hl', hrf'.trans hrrx⟩

/-- A successful revive brings back the entry, every recycled entry that was cascade-deleted
with it (referring to it again, cascade mark cleared) and, for each of them, every direct
membership recorded at deletion whose group is live: the group lists it again and its
directmemberof names the group. -/
theorem revive_restores_dependents_and_live_dmo (s : State) (ct x : Nat) (es' : List Entry)
    (n : Option Nat) (h : apply s ct (.revive x) = .ok es' n) :
    (∃ xe e', find s.es x = some xe ∧ xe.st = .recycled ∧ find es' x = some e' ∧ e'.st = .live) ∧
    (∀ c ce, find s.es c = some ce → ce.st = .recycled → ce.casc = some x →
      ∃ ce', find es' c = some ce' ∧ ce'.st = .live ∧ ce'.refers = some x ∧ ce'.casc = none) ∧
    (∀ r re, find s.es r = some re → inR x re = true →
      ∀ g ge, g ∈ re.rdmo → find s.es g = some ge → ge.kind = .group → ge.st = .live →
        ∃ re' ge', find es' r = some re' ∧ g ∈ re'.dmo ∧
          find es' g = some ge' ∧ ge'.st = .live ∧ r ∈ ge'.member) := by
  obtain ⟨trim, _, hap⟩ := apply_ok h
  simp only [applyOp] at hap
  obtain ⟨xe, hxe, hxr, _, _⟩ := opRevive_ok hap
  have hmx := Keyed.find_some Entry.id hxe
  refine ⟨?_, ?_, ?_⟩
  · obtain ⟨re', h'⟩ := revive_entry hap hxe (by simp [inR, hxr, hmx.2])
    exact ⟨xe, re', hxe, hxr, h'.found, h'.st⟩
  · intro c ce hc hcr hcc
    obtain ⟨ce', h'⟩ := revive_entry hap hc (by simp [inR, hcr, hcc])
    exact ⟨ce', h'.found, h'.st, by rw [h'.refers]; simp [revRefers, reviveRestoresRefers, hcc], h'.casc⟩
  · intro r re hr hR g ge hg hfg hgk hgl
    obtain ⟨re', h'⟩ := revive_entry hap hr hR
    obtain ⟨hd, ge', hfg', hgl', hmem⟩ := h'.groups g ge hg hfg hgk hgl
    exact ⟨re', ge', h'.found, hd, hfg', hgl', hmem⟩

/-! ## what the bin keeps: memberships of groups that still exist, and the cascade mark -/

/-- A delete stashes the direct memberships: every group in the deleted entry's directmemberof
is in its recycled_directmemberof afterwards — unless the same request deleted that group too. -/
theorem delete_stashes_memberships {s : State} (hi : Inv s) {ct : Nat} {ids : List Nat}
    {es' : List Entry} {n : Option Nat} (h : apply s ct (.delete ids) = .ok es' n) {x : Nat}
    {e : Entry} (hfe : find s.es x = some e) (hel : e.st = .live) (hx : x ∈ ids) :
    ∃ e', find es' x = some e' ∧
      ∀ g ∈ e.dmo, g ∈ e'.rdmo ∨ ∃ ge', find es' g = some ge' ∧ ge'.st = .recycled := by
  obtain ⟨F, hf, hF⟩ := delete_entries h
  refine ⟨_, hf x e hfe, fun g hg => ?_⟩
  refine ((hF e (inD_of_named hfe hel hx)).stash g hg).imp_right fun ⟨ge, he, hid, hD⟩ => ?_
  exact ⟨_, hf g ge (hid ▸ find_of_mem_nodup hi.nodup he), (hF ge hD).st⟩

/-- For as long as an entry stays in the recycle bin — through any history of creates, deletes,
revives of other entries and purges at any clock readings — it keeps its cascade mark, and it
keeps the recorded membership of every group that stayed a live group all along. -/
theorem memberships_and_mark_kept_in_bin {s : State} (hi : Inv s) {x : Nat} {e : Entry}
    (hx : find s.es x = some e) (hr : e.st = .recycled) (steps : List (Nat × Op))
    (hbin : Always (InBin x) s steps) :
    ∃ e1, find (run s steps).es x = some e1 ∧ e1.st = .recycled ∧ e1.casc = e.casc ∧
      ∀ g ∈ e.rdmo, Always (LiveGroupIn g) s steps → g ∈ e1.rdmo := by
  induction steps generalizing s e with
  | nil => exact ⟨e, hx, hr, rfl, fun _ hg _ => hg⟩
  | cons st rest ih =>
    obtain ⟨e', hfe', hr', hc', hg'⟩ := kept_step hi hx hr st.1 st.2 hbin.tail.head
    obtain ⟨e1, hf1, hr1, hc1, hg1⟩ := ih (inv_next hi st.1 st.2) hfe' hr' hbin.tail
    exact ⟨e1, hf1, hr1, by rw [hc1, hc'], fun g hg hlive => hg1 g (hg' g hg hlive.tail.head) hlive.tail⟩

/-- **Returning with its direct memberships of groups that still exist.**  An entry that was a
direct member of `g` is deleted; any history follows during which it stays in the bin and `g`
stays a live group; then its revive succeeds.  Afterwards the entry is live, `g` lists it and
its directmemberof names `g`. -/
theorem membership_returns_after_revive {s0 : State} (hi : Inv s0) {ct : Nat} {ids : List Nat}
    {es1 : List Entry} {n : Option Nat} (hdel : apply s0 ct (.delete ids) = .ok es1 n)
    {x g : Nat} {e : Entry} (hx : find s0.es x = some e) (hl : e.st = .live) (hxi : x ∈ ids)
    (hg : g ∈ e.dmo) (steps : List (Nat × Op))
    (hbin : Always (InBin x) (next s0 ct (.delete ids)) steps)
    (hgl : Always (LiveGroupIn g) (next s0 ct (.delete ids)) steps)
    {ct2 : Nat} {es2 : List Entry} {n2 : Option Nat}
    (hrev : apply (run (next s0 ct (.delete ids)) steps) ct2 (.revive x) = .ok es2 n2) :
    ∃ e2 ge2, find es2 x = some e2 ∧ e2.st = .live ∧ g ∈ e2.dmo ∧
      find es2 g = some ge2 ∧ ge2.st = .live ∧ x ∈ ge2.member := by
  have hnext := next_delete hdel
  have hi1 : Inv (next s0 ct (.delete ids)) := inv_next hi ct _
  obtain ⟨e1, hfe1, hstash⟩ := delete_stashes_memberships hi hdel hx hl hxi
  have hfe1' : find (next s0 ct (.delete ids)).es x = some e1 := by rw [hnext]; exact hfe1
  obtain ⟨e1', hfe1'', hr1⟩ := hbin.head
  rw [hfe1'] at hfe1''
  cases hfe1''
  have hg1 : g ∈ e1.rdmo := by
    rcases hstash g hg with h1 | ⟨ge', hfg, hst⟩
    · exact h1
    · obtain ⟨ge2, hfg2, hl2, _⟩ := hgl.head
      rw [hnext] at hfg2
      simp only at hfg2
      rw [hfg] at hfg2
      cases hfg2
      rw [hst] at hl2; cases hl2
  obtain ⟨ef, hfef, hrf, _, hkeep⟩ := memberships_and_mark_kept_in_bin hi1 hfe1' hr1 steps hbin
  obtain ⟨gef, hfg, hgl', hgk'⟩ := Always.last steps _ hgl
  have hmx := Keyed.find_some Entry.id hfef
  obtain ⟨trim, _, hap⟩ := apply_ok hrev
  obtain ⟨e2, h2⟩ := revive_entry hap hfef (by simp [inR, hrf, hmx.2])
  obtain ⟨hdmo, ge2, hfg2, hgl2, hmem⟩ := h2.groups g gef (hkeep g hg1 hgl) hfg hgk' hgl'
  exact ⟨e2, ge2, h2.found, h2.st, hdmo, hfg2, hgl2, hmem⟩

/-- **Returning with its cascade-deleted dependents.**  `c` refers to `x`; `x` is deleted (so `c`
is, carrying the cascade mark); any history follows during which both stay in the bin; then the
revive of `x` succeeds.  Afterwards `c` is live and refers to `x` again. -/
theorem dependent_returns_after_revive {s0 : State} (hi : Inv s0) {ct : Nat} {ids : List Nat}
    {es1 : List Entry} {n : Option Nat} (hdel : apply s0 ct (.delete ids) = .ok es1 n)
    {x c : Nat} {e ce : Entry} (hx : find s0.es x = some e) (hl : e.st = .live) (hxi : x ∈ ids)
    (hc : find s0.es c = some ce) (hcl : ce.st = .live) (hcr : ce.refers = some x)
    (steps : List (Nat × Op))
    (hbin : Always (InBin c) (next s0 ct (.delete ids)) steps)
    {ct2 : Nat} {es2 : List Entry} {n2 : Option Nat}
    (hrev : apply (run (next s0 ct (.delete ids)) steps) ct2 (.revive x) = .ok es2 n2) :
    ∃ c2, find es2 c = some c2 ∧ c2.st = .live ∧ c2.refers = some x ∧ c2.casc = none := by
  have hnext := next_delete hdel
  have hi1 : Inv (next s0 ct (.delete ids)) := inv_next hi ct _
  obtain ⟨c1, hfc1, hrc1, hcc1⟩ := delete_cascade hdel hx hl hxi hc hcl hcr
  have hfc1' : find (next s0 ct (.delete ids)).es c = some c1 := by rw [hnext]; exact hfc1
  obtain ⟨cf, hfcf, hrcf, hccf, _⟩ := memberships_and_mark_kept_in_bin hi1 hfc1' hrc1 steps hbin
  obtain ⟨_, hdep, _⟩ := revive_restores_dependents_and_live_dmo _ ct2 x es2 n2 hrev
  exact hdep c cf hfcf hrcf (by rw [hccf, hcc1])

/-! ## retention: recycled → tombstone -/

/-- `purge_recycled` at a transaction stamped `ts` turns into tombstones exactly the recycled
entries last changed more than `RECYCLEBIN_MAX_AGE` before `ts` (strictly), stamps them `ts`,
strips them of everything, reports their number and touches nothing else. -/
theorem purge_recycled_exact (s : State) (ct : Nat) (es' : List Entry) (n : Option Nat)
    (h : apply s ct .purgeRecycled = .ok es' n) :
    es' = s.es.map (fun e =>
      if e.st = .recycled ∧ e.lastMod + recyclebinMaxAge * NS < txnTs s ct
      then tombE (txnTs s ct) e else e) ∧
    n = some ((s.es.filter (fun e =>
      decide (e.st = .recycled ∧ e.lastMod + recyclebinMaxAge * NS < txnTs s ct))).length) := by
  obtain ⟨trim, _, hap⟩ := apply_ok h
  obtain ⟨cut, hcut, rfl, rfl⟩ := opPurgeRecycled_ok hap
  have hsel := fun e => eq_decide_of_iff (purgeSel_iff (sid := s.sid) hcut e)
  exact ⟨List.map_congr_left fun e _ => by simp only [purgeE, hsel, decide_eq_true_eq],
    congrArg (fun l => some l.length) (List.filter_congr fun e _ => hsel e)⟩

/-- **Only after the retention period does an entry become a tombstone.**  An entry that is in
the recycle bin, last stamped `d`, is neither a tombstone nor gone in any later state of any
history whose latest committed transaction is stamped at most `d + RECYCLEBIN_MAX_AGE` — whatever
was done in between (purges at any clock reading, revive and renewed delete, deletes of other
entries, clock regressions). -/
theorem tombstone_only_after_retention {s : State} (hi : Inv s) {x : Nat} {e : Entry}
    (hx : find s.es x = some e) (hr : e.st = .recycled) (steps : List (Nat × Op))
    (hwin : (run s steps).maxTs ≤ e.lastMod + recyclebinMaxAge * NS) :
    ∃ e', find (run s steps).es x = some e' ∧ e'.st ≠ .tomb := by
  have h0 : Retained e.lastMod x s :=
    ⟨hi.stamp e (Keyed.find_some Entry.id hx).1 (by rw [hr]; decide), e, hx, by rw [hr]; decide, fun _ => Nat.le_refl _⟩
  obtain ⟨_, e', h1, h2, _⟩ := run_keeps_until Txn.retained steps hi h0 hwin
  exact ⟨e', h1, h2⟩

/-- The same for an entry that is live now: deleted at any later point, it cannot be a tombstone
before a retention period has passed since now. -/
theorem live_not_tombstone_within_retention {s : State} (hi : Inv s) {x : Nat} {e : Entry}
    (hx : find s.es x = some e) (hl : e.st = .live) (steps : List (Nat × Op))
    (hwin : (run s steps).maxTs ≤ s.maxTs + recyclebinMaxAge * NS) :
    ∃ e', find (run s steps).es x = some e' ∧ e'.st ≠ .tomb := by
  have h0 : Retained s.maxTs x s :=
    ⟨Nat.le_refl _, e, hx, by rw [hl]; decide, fun h => by rw [hl] at h; cases h⟩
  obtain ⟨_, e', h1, h2, _⟩ := run_keeps_until Txn.retained steps hi h0 hwin
  exact ⟨e', h1, h2⟩

/-! ## tombstones: final, and reaped only after the changelog window -/

/-- `purge_tombstones` at a transaction stamped `ts` removes exactly the tombstones created more
than `CHANGELOG_MAX_AGE` before `ts` (strictly) and nothing else. -/
theorem purge_tombstones_exact (s : State) (ct : Nat) (es' : List Entry) (n : Option Nat)
    (h : apply s ct .purgeTombstones = .ok es' n) :
    es' = s.es.filter (fun e =>
      !decide (e.st = .tomb ∧ e.lastMod + changelogMaxAge * NS < txnTs s ct)) := by
  obtain ⟨trim, htrim, hap⟩ := apply_ok h
  simp only [applyOp, opPurgeTombstones] at hap
  cases hap
  exact List.filter_congr fun e _ => congrArg (!·) (eq_decide_of_iff (reapSel_iff htrim e))

/-- A tombstone never changes and never comes back: after any single transaction it is the same
tombstone, or it is gone — and then the transaction was a tombstone purge stamped more than
`CHANGELOG_MAX_AGE` after the tombstone was made. -/
theorem tombstone_final {s : State} (hi : Inv s) {x : Nat} {e : Entry}
    (hx : find s.es x = some e) (ht : e.st = .tomb) (ct : Nat) (op : Op) :
    find (next s ct op).es x = some e ∨
    (find (next s ct op).es x = none ∧ op = .purgeTombstones ∧
      e.lastMod + changelogMaxAge * NS < txnTs s ct) := by
  rcases next_txn hi ct op with h | ⟨_, t⟩
  · rw [h]; exact .inl hx
  · exact t.tomb hx ht

/-- **Tombstones are removed only after the changelog window.**  A tombstone made at `a` is
still there, unchanged, in every later state of every history whose latest committed transaction
is stamped at most `a + CHANGELOG_MAX_AGE`. -/
theorem reap_only_after_changelog_window {s : State} (hi : Inv s) {x : Nat} {e : Entry}
    (hx : find s.es x = some e) (ht : e.st = .tomb) (steps : List (Nat × Op))
    (hwin : (run s steps).maxTs ≤ e.lastMod + changelogMaxAge * NS) :
    find (run s steps).es x = some e :=
  run_keeps_until (P := fun s => find s.es x = some e)
    (fun t hts h => (t.tomb h ht).resolve_right fun ⟨_, _, hlt⟩ => by omega) steps hi hx hwin

/-! ## non-vacuity and the known finding -/

/-- one second -/
def S : Nat := NS
/-- one day -/
def D : Nat := 86400 * NS
/-- the clock reading the test histories start from (the harness server's, 10⁷ s) -/
def T0 : Nat := 10000000 * NS

/-- person 1 in group 5 with certificate 9; the person is deleted (the certificate cascades),
survives a purge at exactly the end of the retention period, is revived one ns later with its
certificate and its membership; deleted again, it becomes a tombstone one ns after the period,
cannot be revived, survives a tombstone purge at exactly the end of the changelog window and is
gone one ns later. -/
def demo : List (Nat × Op) :=
  [(T0 + S, .createPerson 1), (T0 + 2 * S, .createGroup 5 [1]), (T0 + 3 * S, .createCert 9 1),
   (T0 + 10 * S, .delete [1]),
   (T0 + 10 * S + 7 * D, .purgeRecycled),
   (T0 + 10 * S + 7 * D + 1, .revive 1),
   (T0 + 20 * S + 7 * D, .delete [1]),
   (T0 + 20 * S + 14 * D + 1, .purgeRecycled),
   (T0 + 20 * S + 14 * D + 2, .revive 1),
   (T0 + 20 * S + 21 * D + 1, .purgeTombstones),
   (T0 + 20 * S + 21 * D + 2, .purgeTombstones)]

def demoAt (k : Nat) : State := run ⟨[], T0, 1⟩ (demo.take k)

def stOf (s : State) (x : Nat) : Option St := (find s.es x).map (·.st)

example : stOf (demoAt 4) 1 = some .recycled ∧ stOf (demoAt 4) 9 = some .recycled ∧
    searchNormal (demoAt 4).es = [5] ∧ searchRecycleBin (demoAt 4).es = [1, 9] := by decide +kernel
example : stOf (demoAt 5) 1 = some .recycled := by decide +kernel
example : stOf (demoAt 6) 1 = some .live ∧ stOf (demoAt 6) 9 = some .live ∧
    (find (demoAt 6).es 1).map (·.dmo) = some [5] ∧ (find (demoAt 6).es 5).map (·.member) = some [1] ∧
    (find (demoAt 6).es 9).map (·.refers) = some (some 1) := by decide +kernel
example : stOf (demoAt 8) 1 = some .tomb ∧ stOf (demoAt 8) 9 = some .tomb := by decide +kernel
example : demoAt 9 = demoAt 8 := by decide +kernel
example : stOf (demoAt 10) 1 = some .tomb := by decide +kernel
example : stOf (demoAt 11) 1 = none ∧ stOf (demoAt 11) 9 = none := by decide +kernel

/-- a certificate deleted on its own and revived on its own while its person is live
(`recycled_dependent_can_be_revived`) -/
def demo2 : List (Nat × Op) :=
  [(T0 + S, .createPerson 1), (T0 + 2 * S, .createCert 9 1), (T0 + 3 * S, .delete [9]),
   (T0 + 4 * S, .revive 9)]

example : stOf (run ⟨[], T0, 1⟩ (demo2.take 3)) 9 = some .recycled ∧
    stOf (run ⟨[], T0, 1⟩ demo2) 9 = some .live ∧
    (find (run ⟨[], T0, 1⟩ demo2).es 9).map (·.refers) = some (some 1) := by decide +kernel

/-- member ↔ directmemberof for one (group, entry) pair of live entries -/
def coherentAt (es : List Entry) (g y : Nat) : Bool :=
  match find es g, find es y with
  | some ge, some ye =>
    !(ge.st == .live && ye.st == .live && ge.kind == .group && ge.member.contains y) ||
      ye.dmo.contains g
  | _, _ => true

/-- The full statement "memberships are whole again after a revive" also needs the *members*
of a revived group to regain their directmemberof.  They do not (known finding D16). -/
def revive_coherent_full : Prop :=
  ∀ (steps : List (Nat × Op)) (g y : Nat), coherentAt (run ⟨[], T0, 1⟩ steps).es g y = true

def d16 : List (Nat × Op) :=
  [(T0 + S, .createPerson 1), (T0 + 2 * S, .createGroup 5 [1]), (T0 + 3 * S, .delete [5]),
   (T0 + 4 * S, .revive 5)]

/-- person 1 in group 5; the group is deleted and revived: it lists the person again, the
person's directmemberof stays empty. -/
theorem revived_group_members_not_restored_D16 :
    (find (run ⟨[], T0, 1⟩ d16).es 5).map (fun e => (e.st, e.member)) = some (.live, [1]) ∧
    (find (run ⟨[], T0, 1⟩ d16).es 1).map (fun e => (e.st, e.dmo)) = some (.live, []) := by
  decide +kernel

theorem revive_coherent_full_false : ¬ revive_coherent_full :=
  fun h => absurd (h d16 5 1) (by decide +kernel)

end Kanidm.Recycle
