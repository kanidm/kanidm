import KanidmProofs.Lemmas.ReplMerge
import KanidmProofs.Lemmas.ReplClash
import KanidmModel.ReplSystem
/-!
# C08 — replicas converge

The property theorems.  `vm` is `repl_merge_valueset` (hypothesis `hvm`: the default implementation,
`None`; the four overriding value set types are C11's subject), `repl` is `schema.is_replicated`.
Everything is observed on the replicated stratum (`view`: kind, `at`, per replicated attribute its
change cid and value).
-/
namespace Kanidm.ReplMerge
open Kanidm.Cid (Cid cidLt cidLt_irrefl cidLt_connex cidLt_asymm)
open Kanidm.Gen.ReplMergeOps

/-- `merge_state` on two live entries is attribute-level last-writer-wins by change cid: the later
cid and its value (or absence of a value) survive; an attribute known to one side only is kept;
the creation cid is kept. -/
theorem merge_is_lww (vm : Nat → Nat → Option Nat) (hvm : ∀ n o, vm n o = none) (repl : Nat → Bool)
    (L R : Live) (a : Nat) :
    rcell repl (mergeLive vm repl L R) a = lww (rcell repl L a) (rcell repl R a)
      ∧ (mergeLive vm repl L R).crAt = L.crAt :=
  ⟨rcell_mergeLive vm hvm repl L R a, rfl⟩

example : lww (some (⟨5, 1⟩, some 7)) (some (⟨5, 2⟩, none)) = some (⟨5, 2⟩, none) := by decide +kernel
example : lww (some (⟨6, 1⟩, some 7)) (some (⟨5, 2⟩, some 8)) = some (⟨6, 1⟩, some 7) := by decide +kernel

/-- Which side is incoming and which is in the database does not matter (one cid names one write). -/
theorem merge_comm (vm : Nat → Nat → Option Nat) (hvm : ∀ n o, vm n o = none) (repl : Nat → Bool)
    (s t : St) (h : VCoh (view repl s) (view repl t)) :
    view repl (mergeState vm repl s t) = view repl (mergeState vm repl t s) := by
  rw [view_mergeState vm hvm, view_mergeState vm hvm]
  exact vmerge_comm _ _ h

/-- Grouping does not matter (no coherence hypothesis; `hvm` is needed). -/
theorem merge_assoc (vm : Nat → Nat → Option Nat) (hvm : ∀ n o, vm n o = none) (repl : Nat → Bool)
    (s t u : St) :
    view repl (mergeState vm repl (mergeState vm repl s t) u)
      = view repl (mergeState vm repl s (mergeState vm repl t u)) := by
  simp only [view_mergeState vm hvm]
  exact vmerge_assoc _ _ _

/-- Receiving the same state again changes nothing. -/
theorem merge_idem (vm : Nat → Nat → Option Nat) (hvm : ∀ n o, vm n o = none) (repl : Nat → Bool)
    (s : St) : view repl (mergeState vm repl s s) = view repl s := by
  rw [view_mergeState vm hvm]
  exact vmerge_idem _

/-- The hypothesis of `merge_comm` is necessary: two different values under one cid are order dependent. -/
theorem merge_comm_needs_cid_unique :
    view (fun _ => true) (mergeState (fun _ _ => none) (fun _ => true)
        (.live ⟨⟨1, 1⟩, [(0, ⟨2, 1⟩)], [(0, 7)]⟩) (.live ⟨⟨1, 1⟩, [(0, ⟨2, 1⟩)], [(0, 8)]⟩))
      ≠ view (fun _ => true) (mergeState (fun _ _ => none) (fun _ => true)
        (.live ⟨⟨1, 1⟩, [(0, ⟨2, 1⟩)], [(0, 8)]⟩) (.live ⟨⟨1, 1⟩, [(0, ⟨2, 1⟩)], [(0, 7)]⟩)) := by
  intro h
  exact absurd (congrArg (cellOf · 0) h) (by decide +kernel)

/-- `hvm` is necessary for `merge_assoc`: with a value set type that merges instead of choosing (C11's
sessions, keys, audit log) a *purge* of the attribute between two writes makes the result depend on the
grouping — delivered directly, the oldest value is merged back into the newest; delivered through the
purge, it is gone.  (No server code path purges such an attribute; revocations are C11's subject.) -/
theorem merge_assoc_needs_default_valueset_merge :
    let vm : Nat → Nat → Option Nat := fun n o => some (n + o)
    let x : St := .live ⟨⟨1, 1⟩, [(0, ⟨1, 1⟩)], [(0, 1)]⟩
    let y : St := .live ⟨⟨1, 1⟩, [(0, ⟨2, 1⟩)], []⟩
    let z : St := .live ⟨⟨1, 1⟩, [(0, ⟨3, 1⟩)], [(0, 4)]⟩
    mergeState vm (fun _ => true) (mergeState vm (fun _ => true) x y) z
        = .live ⟨⟨1, 1⟩, [(0, ⟨3, 1⟩)], [(0, 4)]⟩
      ∧ mergeState vm (fun _ => true) x (mergeState vm (fun _ => true) y z)
        = .live ⟨⟨1, 1⟩, [(0, ⟨3, 1⟩)], [(0, 5)]⟩ := by
  decide +kernel

/-- A tombstone absorbs: merged with anything, on either side, the result is a tombstone, and its
`at` is not later than the tombstone's. -/
theorem tombstone_dominates (vm : Nat → Nat → Option Nat) (repl : Nat → Bool) (a : Cid) (s : St) :
    (∃ b, mergeState vm repl (.tomb a) s = .tomb b ∧ cidLt a b = false)
      ∧ (∃ b, mergeState vm repl s (.tomb a) = .tomb b ∧ cidLt a b = false) := by
  cases s with
  | live e => exact ⟨⟨a, rfl, cidLt_irrefl a⟩, ⟨a, rfl, cidLt_irrefl a⟩⟩
  | tomb c =>
    refine ⟨⟨_, mergeState_tomb_tomb vm repl a c, ?_⟩, ⟨_, mergeState_tomb_tomb vm repl c a, ?_⟩⟩
    · cases h : cidLt a c
      · exact h
      · exact cidLt_irrefl a
    · cases h : cidLt c a
      · exact cidLt_irrefl a
      · exact cidLt_asymm h

/-- What any delivery tree evaluates to, in terms of the *set* of delivered states: a tombstone with
the earliest `at` if any delivered state is a tombstone; otherwise a live entry whose every
replicated attribute carries the greatest change cid delivered for it, with that write's value
(`merge (resolve K₁) (resolve K₂) = resolve (K₁ ∪ K₂)`). -/
theorem merge_is_resolve (vm : Nat → Nat → Option Nat) (hvm : ∀ n o, vm n o = none) (repl : Nat → Bool)
    (w : Nat → St) (hcoh : ∀ i j, VCoh (view repl (w i)) (view repl (w j))) (t : Tree) :
    TreeSpec (fun i => view repl (w i)) (fun i => i ∈ t.leaves) (view repl (t.eval vm repl w)) := by
  rw [view_eval vm hvm repl w hcoh]
  exact treeSpec_of_treeSpecA hcoh (resolves_evalVA _ t).treeSpecA

/-- **Replicated attributes converge.**  Two replicas that have received the same set of states of an
entry — in any order, any grouping (directly or merged on intermediate replicas), any number of
times — hold the same kind (live / tombstone), the same `at` and, for every replicated attribute,
the same change cid and the same value. -/
theorem replicated_attrs_converge (vm : Nat → Nat → Option Nat) (hvm : ∀ n o, vm n o = none)
    (repl : Nat → Bool) (w : Nat → St)
    (hcoh : ∀ i j, VCoh (view repl (w i)) (view repl (w j)))
    (t₁ t₂ : Tree) (hset : ∀ i, i ∈ t₁.leaves ↔ i ∈ t₂.leaves) :
    view repl (t₁.eval vm repl w) = view repl (t₂.eval vm repl w) := by
  rw [view_eval vm hvm repl w hcoh, view_eval vm hvm repl w hcoh]
  exact Resolves.unique (fun i j => (hcoh i j).vcohA) ((resolves_evalVA _ t₁).congr hset)
    (resolves_evalVA _ t₂)

/-- non-vacuity: three writers, one of them deletes; two different schedules -/
example :
    let w : Nat → St := fun i =>
      if i = 0 then .live ⟨⟨1, 1⟩, [(0, ⟨1, 1⟩), (1, ⟨1, 1⟩)], [(0, 10), (1, 11)]⟩
      else if i = 1 then .live ⟨⟨1, 1⟩, [(0, ⟨1, 1⟩), (1, ⟨4, 2⟩)], [(0, 10)]⟩
      else .live ⟨⟨1, 1⟩, [(0, ⟨3, 3⟩), (1, ⟨1, 1⟩)], [(0, 12), (1, 11)]⟩
    (Tree.node (.leaf 2) (.node (.leaf 1) (.leaf 0))).eval (fun _ _ => none) (fun _ => true) w
      = .live ⟨⟨1, 1⟩, [(0, ⟨3, 3⟩), (1, ⟨4, 2⟩)], [(0, 12)]⟩
    ∧ (Tree.node (.node (.leaf 0) (.leaf 2)) (.node (.leaf 1) (.leaf 2))).eval (fun _ _ => none) (fun _ => true) w
      = .live ⟨⟨1, 1⟩, [(0, ⟨3, 3⟩), (1, ⟨4, 2⟩)], [(0, 12)]⟩ := by
  decide +kernel

/-! ## One functional write log gives the per-attribute agreement that coherence asks for

(the `Agree` conjunct of `VCoh` / `VCohA`; that the live states share a creation is a hypothesis throughout) -/

/-- A global write log: `(attribute, cid) ↦ value` is a function. -/
def LogFunctional (log : List (Nat × Cid × Option Nat)) : Prop :=
  ∀ a c v v', (a, c, v) ∈ log → (a, c, v') ∈ log → v = v'

/-- Every replicated cell of the entry is a logged write. -/
def Logged (repl : Nat → Bool) (log : List (Nat × Cid × Option Nat)) (e : Live) : Prop :=
  ∀ a c v, rcell repl e a = some (c, v) → (a, c, v) ∈ log

/-- States whose cells all come from one functional log agree wherever they carry the same cid
(H_cid_unique). -/
theorem agree_of_logged (repl : Nat → Bool) (log : List (Nat × Cid × Option Nat))
    (hf : LogFunctional log) (e₁ e₂ : Live) (h₁ : Logged repl log e₁) (h₂ : Logged repl log e₂) (a : Nat) :
    Agree (rcell repl e₁ a) (rcell repl e₂ a) := by
  intro c v v' hx hy
  exact hf a c v v' (h₁ a c v hx) (h₂ a c v' hy)

/-- A merge never invents a cell: the invariant is preserved by replication. -/
theorem logged_merge (vm : Nat → Nat → Option Nat) (hvm : ∀ n o, vm n o = none) (repl : Nat → Bool)
    (log : List (Nat × Cid × Option Nat)) (L R : Live) (hL : Logged repl log L) (hR : Logged repl log R) :
    Logged repl log (mergeLive vm repl L R) := by
  intro a c v h
  rw [rcell_mergeLive vm hvm] at h
  rcases lww_eq_or (rcell repl L a) (rcell repl R a) with e | e
  · exact hL a c v (e.symm.trans h)
  · exact hR a c v (e.symm.trans h)

/-- A local write under a transaction cid that the log has never seen keeps the log functional
(transaction cids are unique per server by C07 and carry the server uuid). -/
theorem log_extend_functional (log : List (Nat × Cid × Option Nat)) (hf : LogFunctional log)
    (txn : Cid) (hfresh : ∀ a v, (a, txn, v) ∉ log)
    (ws : List (Nat × Option Nat)) (hws : ∀ a v v', (a, v) ∈ ws → (a, v') ∈ ws → v = v') :
    LogFunctional (ws.map (fun w => (w.1, txn, w.2)) ++ log) := by
  intro a c v v' h1 h2
  simp only [List.mem_append, List.mem_map] at h1 h2
  rcases h1 with ⟨⟨a1, v1⟩, hw1, e1⟩ | h1 <;> rcases h2 with ⟨⟨a2, v2⟩, hw2, e2⟩ | h2
  · cases e1; cases e2; exact hws _ _ _ hw1 hw2
  · cases e1; exact absurd h2 (hfresh _ _)
  · cases e2; exact absurd h1 (hfresh _ _)
  · exact hf a c v v' h1 h2

/-! ## The range filter sends enough -/

/-- Applying the range-restricted delta equals applying the supplier's whole state, provided every
attribute state that is *not* sent is already dominated on the consumer (the promise of the update
vector: the consumer has seen that origin up to `ts_min`). -/
theorem delta_sufficient (vm : Nat → Nat → Option Nat) (hvm : ∀ n o, vm n o = none) (repl : Nat → Bool)
    (rg : Ranges) (S K : Live) (hd : Dominated repl rg S K) :
    view repl (mergeState vm repl (delta repl rg (.live S)) (.live K))
      = view repl (mergeState vm repl (.live S) (.live K)) := by
  rw [view_mergeState vm hvm, view_mergeState vm hvm]
  simp only [delta, view, vmerge]
  congr 1
  funext a
  rw [rcell_delta]
  cases hk : keySent repl rg S a
  · -- not sent: the consumer's cell is at least as late, so it wins either way
    cases hs : rcell repl S a with
    | none => rfl
    | some cv =>
      obtain ⟨c, v⟩ := cv
      obtain ⟨c', v', hK, hle, _⟩ := hd a c v hs (by rw [← keySent_eq_sent hs, hk])
      rw [hK, if_neg Bool.false_ne_true, lww_none_left, lww_some_some, hle]
      rfl
  · rfl

/-- The hypothesis of `delta_sufficient` is what fails for a conflict copy (D17b): the copy is a new
uuid, so the consumer holds nothing for it, yet it inherits the losing entry's old change cids, which
lie below the consumer's `ts_min` for that origin — those attributes are never sent. -/
theorem conflict_copy_delta_loses_attrs :
    let repl : Nat → Bool := fun _ => true
    -- the losing entry on its origin (server 2): created at ts 2, name (attr 1) written at ts 2
    let loser : Live := ⟨⟨2, 2⟩, [(0, ⟨2, 2⟩), (1, ⟨2, 2⟩)], [(0, 100), (1, 101)]⟩
    -- the copy made at ts 5: class (0), uuid (8), source_uuid (9) restamped
    let copy := conflictCopy ⟨9, 8, 0⟩ (200, 201, 202) ⟨5, 2⟩ loser
    -- the other replica has seen server 2 up to ts 2 and asks for (2, 5]
    let rg : Ranges := [(2, (2, 5))]
    -- it has never seen the copy's uuid: the database side is the stub (`at`, no changes)
    let stub : Live := ⟨copy.crAt, [], []⟩
    rcell repl copy 1 = some (⟨2, 2⟩, some 101)
      ∧ (match mergeState (fun _ _ => none) repl (delta repl rg (.live copy)) (.live stub) with
         | .live d => (rcell repl d 1, rcell repl d 9)
         | .tomb _ => (none, none)) = (none, some (⟨5, 2⟩, some 202)) := by
  decide +kernel

/-! ## The same uuid created twice -/

/-- Both replicas keep the earlier creation, whichever of them is the consumer; the later creation is
replaced wholesale. -/
theorem conflict_deterministic (vm : Nat → Nat → Option Nat) (repl : Nat → Bool) (tx ty : Cid)
    (X Y : Live) (h : cidLt X.crAt Y.crAt = true) :
    isAddConflict (.live X) (.live Y) = true ∧ isAddConflict (.live Y) (.live X) = true
      ∧ applyEntry vm repl tx (.live X) (.live Y) = sealSt repl (.live X)
      ∧ applyEntry vm repl ty (.live Y) (.live X) = sealSt repl (.live X) := by
  have h' := cidLt_asymm h
  simp [applyEntry_live_live, isAddConflict, addConflictWhen, h, h']

/-- Same creation ⇒ no conflict, the attribute merge runs. -/
theorem no_conflict_same_creation (vm : Nat → Nat → Option Nat) (repl : Nat → Bool) (tx : Cid)
    (X Y : Live) (h : X.crAt = Y.crAt) :
    applyEntry vm repl tx (.live X) (.live Y) = sealSt repl (mergeState vm repl (.live X) (.live Y)) := by
  simp [applyEntry_live_live, h, cidLt_irrefl]

/-- Exactly one conflict copy system-wide: it is written where the losing creation is replaced, and
only if that replica is the loser's origin; where the later creation arrives second nothing is written. -/
theorem conflict_copy_only_at_origin (txn : Cid) (X Y : Live) (h : cidLt X.crAt Y.crAt = true) :
    (resolveAdd txn X Y).1 = decide (Y.crAt.sUuid = txn.sUuid) ∧ (resolveAdd txn Y X).1 = false := by
  have h' := cidLt_asymm h
  simp [resolveAdd, incomingLoses, h, h', copyOnlyAtOrigin]

example :
    (resolveAdd ⟨9, 2⟩ ⟨⟨1, 1⟩, [(0, ⟨1, 1⟩)], [(0, 5)]⟩ ⟨⟨2, 2⟩, [(0, ⟨2, 2⟩)], [(0, 6)]⟩).1 = true
      ∧ (resolveAdd ⟨9, 3⟩ ⟨⟨1, 1⟩, [(0, ⟨1, 1⟩)], [(0, 5)]⟩ ⟨⟨2, 2⟩, [(0, ⟨2, 2⟩)], [(0, 6)]⟩).1 = false := by
  decide +kernel

/-- What any delivery tree over `applyEntry` evaluates to, in terms of the set of delivered states
(`TreeSpecA`).  This half needs no coherence: `hcoh` is not used. -/
theorem clash_is_resolve (vm : Nat → Nat → Option Nat) (hvm : ∀ n o, vm n o = none) (repl : Nat → Bool)
    (txn : Cid) (w : Nat → St) (hcoh : ∀ i j, VCohA (view repl (w i)) (view repl (w j))) (t : Tree) :
    TreeSpecA (fun i => view repl (w i)) (fun i => i ∈ t.leaves) (view repl (t.evalA vm repl txn w)) := by
  rw [view_evalA vm hvm]
  exact (resolves_evalVA _ t).treeSpecA

/-- **Convergence with uuid clashes.**  The same statement for the consumer's whole per-entry step
(`applyEntry`: conflict test, then `resolve_add_conflict` or `merge_state`, then `seal`), with the same
uuid created on several replicas: two replicas that have received the same set of states hold the same
view, namely (`clash_is_resolve`) the tombstone with the earliest `at` if any state is a tombstone, else
the *earliest creation*, whose every replicated attribute carries the greatest change cid delivered
among the states of that creation.  Coherence is only needed within one creation. -/
theorem replicated_attrs_converge_with_clashes (vm : Nat → Nat → Option Nat) (hvm : ∀ n o, vm n o = none)
    (repl : Nat → Bool) (txn₁ txn₂ : Cid) (w : Nat → St)
    (hcoh : ∀ i j, VCohA (view repl (w i)) (view repl (w j)))
    (t₁ t₂ : Tree) (hset : ∀ i, i ∈ t₁.leaves ↔ i ∈ t₂.leaves) :
    view repl (t₁.evalA vm repl txn₁ w) = view repl (t₂.evalA vm repl txn₂ w) := by
  rw [view_evalA vm hvm, view_evalA vm hvm]
  exact Resolves.unique hcoh ((resolves_evalVA _ t₁).congr hset) (resolves_evalVA _ t₂)

/-- non-vacuity: the uuid created at ts 1 on server 1 and at ts 2 on server 2, each edited afterwards;
whatever the order, the earlier creation with its latest description survives -/
example :
    let w : Nat → St := fun i =>
      if i = 0 then .live ⟨⟨1, 1⟩, [(0, ⟨1, 1⟩), (1, ⟨1, 1⟩)], [(0, 10), (1, 11)]⟩
      else if i = 1 then .live ⟨⟨2, 2⟩, [(0, ⟨2, 2⟩), (1, ⟨9, 2⟩)], [(0, 20), (1, 29)]⟩
      else .live ⟨⟨1, 1⟩, [(0, ⟨1, 1⟩), (1, ⟨5, 1⟩)], [(0, 10), (1, 15)]⟩
    (Tree.node (.leaf 1) (.node (.leaf 2) (.leaf 0))).evalA (fun _ _ => none) (fun _ => true) ⟨20, 1⟩ w
      = .live ⟨⟨1, 1⟩, [(0, ⟨1, 1⟩), (1, ⟨5, 1⟩)], [(0, 10), (1, 15)]⟩
    ∧ (Tree.node (.node (.leaf 0) (.leaf 1)) (.leaf 2)).evalA (fun _ _ => none) (fun _ => true) ⟨20, 2⟩ w
      = .live ⟨⟨1, 1⟩, [(0, ⟨1, 1⟩), (1, ⟨5, 1⟩)], [(0, 10), (1, 15)]⟩ := by
  decide +kernel

/-! ## The generated operators and sides are the ones the property needs -/

/-- Every regenerated comparison and side is the specified one: the later cid is taken from the left
only if strictly later; of two tombstones the strictly earlier left one is kept; a tombstone arm keeps
the tombstone's change state; a uuid clash is any difference of the creation cids and the later
creation loses; the copy is made on the loser's origin only; an attribute state travels iff it is
replicated and its timestamp lies in `(ts_min, ts_max]` of a requested origin. -/
theorem generated_ops_are_spec :
    (∀ l r : Cid, takeLeft cidLt l r = cidLt r l)
    ∧ (∀ a b : Cid, tombTombPickLeft cidLt a b = cidLt a b)
    ∧ tombLiveKeeps = .left ∧ liveTombKeeps = .right ∧ liveAtFrom = .left ∧ retainReplicated = true
    ∧ leftOnlyArm = ⟨.left, .left⟩ ∧ rightOnlyArm = ⟨.right, .right⟩
    ∧ (∀ a b : Cid, addConflictWhen cidLt a b = true ↔ a ≠ b)
    ∧ (∀ a b : Cid, incomingLoses cidLt a b = cidLt b a)
    ∧ copyOnlyAtOrigin = true
    ∧ (∀ ts lo hi : Nat, withinRange ts lo hi = true ↔ (lo < ts ∧ ts ≤ hi))
    ∧ rangeAbsentDefault = false ∧ rangeRequiresReplicated = true := by
  refine ⟨fun _ _ => rfl, fun _ _ => rfl, rfl, rfl, rfl, rfl, rfl, rfl, ?_, fun _ _ => rfl, rfl,
    withinRange_iff, rfl, rfl⟩
  intro a b
  show (cidLt a b || cidLt b a) = true ↔ a ≠ b
  -- neither is earlier iff they are equal
  rw [← Bool.not_eq_false, Bool.or_eq_false_iff]
  exact not_congr ⟨fun h => cidLt_connex h.1 h.2, fun h => h ▸ ⟨cidLt_irrefl a, cidLt_irrefl a⟩⟩

/-- What travels: exactly the replicated attribute states whose change cid lies in the requested
window of its origin. -/
theorem sent_iff (repl : Nat → Bool) (rg : Ranges) (a : Nat) (c : Cid) :
    sent repl rg a c = true ↔
      (repl a = true ∧ ∃ lo hi, lookup rg c.sUuid = some (lo, hi) ∧ lo < c.ts ∧ c.ts ≤ hi) := by
  unfold sent
  rw [Bool.and_eq_true]
  -- `rangeRequiresReplicated`, `rangeAbsentDefault` evaluate
  refine and_congr Iff.rfl ⟨fun h => ?_, fun ⟨lo, hi, hl, h⟩ => ?_⟩
  · cases hl : lookup rg c.sUuid with
    | none => rw [hl] at h; cases h
    | some p => rw [hl] at h; exact ⟨p.1, p.2, rfl, (withinRange_iff _ _ _).1 h⟩
  · rw [hl]; exact (withinRange_iff _ _ _).2 h

/-! ## The full statement is false of the code (D17) -/

open Kanidm.ReplSystem in
/-- The property as given: after every replica has received every other replica's changes, all
replicas hold identical entries — all uuids, conflict entries included, all attributes. -/
def converge_full : Prop :=
  ∀ (ops : List Op), sameOnAll (run (ops ++ fullMesh ++ fullMesh ++ fullMesh) boot2) = true

open Kanidm.ReplSystem in
/-- D17b: the same uuid created on two replicas, the later creation's origin learns of the earlier one
after the other replica has already seen its creation: the conflict copy arrives on the other replica
without the attributes that kept their old change cids. -/
theorem converge_full_false : ¬ converge_full :=
  fun h => absurd (h d17bWitness) (by decide +kernel)

end Kanidm.ReplMerge
