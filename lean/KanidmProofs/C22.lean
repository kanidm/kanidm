import KanidmProofs.Lemmas.Spn
/-!
# C22 — SPNs are always name@domain

Every live account or group has exactly one SPN, equal to its name followed by '@' and the
current domain name, after any create or rename and after the domain itself is renamed.

The theorems are about `Kanidm.Spn.step` / `stepRes` — the functions the driver `km_c22` runs
against the real server — and depend on the operators regenerated from the source into
`KanidmModel/Generated/SpnOps.lean`.
-/
namespace Kanidm.Spn
open Kanidm.Gen

theorem render_is_name_at_domain (n dom : Str) : render (n, dom) = n ++ '@' :: dom := by
  simp [render, SpnOps.render]

theorem entryOk_of_no_spn {dom dom' : Str} {x : Entry} (h : (x.live && x.spn.isSome) = false)
    (hok : EntryOk dom x) : EntryOk dom' x := by
  intro hl hm
  have hok := hok hl hm
  have hnone : x.spn = none := by simpa [hl] using h
  split at hok
  · rw [hok] at hnone; cases hnone
  · obtain ⟨p, hp⟩ := hok
    rw [hp] at hnone; cases hnone

theorem domainRename_inv {s s' : State} {d : Str} (hi : Inv s)
    (h : domainRename s d = .ok s') : Inv s' := by
  rcases domainRename_ok h with ⟨rfl, rfl⟩ | hw
  · exact ⟨rfl, hi.2⟩
  · -- under the invariant the live holders of an spn are all the entries the new name matters to
    exact hw.inv rfl fun x hx hsel => entryOk_of_no_spn hsel (hi.2 x hx)

theorem revive_inv {s s' : State} {ids : List Nat} (hi : Inv s)
    (h : revive s ids = .ok s') : Inv s' :=
  (revive_ok h).keeps_inv hi

/-- **Invariant step.** Whatever the operation (create, rename, direct write of spn or name,
domain rename, delete, revive) and whether it succeeds or fails, the state after the
transaction satisfies the invariant again. -/
theorem spn_inv_step (s : State) (op : Op) (hi : Inv s) : Inv (step s op) := by
  unfold step
  cases hres : stepRes s op with
  | err k => exact hi
  | ok s' =>
    simp only
    cases op with
    | create cands => exact (create_ok hres).keeps_inv hi
    | modify ids mods => exact (modifyCore_ok hres).keeps_inv hi
    | domainRename d => exact domainRename_inv hi hres
    | delete ids => exact (delete_ok hres).keeps_inv hi
    | revive ids => exact revive_inv hi hres

theorem spn_inv_history (ops : List Op) (s : State) (hi : Inv s) : Inv (run s ops) :=
  List.foldlRecOn ops step hi fun s hs op _ => spn_inv_step s op hs

/-- **Exactly one spn.** In a state satisfying the invariant every live account or group has
an spn attribute holding exactly one value. -/
theorem exactly_one_spn (s : State) (hi : Inv s) (e : Entry) (he : e ∈ s.entries)
    (hl : e.live = true) (hm : e.grp = true ∨ e.acct = true) :
    ∃ p, e.spn = some (.spn [p]) := by
  have hok := hi.2 e he hl hm
  cases hsn : single? e.name with
  | some n => rw [hsn] at hok; exact ⟨_, hok⟩
  | none => rw [hsn] at hok; exact hok

/-- **name@domain.** In a state satisfying the invariant the spn of a live account or group that has
its name is (name, current domain), whose string form is name ++ "@" ++ domain; the in-memory domain
name is the stored one. -/
theorem spn_is_name_at_domain (s : State) (hi : Inv s) (e : Entry) (he : e ∈ s.entries)
    (hl : e.live = true) (hm : e.grp = true ∨ e.acct = true) (n : Str) (hn : e.name = [n]) :
    e.spn = some (.spn [(n, s.domDb)]) ∧ render (n, s.domDb) = n ++ '@' :: s.domDb ∧
      s.domMem = s.domDb := by
  have hok := hi.2 e he hl hm
  simp only [hn, single?] at hok
  exact ⟨hok, render_is_name_at_domain _ _, hi.1⟩

/-- Operations of the property's histories keep every account and group (live or recycled)
with exactly one name. -/
theorem named_step (s : State) (op : Op) (hn : AllNamed s) (hop : op.inScope = true) :
    AllNamed (step s op) := by
  unfold step
  cases hres : stepRes s op with
  | err k => exact hn
  | ok s' =>
    cases op with
    | create cands =>
      refine (create_ok hres).named hn (List.forall_mem_map.2 fun c hc _ => ?_)
      exact List.length_eq_one_iff.1 (by simpa using List.all_eq_true.1 hop c hc)
    | modify ids mods =>
      exact (modifyCore_ok hres).named hn
        (List.forall_mem_map.2 fun x hx => applyMods_named hop (hn x (List.mem_filter.1 hx).1))
    | domainRename d =>
      rcases domainRename_ok hres with ⟨_, rfl⟩ | hw
      · exact hn
      · exact hw.named hn
          (List.forall_mem_map.2 fun x hx => applyMods_named rfl (hn x (List.mem_filter.1 hx).1))
    | delete ids => exact (delete_ok hres).named hn fun _ h => nomatch h
    | revive ids =>
      exact (revive_ok hres).named hn (List.forall_mem_map.2 fun x hx => hn x (List.mem_filter.1 hx).1)

theorem named_history (ops : List Op) (s : State) (hn : AllNamed s)
    (hops : ∀ op ∈ ops, op.inScope = true) : AllNamed (run s ops) :=
  List.foldlRecOn ops step hn fun s hs op hop => named_step s op hs (hops op hop)

/-- **The property.** From any state that satisfies the invariant and in which accounts and
groups are named, after any history of creates, renames, direct spn writes, domain renames,
deletes and revives (each succeeding or failing): every live account or group has exactly
one spn value; it is (name, current domain); its string form is name ++ "@" ++ domain. -/
theorem spn_always_name_at_domain (s : State) (ops : List Op) (hi : Inv s) (hn : AllNamed s)
    (hops : ∀ op ∈ ops, op.inScope = true) (e : Entry) (he : e ∈ (run s ops).entries)
    (hl : e.live = true) (hm : e.grp = true ∨ e.acct = true) :
    ∃ n, e.name = [n] ∧ e.spn = some (.spn [(n, (run s ops).domDb)]) ∧
      render (n, (run s ops).domDb) = n ++ '@' :: (run s ops).domDb := by
  obtain ⟨n, hname⟩ := named_history ops s hn hops e he hm
  obtain ⟨h1, h2, _⟩ := spn_is_name_at_domain _ (spn_inv_history ops s hi) e he hl hm n hname
  exact ⟨n, hname, h1, h2⟩

/-- **Domain rename takes effect.** A successful domain rename makes `d` the current domain
name, in the database and in memory; with `spn_inv_step` every live named account or group
then has (name, d). -/
theorem domain_rename_current {s s' : State} {d : Str} (h : domainRename s d = .ok s') :
    s'.domDb = d ∧ s'.domMem = d := by
  rcases domainRename_ok h with ⟨rfl, rfl⟩ | hw
  · exact ⟨rfl, rfl⟩
  · exact ⟨hw.domDb, hw.domMem⟩

/-! ## the hypotheses are what the driver evaluates on the real server's state -/

/-- The `inv=` flag printed by the driver (`invB`) decides `Inv`. -/
theorem driver_inv_flag (s : State) : invB s = true ↔ Inv s := by
  simp only [invB, Inv, Bool.and_eq_true, beq_iff_eq, List.all_eq_true, entryOkB_iff]

/-- The `named=` flag printed by the driver (`namedB`) decides `AllNamed`. -/
theorem driver_named_flag (s : State) : namedB s = true ↔ AllNamed s := by
  simp only [namedB, AllNamed, Named, List.all_eq_true, Bool.or_eq_true, Bool.not_eq_true',
    decide_eq_true_eq, List.length_eq_one_iff, Decidable.imp_iff_not_or, not_or, Bool.not_eq_true,
    Bool.or_eq_false_iff]

/-! ## beyond the property's histories: nameless groups (observation, see notes/C22.md) -/

/-- A live account or group with no name and some spn makes every domain rename to a different
name fail (`InvalidEntryState` out of `Spn::modify_inner`: purging spn leaves it with neither name
nor spn). -/
theorem nameless_blocks_domain_rename (s : State) (d : Str) (e : Entry) (he : e ∈ s.entries)
    (hl : e.live = true) (hm : e.grp = true ∨ e.acct = true) (hname : e.name = [])
    (hspn : e.spn.isSome = true) (hd : d ≠ s.domDb) : domainRename s d = .err .spn := by
  have hsel : (e.live && e.spn.isSome) = true := by rw [hl, hspn]; rfl
  have hfail : modifyEntry d (fun e => e.spn.isSome) [.purgeSpn] e = none := by
    have hg : generateSpn (applyMods e [.purgeSpn]) d = none := by
      rw [generateSpn_nameless d (by simp [applyMods, applyMod, hname, single?])]
      rfl
    rw [modifyEntry, if_pos hsel, spnHook_eq, if_pos ((managed_iff (applyMods e [.purgeSpn])).2 hm), hg]
    rfl
  have hany : s.entries.any (fun e => e.live && e.spn.isSome) = true :=
    List.any_eq_true.2 ⟨e, he, hsel⟩
  rw [domainRename_eq, if_neg hd, modifyCore, if_neg (by simp [hany]), mapOpt_eq_none he hfail]

/-! ## non-vacuity: concrete states and histories

The kernel is slow at `String.toList` of a literal. In the two examples where that is most of the cost
(`Inv exState` and the one about `render`) the literals are rewritten to character lists before the evaluation. -/

def exDom : Str := "example.com".toList
def exDom2 : Str := "new.example.com".toList

/-- admin-like account, a group, a recycled person whose spn still names an older domain. -/
def exState : State :=
  { domMem := exDom, domDb := exDom,
    entries := [
      ⟨1, false, true, true, ["alice".toList], some (.spn [("alice".toList, exDom)])⟩,
      ⟨2, true, false, true, ["staff".toList], some (.spn [("staff".toList, exDom)])⟩,
      ⟨3, false, true, false, ["bob".toList], some (.spn [("bob".toList, "old.example".toList)])⟩] }

example : Inv exState := (driver_inv_flag _).1 (by
  unfold exState exDom
  repeat rw [String.toList_ofList]
  decide +kernel)

example : AllNamed exState := (driver_named_flag _).1 (by decide +kernel)

/-- create a service account (caller supplies a wrong spn), rename alice, try to overwrite the
group's spn, rename the domain, revive bob. -/
def exOps : List Op :=
  [ .create [⟨4, false, true, true, ["svc".toList], some (.spn [("svc".toList, "evil.example".toList)])⟩],
    .modify [1] [.purgeName, .presentName "alice2".toList],
    .modify [2] [.purgeSpn, .presentSpn ("root".toList, exDom)],
    .domainRename exDom2,
    .revive [3] ]

example : ∀ op ∈ exOps, op.inScope = true := by decide +kernel

/-- every operation of the example succeeds, and the result is as the property says -/
example : run exState exOps =
    { domMem := exDom2, domDb := exDom2,
      entries := [
        ⟨1, false, true, true, ["alice2".toList], some (.spn [("alice2".toList, exDom2)])⟩,
        ⟨2, true, false, true, ["staff".toList], some (.spn [("staff".toList, exDom2)])⟩,
        ⟨3, false, true, true, ["bob".toList], some (.spn [("bob".toList, exDom2)])⟩,
        ⟨4, false, true, true, ["svc".toList], some (.spn [("svc".toList, exDom2)])⟩] } := by
  decide +kernel

example : render ("alice2".toList, exDom2) = "alice2@new.example.com".toList := by
  unfold exDom2
  repeat rw [String.toList_ofList]
  decide +kernel

/-- a duplicate name is refused (uniqueness), the state is unchanged -/
example : stepRes exState (.create [⟨5, true, false, true, ["staff".toList], none⟩]) = .err .unique := by
  decide +kernel

/-- the nameless-group observation is not vacuous -/
def exNameless : State :=
  { exState with entries := exState.entries ++
      [⟨6, true, false, true, [], some (.spn [("ghost".toList, "elsewhere.example".toList)])⟩] }

example : Inv exNameless := (driver_inv_flag _).1 (by decide +kernel)

example : domainRename exNameless exDom2 = .err .spn := by decide +kernel

end Kanidm.Spn
