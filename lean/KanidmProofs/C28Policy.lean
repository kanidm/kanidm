import KanidmProofs.C28
import KanidmModel.SoftLockPolicy
/-!
# C28 — which policy a credential gets (`Credential::softlock_policy`)

The decision trees are regenerated from `credential/mod.rs` on every run; the theorems compose their
evaluation (`softlockPolicy_eq`) with the lock theorems of `KanidmProofs/C28.lean`.
-/
namespace Kanidm.SoftLock
open Kanidm.Gen.SoftLock Kanidm.Gen.SoftLockPolicy

theorem pickStep_true (l : List Nat) : pickStep true l = l.min? := by
  induction l with
  | nil => rfl
  | cons x xs ih =>
    rw [pickStep, ih, List.min?_cons]
    cases xs.min? with
    | none => rfl
    | some y =>
      refine congrArg some ?_
      by_cases h : y < x
      · exact (if_pos h).trans (Nat.min_eq_right (Nat.le_of_lt h)).symm
      · exact (if_neg h).trans (Nat.min_eq_left (Nat.le_of_not_lt h)).symm

theorem minStep_spec (c : CredShape) (hl : c.totpSteps ≠ []) :
    minStep c ∈ c.totpSteps ∧ ∀ x ∈ c.totpSteps, minStep c ≤ x := by
  obtain ⟨m, hm⟩ := Option.isSome_iff_exists.1 (List.isSome_min?_iff.2 hl)
  rw [minStep, show totpStepIsMin = true from rfl, pickStep_true, hm]
  exact List.min?_eq_some_iff.1 hm

theorem softlockPolicy_eq (c : CredShape) :
    softlockPolicy c =
      match c.kind with
      | .password | .generatedPassword => .password
      | .webauthn => .webauthn
      | .passwordMfa =>
        if c.totpSteps ≠ [] then .totp (minStep c)
        else if c.wanKeys ≠ 0 then .webauthn else .password := by
  unfold softlockPolicy
  cases c.kind <;> simp [policyTree, evalTree, evalCond]

/-- For every credential (any `CredentialType` variant,
any token maps with positive TOTP steps) `softlock_policy` is never `Unrestricted`, is well formed,
and therefore a recorded failure at any time from any lock state leaves the credential `Locked`
with `ct < unlock_at ≤ reset_at` and refused at every time up to `unlock_at`. -/
theorem every_credential_type_rate_limited (c : CredShape) (hpos : ∀ st ∈ c.totpSteps, 0 < st) :
    softlockPolicy c ≠ .unrestricted ∧ (softlockPolicy c).WF ∧
    ∀ (s : SoftLock) (ct : Nat), s.policy = softlockPolicy c →
      ∃ n r u, (recordFailure s ct).state = .locked n r u ∧ ct < u ∧ u ≤ r ∧
        ∀ t, t ≤ u → isValid (applyTimeStep (recordFailure s ct) t none) = false := by
  have ⟨hne, hwf⟩ : softlockPolicy c ≠ .unrestricted ∧ (softlockPolicy c).WF := by
    rw [softlockPolicy_eq]
    cases c.kind with
    | passwordMfa =>
      dsimp only
      split
      · exact ⟨nofun, hpos _ (minStep_spec c ‹_›).1⟩
      · split <;> exact ⟨nofun, trivial⟩
    | _ => exact ⟨nofun, trivial⟩
  refine ⟨hne, hwf, fun s ct hs => ?_⟩
  obtain ⟨n, r, u, h1, h2, h3, h4⟩ := locked_until_unlock s ct (hs ▸ hwf) (hs ▸ hne)
  exact ⟨n, r, u, h1, h2, h3, fun t ht => by simpa using (h4 [t] (by simpa using ht)).2⟩

/-- Non-vacuity: a password+TOTP credential with steps 60 and 30 gets `Totp(30)`; its first
failure at 100 s locks until 101 s. -/
example :
    softlockPolicy { kind := .passwordMfa, totpSteps := [60, 30], wanKeys := 0 } = .totp 30 ∧
    (recordFailure (new (.totp 30)) (fromSecs 100)).state = .locked 1 (fromSecs 120) (fromSecs 101) := by
  decide +kernel

/-- A password-only credential (`Password`,
`GeneratedPassword`, or `PasswordMfa` with no token left) gets the Password policy, hence at most
100 recorded failures per UTC day from any lock state. -/
theorem password_only_credential_budget (c : CredShape)
    (hk : c.kind = .password ∨ c.kind = .generatedPassword ∨
      (c.kind = .passwordMfa ∧ c.totpSteps = [] ∧ c.wanKeys = 0)) :
    softlockPolicy c = .password ∧
    ∀ (s : SoftLock), s.policy = softlockPolicy c → ∀ (es : List Event) (now day : Nat),
      Mono now es → NoAdmin es → Protocol es → failsIn 86400 day s es ≤ 100 := by
  have hp : softlockPolicy c = .password := by
    rw [softlockPolicy_eq]
    rcases hk with h | h | ⟨h, h1, h2⟩
    · rw [h]
    · rw [h]
    · simp [h, h1, h2]
  refine ⟨hp, fun s hs es now day hm hna hpr => ?_⟩
  exact password_at_most_100_per_utc_day s (hs.trans hp) es now day hm hna hpr

example : softlockPolicy { kind := .generatedPassword, totpSteps := [], wanKeys := 0 } = .password := by
  decide +kernel

/-- A TOTP-protected credential (`PasswordMfa` with at least one
token, all steps positive) gets `Totp(step)` where `step` is the step of one of its tokens and no
token has a shorter one; hence at most 3 recorded failures per such TOTP step. -/
theorem totp_credential_budget (c : CredShape) (hk : c.kind = .passwordMfa)
    (hl : c.totpSteps ≠ []) (hpos : ∀ st ∈ c.totpSteps, 0 < st) :
    ∃ step, step ∈ c.totpSteps ∧ (∀ st ∈ c.totpSteps, step ≤ st) ∧
      softlockPolicy c = .totp step ∧
      ∀ (s : SoftLock), s.policy = softlockPolicy c → ∀ (es : List Event) (now k : Nat),
        Mono now es → NoAdmin es → Protocol es → failsIn step k s es ≤ 3 := by
  obtain ⟨hmem, hle⟩ := minStep_spec c hl
  have hp : softlockPolicy c = .totp (minStep c) := by
    rw [softlockPolicy_eq, hk]
    exact if_pos hl
  refine ⟨_, hmem, hle, hp, fun s hs es now k hmo hna hpr => ?_⟩
  exact totp_at_most_3_per_step s _ (hpos _ hmem) (hs.trans hp) es now k hmo hna hpr

example : ∃ c : CredShape, c.kind = .passwordMfa ∧ c.totpSteps ≠ [] ∧ (∀ st ∈ c.totpSteps, 0 < st) ∧
    softlockPolicy c = .totp 30 :=
  ⟨{ kind := .passwordMfa, totpSteps := [30, 45], wanKeys := 2 }, by decide +kernel⟩

end Kanidm.SoftLock
