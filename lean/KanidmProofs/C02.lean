import KanidmProofs.Lemmas.Filter
/-
C02 — Filter rewriting preserves meaning.

For every filter, every entry, every per-value comparison semantics `S` and every pair of sort
procedures that return a permutation of their input (Rust's `sort_unstable` is only known to do
that), resolving / optimising / fast-optimising a filter never changes `matches`
(= `entry_match_no_index_inner`).
-/
namespace Kanidm.Filter

/-- The only thing assumed of `sort_unstable`: the result is a permutation of the input. -/
def IsPerm (sort : List F → List F) : Prop := ∀ l, (sort l).Perm l

/-! ## 1. Terms equal up to slopes match the same entries; what makes `dedup` safe -/

section
variable (S : ValSem) (e : Entry)

theorem equiv_sound_aux :
    (∀ x y : F, x.equiv y = true → x.matches S e = y.matches S e) ∧
    (∀ l y, F.anyEquiv l y = true → ∃ x ∈ l, x.matches S e = y.matches S e) ∧
    (∀ l1 l2, F.subEquiv l1 l2 = true → ∀ x ∈ l1, ∃ y ∈ l2, x.matches S e = y.matches S e) := by
  apply F.equiv.mutual_induct
  case case1 | case2 | case3 | case4 | case6 =>  -- eq, cnt, stw, enw, lessThan
    intro a v _ a' v' _ h
    simp only [F.equiv, Bool.and_eq_true, beq_iff_eq] at h
    simp only [F.matches, h.1, h.2]
  case case5 =>  -- pres
    intro a _ a' _ h
    simp only [F.equiv, beq_iff_eq] at h
    simp only [F.matches, h]
  case case7 =>  -- or
    intro l _ l' _ ih3 ih2 h
    simp only [F.equiv, Bool.and_eq_true, List.all_eq_true] at h
    simp only [F.matches_or]
    exact (all_any_eq_of_mutual (ih3 h.1) fun y hy => ih2 y (h.2 y hy)).2
  case case8 =>  -- and
    intro l _ l' _ ih3 ih2 h
    simp only [F.equiv, Bool.and_eq_true, List.all_eq_true] at h
    simp only [F.matches_and]
    exact (all_any_eq_of_mutual (ih3 h.1) fun y hy => ih2 y (h.2 y hy)).1
  case case9 => intros; simp only [F.matches_invalid]  -- invalid
  case case10 => intros; simp only [F.matches_inclusion]  -- inclusion
  case case11 =>  -- andnot
    intro f _ f' _ ih h
    simp only [F.matches_andnot, ih (by simpa only [F.equiv] using h)]
  case case12 =>  -- the `_, _ => false` arm
    intro x y h1 h2 h3 h4 h5 h6 h7 h8 h9 h10 h11 h
    rw [F.equiv.eq_12 x y h1 h2 h3 h4 h5 h6 h7 h8 h9 h10 h11] at h
    cases h
  case case13 => intro y h; cases h  -- `anyEquiv [] y`
  case case14 =>  -- `anyEquiv (x :: xs) y`
    intro x xs y ihx ihxs h
    simp only [F.anyEquiv, Bool.or_eq_true] at h
    rcases h with h | h
    · exact ⟨x, List.mem_cons_self, ihx h⟩
    · obtain ⟨x', hx', hm⟩ := ihxs h
      exact ⟨x', List.mem_cons_of_mem _ hx', hm⟩
  case case15 => intro l2 _ x hx; cases hx  -- `subEquiv [] l2`
  case case16 =>  -- `subEquiv (x :: xs) l2`
    intro x xs l2 ihx ihxs h
    simp only [F.subEquiv, Bool.and_eq_true, List.any_eq_true] at h
    obtain ⟨⟨y, hy, hxy⟩, hrest⟩ := h
    simp only [List.forall_mem_cons]
    exact ⟨⟨y, hy, ihx y hxy⟩, ihxs hrest⟩

/-- Terms equal up to slopes and up to the *set* of children match the same entries. -/
theorem equiv_sound : ∀ (x y : F), x.equiv y = true → x.matches S e = y.matches S e :=
  (equiv_sound_aux S e).1

end

/-- Two terms the coded `PartialEq` (which ignores slopes) calls equal match the same entries. -/
theorem eq_implies_matches_eq (S : ValSem) (e : Entry) (x y : F) (h : x.beq y = true) :
    x.matches S e = y.matches S e :=
  equiv_sound S e x y (beq_imp_equiv.1 x y h)

/-- `Stw`, `Enw` and `Invalid` are never `==` to anything — not even to themselves — so they are
never de-duplicated (harmless: a duplicate changes no match result). -/
theorem stw_enw_invalid_never_eq (a : Nat) (v : Val) (s : Option Nat) (y : F) :
    (F.stw a v s).beq y = false ∧ (F.enw a v s).beq y = false ∧ (F.invalid a).beq y = false := by
  refine ⟨?_, ?_, ?_⟩ <;> cases y <;> rfl

example : (F.eq 1 (.num 2) (some 3)).beq (F.eq 1 (.num 2) none) = true := by decide
example : (F.and [.eq 1 (.num 2) (some 3), .pres 0 none] none).beq
    (F.and [.eq 1 (.num 2) none, .pres 0 (some 9)] (some 1)) = true := by decide

/-! ## 2. The sort contract: `cmp` is a total preorder -/

def slopeKey : Option Nat → List Nat
  | some n => [0, n]
  | none => [1, 0]

def kindKey : F → List Nat
  | .eq a v _ => 0 :: a :: valKey v
  | .pres a _ => [1, a]
  | .lessThan a v _ => 2 :: a :: valKey v
  | .cnt a v _ => 3 :: a :: valKey v
  | _ => [4]

/-- The sort key `cmp` really compares by: slope (`Some < None`), kind rank
(Eq < Pres < LessThan < Cnt < everything else), attribute, value. -/
def sortKey (x : F) : List Nat := slopeKey x.slope ++ kindKey x

theorem avCmp_eq_key (a1 : Nat) (v1 : Val) (a2 : Nat) (v2 : Val) :
    avCmp a1 v1 a2 v2 = cmpNatList (a1 :: valKey v1) (a2 :: valKey v2) := by
  rw [avCmp, Val.cmp_eq_key]
  exact (cmpNatList_append [a1] [a2] _ _ rfl).symm

theorem kindCmp_eq_key (x y : F) : F.kindCmp x y = cmpNatList (kindKey x) (kindKey y) := by
  cases x <;> cases y <;> first | rfl | exact avCmp_eq_key _ _ _ _

theorem slopeCmp_eq_key (s t : Option Nat) : slopeCmp s t = cmpNatList (slopeKey s) (slopeKey t) := by
  cases s <;> cases t <;> simp [slopeCmp, slopeKey, cmpNatList, natCmp]

/-- `cmp`, as coded arm by arm, is the lexicographic comparison of `sortKey`. -/
theorem cmp_eq_sortKey (x y : F) : x.cmp y = cmpNatList (sortKey x) (sortKey y) := by
  unfold F.cmp sortKey
  rw [slopeCmp_eq_key, kindCmp_eq_key,
    cmpNatList_append _ _ _ _ (by cases x.slope <;> cases y.slope <;> rfl)]
  cases cmpNatList (slopeKey x.slope) (slopeKey y.slope) <;> rfl

/-- `cmp` is the order of the sort keys, so its laws are those of core's `compareOn`. -/
theorem cmp_eq_compareOn : F.cmp = compareOn sortKey :=
  funext fun x => funext fun y => (cmp_eq_sortKey x y).trans (cmpNatList_eq_compare _ _)

instance cmp_transCmp : Std.TransCmp F.cmp := cmp_eq_compareOn ▸ inferInstance

/-- `cmp` is a total preorder, and `b.cmp(a)` is the mirror image of `a.cmp(b)`: exactly the
contract `sort_unstable` / `sort_unstable_by` require (no panic, no unspecified order beyond ties). -/
theorem cmp_total_preorder :
    (∀ x : F, x.cmp x = .eq) ∧
    (∀ x y : F, y.cmp x = (x.cmp y).swap) ∧
    (∀ x y : F, x.cmp y ≠ .gt ∨ y.cmp x ≠ .gt) ∧
    (∀ x y z : F, x.cmp y ≠ .gt → y.cmp z ≠ .gt → x.cmp z ≠ .gt) ∧
    (∀ x y z : F, x.cmp y = .eq → y.cmp z = .eq → x.cmp z = .eq) := by
  refine ⟨fun _ => Std.ReflCmp.compare_self, fun _ _ => Std.OrientedCmp.eq_swap, fun x y => ?_,
    fun x y z => ?_, fun _ _ _ => Std.TransCmp.eq_trans⟩
  · rw [Std.OrientedCmp.eq_swap (cmp := F.cmp) (a := y)]
    cases x.cmp y <;> simp [Ordering.swap]
  · simp only [ne_eq, Ordering.ne_gt_iff_isLE]
    exact Std.TransCmp.isLE_trans

/-- The order is not an artefact of equal keys: a cheap indexed term sorts before an expensive
one, which sorts before an unindexed one; with equal slopes Eq < Pres < LessThan < Cnt < rest. -/
example : (F.cnt 0 (.str [1]) (some 2)).cmp (F.eq 0 (.str [1]) (some 5)) = .lt ∧
    (F.eq 0 (.str [1]) (some 5)).cmp (F.eq 0 (.str [1]) none) = .lt ∧
    (F.eq 3 (.num 9) none).cmp (F.pres 0 none) = .lt ∧
    (F.pres 7 none).cmp (F.lessThan 0 (.num 0) none) = .lt ∧
    (F.lessThan 7 (.num 1) none).cmp (F.cnt 0 (.str []) none) = .lt ∧
    (F.cnt 7 (.str [1]) none).cmp (F.andnot (.pres 0 none) none) = .lt ∧
    (F.stw 7 (.str [1]) none).cmp (F.or [] none) = .eq := by decide

/-! ## 3. Optimisation preserves meaning -/

section
variable (S : ValSem) (e : Entry)

private theorem and_kids (f : F) (h : f.isAnd = true) :
    f.matches S e = (f.andChildren).all (fun g => g.matches S e) := by
  cases f with
  | and l s => exact F.matches_and S e l s
  | _ => cases h

private theorem or_kids (f : F) (h : f.isOr = true) :
    f.matches S e = (f.orChildren).any (fun g => g.matches S e) := by
  cases f with
  | or l s => exact F.matches_or S e l s
  | _ => cases h

/-- `optimise` (recursive flatten, singleton unwrap, sort, dedup, slope bookkeeping) never
changes which entries a filter matches — for all filters, entries and permutation-returning sorts. -/
theorem optimise_preserves (sa sd : List F → List F) (hsa : IsPerm sa) (hsd : IsPerm sd) :
    ∀ (f : F), (f.optimise sa sd).matches S e = f.matches S e := by
  have hb := eq_implies_matches_eq S e
  have hmap : ∀ l : List F, (∀ f ∈ l, (f.optimise sa sd).matches S e = f.matches S e) →
      (F.optimiseList sa sd l).all (fun g => g.matches S e) = l.all (fun g => g.matches S e) ∧
      (F.optimiseList sa sd l).any (fun g => g.matches S e) = l.any (fun g => g.matches S e) := by
    intro l ih
    rw [F.optimiseList_eq_map, List.all_map, List.any_map]
    -- congruence of `all` / `any` for two tests that agree on the members of `l`
    exact all_any_eq_of_mutual (fun a ha => ⟨a, ha, ih a ha⟩) (fun a ha => ⟨a, ha, ih a ha⟩)
  intro f
  induction f using F.ind with
  | hand l s ih =>
    have hfold := foldSame_all (p := fun g => g.matches S e) (and_kids S e) (F.optimiseList sa sd l)
    rw [(hmap l ih).1] at hfold
    simp only [F.optimise]
    split
    · rename_i x hx
      rw [hx] at hfold
      simp only [List.all_cons, List.all_nil, Bool.and_true] at hfold
      simp only [F.matches_and]; exact hfold
    · simp only [F.matches_and]
      rw [dedup_all hb, (hsa _).all_eq, hfold]
  | hor l s ih =>
    have hfold := foldSame_any (p := fun g => g.matches S e) (or_kids S e) (F.optimiseList sa sd l)
    rw [(hmap l ih).2] at hfold
    simp only [F.optimise]
    split
    · rename_i x hx
      rw [hx] at hfold
      simp only [List.any_cons, List.any_nil, Bool.or_false] at hfold
      simp only [F.matches_or]; exact hfold
    · simp only [F.matches_or]
      rw [dedup_any hb, (hsd _).any_eq, hfold]
  | _ => rfl

/-- `fast_optimise` (outermost And / Inclusion only) never changes which entries a filter matches. -/
theorem fastOptimise_preserves (sa : List F → List F) (hsa : IsPerm sa) (f : F) :
    (f.fastOptimise sa).matches S e = f.matches S e := by
  have hb := eq_implies_matches_eq S e
  cases f <;> simp only [F.fastOptimise, F.matches_inclusion, F.matches_and]
  rw [dedup_all hb, (hsa _).all_eq]

end

/-- Non-vacuity: nested Ands are flattened, the duplicate is dropped, the Or singleton is unwrapped,
the indexed term moves first. -/
example : (F.and [.pres 0 none, .and [.eq 1 (.num 2) (some 1), .or [.pres 0 none] none] none] none).optimise
    sortAsc sortDesc = .and [.eq 1 (.num 2) (some 1), .pres 0 none] (some 1) := by rfl

/-! ## 4. Resolution preserves meaning -/

/-- the terms a resolver answers one by one; the four connectives are resolved through their children -/
def FC.isLeaf : FC → Bool
  | .or _ | .and _ | .inclusion _ | .andnot _ => false
  | _ => true

/-- What the three resolvers share: the connectives are mapped over the resolved children, and a
leaf, where it resolves, to a term of the same meaning (the same term with a slope; `SelfUuid` ↦
equality on the uuid attribute with the caller's uuid). They differ in the slopes and in whether
`SelfUuid` resolves. -/
private structure Resolver (c : AttrConsts) (caller : Val) (res : FC → Option F)
    (resL : List FC → Option (List F)) : Prop where
  or : ∀ l, res (.or l) = (resL l).map (fun fi => .or fi none)
  and : ∀ l, res (.and l) = (resL l).map (fun fi => .and fi none)
  inclusion : ∀ l, res (.inclusion l) = (resL l).map (fun fi => .inclusion fi none)
  andnot : ∀ f, res (.andnot f) = (res f).map (fun fi => .andnot fi none)
  nil : resL [] = some []
  cons : ∀ f fs, resL (f :: fs) =
    match res f, resL fs with
    | some g, some gs => some (g :: gs)
    | _, _ => none
  leaf : ∀ fc g, fc.isLeaf = true → res fc = some g →
    ∀ S e, g.matches S e = fc.matches S caller c.uuidA e

private theorem resolveIdx_resolver (c : AttrConsts) (self : Val) (m : Nat → IType → Option Nat) :
    Resolver c self (FC.resolveIdx c self m) (FC.resolveIdxList c self m) :=
  ⟨fun _ => rfl, fun _ => rfl, fun _ => rfl, fun _ => rfl, rfl, fun _ _ => rfl,
    fun fc g hl h S e => by
      cases fc with
      | or _ | and _ | inclusion _ | andnot _ => cases hl
      | _ => cases h <;> rfl⟩

private theorem resolveNoIdx_resolver (c : AttrConsts) (self : Val) :
    Resolver c self (FC.resolveNoIdx c self) (FC.resolveNoIdxList c self) :=
  ⟨fun _ => rfl, fun _ => rfl, fun _ => rfl, fun _ => rfl, rfl, fun _ _ => rfl,
    fun fc g hl h S e => by
      cases fc with
      | or _ | and _ | inclusion _ | andnot _ => cases hl
      | _ => cases h <;> rfl⟩

private theorem fromInvalid_resolver (c : AttrConsts) (self : Val) (m : Nat → IType → Bool) :
    Resolver c self (FC.fromInvalid m) (FC.fromInvalidList m) :=
  ⟨fun _ => rfl, fun _ => rfl, fun _ => rfl, fun _ => rfl, rfl, fun _ _ => rfl,
    fun fc g hl h S e => by
      cases fc with
      | or _ | and _ | inclusion _ | andnot _ => cases hl
      | _ => cases h <;> rfl⟩

section
variable {c : AttrConsts} {self : Val} {res : FC → Option F} {resL : List FC → Option (List F)}
  (hr : Resolver c self res resL)
include hr

private theorem Resolver.preserves_list (S : ValSem) (e : Entry) :
    ∀ (l : List FC),
      (∀ f ∈ l, ∀ g, res f = some g → g.matches S e = f.matches S self c.uuidA e) →
      ∀ gs, resL l = some gs →
        gs.all (fun g => g.matches S e) = FC.matchesAll S self c.uuidA e l ∧
        gs.any (fun g => g.matches S e) = FC.matchesAny S self c.uuidA e l
  | [], _, gs, h => by rw [hr.nil] at h; cases h; exact ⟨rfl, rfl⟩
  | f :: fs, ih, gs, h => by
    rw [hr.cons] at h
    split at h
    · rename_i g gs' hg hgs
      cases h
      have h2 := Resolver.preserves_list S e fs (fun f hf => ih f (List.mem_cons_of_mem _ hf)) gs' hgs
      simp only [List.all_cons, List.any_cons, FC.matchesAll, FC.matchesAny,
        ih f List.mem_cons_self g hg, h2, and_self]
    · cases h

private theorem Resolver.preserves (S : ValSem) (e : Entry) :
    ∀ (fc : FC) (g : F), res fc = some g → g.matches S e = fc.matches S self c.uuidA e := by
  have hl := hr.preserves_list S e
  intro fc
  induction fc using FC.ind with
  | hnot f ih =>
    intro g h
    rw [hr.andnot, Option.map_eq_some_iff] at h
    obtain ⟨fi, hfi, rfl⟩ := h
    simp only [F.matches_andnot, FC.matches, ih fi hfi]
  | hor l ih =>
    intro g h
    rw [hr.or, Option.map_eq_some_iff] at h
    obtain ⟨fi, hfi, rfl⟩ := h
    simp only [F.matches_or, FC.matches, (hl l ih fi hfi).2]
  | hand l ih =>
    intro g h
    rw [hr.and, Option.map_eq_some_iff] at h
    obtain ⟨fi, hfi, rfl⟩ := h
    simp only [F.matches_and, FC.matches, (hl l ih fi hfi).1]
  | hinc l ih =>
    intro g h
    rw [hr.inclusion, Option.map_eq_some_iff] at h
    obtain ⟨fi, hfi, rfl⟩ := h
    simp only [F.matches_inclusion, FC.matches]
  | _ => exact fun g h => hr.leaf _ g rfl h S e

private theorem Resolver.total (hleaf : ∀ fc : FC, fc.isLeaf = true → ∃ g, res fc = some g) :
    ∀ fc : FC, ∃ g, res fc = some g := by
  have hl : ∀ l : List FC, (∀ f ∈ l, ∃ g, res f = some g) → ∃ gs, resL l = some gs := by
    intro l
    induction l with
    | nil => exact fun _ => ⟨[], hr.nil⟩
    | cons x xs ihl =>
      intro ih
      obtain ⟨g, hg⟩ := ih x List.mem_cons_self
      obtain ⟨gs, hgs⟩ := ihl (fun f hf => ih f (List.mem_cons_of_mem _ hf))
      exact ⟨g :: gs, by rw [hr.cons, hg, hgs]⟩
  intro fc
  induction fc using FC.ind with
  | hnot f ih => obtain ⟨g, hg⟩ := ih; exact ⟨_, by rw [hr.andnot, hg]; rfl⟩
  | hor l ih => obtain ⟨gs, hgs⟩ := hl l ih; exact ⟨_, by rw [hr.or, hgs]; rfl⟩
  | hand l ih => obtain ⟨gs, hgs⟩ := hl l ih; exact ⟨_, by rw [hr.and, hgs]; rfl⟩
  | hinc l ih => obtain ⟨gs, hgs⟩ := hl l ih; exact ⟨_, by rw [hr.inclusion, hgs]; rfl⟩
  | _ => exact hleaf _ rfl

end

section
variable (S : ValSem) (e : Entry) (c : AttrConsts) (self : Val)

/-- `resolve_idx`: whatever the index metadata, the resolved filter means what the filter meant
(`SelfUuid` ↦ equality on the uuid attribute with the caller's uuid; no arm confuses term kinds). -/
theorem resolveIdx_preserves (m : Nat → IType → Option Nat) :
    ∀ (fc : FC) (g : F), fc.resolveIdx c self m = some g →
      g.matches S e = fc.matches S self c.uuidA e :=
  (resolveIdx_resolver c self m).preserves S e

/-- `resolve_no_idx` likewise. -/
theorem resolveNoIdx_preserves :
    ∀ (fc : FC) (g : F), fc.resolveNoIdx c self = some g →
      g.matches S e = fc.matches S self c.uuidA e :=
  (resolveNoIdx_resolver c self).preserves S e

/-- `from_invalid` (test-only constructor) likewise, where it does not panic. -/
theorem fromInvalid_preserves (m : Nat → IType → Bool) :
    ∀ (fc : FC) (g : F), fc.fromInvalid m = some g →
      g.matches S e = fc.matches S self c.uuidA e :=
  (fromInvalid_resolver c self m).preserves S e

end

/-- Resolution never fails (`Identity::get_uuid` is total), so the statements above are not vacuous. -/
theorem resolve_total (c : AttrConsts) (self : Val) (m : Nat → IType → Option Nat) :
    ∀ fc : FC, (∃ g, fc.resolveIdx c self m = some g) ∧ (∃ g, fc.resolveNoIdx c self = some g) :=
  fun fc =>
    ⟨(resolveIdx_resolver c self m).total
        (fun fc hl => by
          cases fc with
          | or _ | and _ | inclusion _ | andnot _ => cases hl
          | _ => exact ⟨_, rfl⟩) fc,
      (resolveNoIdx_resolver c self).total
        (fun fc hl => by
          cases fc with
          | or _ | and _ | inclusion _ | andnot _ => cases hl
          | _ => exact ⟨_, rfl⟩) fc⟩

/-- Non-vacuity: `SelfUuid` under an Or, with `uuid` equality indexed at slope 3. -/
example : (FC.or [.selfUuid, .pres 2]).resolveIdx ⟨7, 1⟩ (.num 42)
    (fun a t => if a = 7 ∧ t = .equality then some 3 else none) =
    some (.or [.eq 7 (.num 42) (some 3), .pres 2 none] none) := by rfl

/-! ## 5. The certificate checker -/

theorem insertBy_perm (le : F → F → Bool) (x : F) (l : List F) : (insertBy le x l).Perm (x :: l) := by
  induction l with
  | nil => exact List.Perm.refl _
  | cons y ys ih =>
    simp only [insertBy]
    split
    · exact List.Perm.refl _
    · exact ((List.Perm.cons y ih).trans (List.Perm.swap x y ys))

theorem isortBy_perm (le : F → F → Bool) (l : List F) : (isortBy le l).Perm l := by
  induction l with
  | nil => exact List.Perm.refl _
  | cons x xs ih =>
    show (insertBy le x (isortBy le xs)).Perm (x :: xs)
    exact (insertBy_perm le x _).trans (List.Perm.cons x ih)

/-- The sorts the driver runs satisfy the hypothesis of `optimise_preserves`. -/
theorem sortAsc_perm : IsPerm sortAsc := isortBy_perm _
theorem sortDesc_perm : IsPerm sortDesc := isortBy_perm _

section
variable (S : ValSem) (e : Entry)

theorem optIter_preserves : ∀ (n : Nat) (f : F), (optIter n f).matches S e = f.matches S e := by
  intro n
  induction n with
  | zero => intro f; rfl
  | succ n ih =>
    intro f
    simp only [optIter]
    split
    · exact optimise_preserves S e _ _ sortAsc_perm sortDesc_perm f
    · rw [ih, optimise_preserves S e _ _ sortAsc_perm sortDesc_perm f]

end

/-- Every pair (original, rewritten) the checker accepts is a proved instance of the property:
the rewritten filter matches exactly the entries the original matches. -/
theorem isOptimiseOf_sound (f g : F) (h : isOptimiseOf f g = true) :
    ∀ (S : ValSem) (e : Entry), g.matches S e = f.matches S e := by
  intro S e
  have := equiv_sound S e _ _ h
  unfold optFix at this
  rw [optIter_preserves S e, optIter_preserves S e] at this
  exact this.symm

/-- Non-vacuity: the checker accepts a genuine rewriting (any tie order, duplicate dropped) and
rejects a rewriting that loses a term. -/
example : isOptimiseOf
    (.and [.pres 0 none, .and [.eq 1 (.num 2) (some 1), .pres 0 none] none] none)
    (.and [.eq 1 (.num 2) (some 1), .pres 0 none] (some 1)) = true := by decide
example : isOptimiseOf
    (.and [.pres 0 none, .and [.eq 1 (.num 2) (some 1), .pres 0 none] none] none)
    (.pres 0 none) = false := by decide
/-- one optimiser pass is not idempotent (`And[x, x]` ↦ `And[x]` ↦ `x`); the checker copes -/
example : isOptimiseOf (.and [.pres 0 none, .pres 0 none] none) (.and [.pres 0 none] none) = true := by decide

end Kanidm.Filter
