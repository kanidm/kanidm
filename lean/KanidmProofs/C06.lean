import KanidmProofs.Lemmas.TxnSnapshot
import KanidmModel.ReloadDispatch
/-!
# C06 — read transactions see one consistent committed state

Statements about `Kanidm.TxnSnapshot` (the functions the driver `km_c06` runs) over the reader's
acquisition order (`Gen.ReadOrder`) and the writer's publication order (`Gen.CommitOrder`), both
regenerated from the source.

The full statement (every interleaving of one reader with one committing writer gives the reader one
committed state) is FALSE of the generated orders: `snapshot_consistent_full_false` (witness
`reader_between_publications`: D5) and, even for a reader whose `read()` is not interleaved at all,
`atomic_read_consistent_full_false` (witness `reader_select_after_commit`: the SQLite snapshot is
deferred to the first statement).  The last section: the reload checks at the start of `commit()` are
independent `if`s.  That a snapshot, once taken, never changes (repeat reads) is the trusted semantics
of concread read transactions and SQLite WAL snapshots, built into `observe` (an observation is a
function of the acquisition schedule only) and exercised by the harness.
-/
namespace Kanidm.TxnSnapshot
open Kanidm.Gen.CommitOrder Kanidm.Gen.ReadOrder Kanidm.TxnCommit

/-- The reader begins its SQLite transaction exactly once, and takes every cell at most once. -/
theorem read_order_shape :
    (readSteps.filter (· == .dbBegin)).length = 1 ∧ readSteps.Nodup := by decide +kernel

/-- Every cell a reader takes is published by a successful commit. -/
theorem read_cells_are_published :
    readSteps.all (fun a => match a with | .cell c => decide (c ∈ publishedCells flatSteps) | .dbBegin => true) = true :=
  List.all_eq_true.mpr fun a _ => by
    cases a with
    | cell c => exact decide_eq_true (flatSteps_publishes_all.1 c)
    | dbBegin => rfl

/-- The entry cache (and every other backend cache, the RUV and the index metadata) is published
only after `COMMIT TRANSACTION`; schema, cid, domain info, configs, access controls, key providers
and the OAuth2 set are not. -/
theorem late_cells_eq :
    lateCells = [.opTsMax, .nameCache, .idxExistsCache, .idlCache, .allids, .maxid, .keyhandles, .entryCache, .ruv, .idxmetaWr] := by
  decide +kernel

/-- A reader all of whose acquisitions and whose first select happen before the writer's first
publication observes exactly the old committed state. -/
theorem reader_before_commit_consistent (s : St) (ops : List Op) (σ : Sched)
    (hacq : ∀ k ∈ σ.acq, k ≤ firstPublish flatSteps) (hsel : dbPos dbSnapshotDeferred σ ≤ firstPublish flatSteps) :
    observe (applyOps s ops) σ = oldObs s σ :=
  observeWith_before dbSnapshotDeferred s ops σ hacq hsel

/-- A reader that starts after `commit()` returned observes exactly the new committed state. -/
theorem reader_after_commit_consistent (s : St) (ops : List Op) (σ : Sched)
    (hl : σ.acq.length = readSteps.length)
    (hacq : ∀ k ∈ σ.acq, flatSteps.length ≤ k) (hsel : flatSteps.length ≤ σ.sel) :
    observe (applyOps s ops) σ = newObs (applyOps s ops) σ :=
  observeWith_after dbSnapshotDeferred _ σ hl hacq hsel

/-- **Partial snapshot consistency**: a reader that runs entirely before the writer's first
publication, or entirely after its `commit()`, observes one committed state. -/
theorem snapshot_consistent_partial (s : St) (ops : List Op) (σ : Sched)
    (hl : σ.acq.length = readSteps.length)
    (h : ((∀ k ∈ σ.acq, k ≤ firstPublish flatSteps) ∧ σ.sel ≤ firstPublish flatSteps) ∨
         ((∀ k ∈ σ.acq, flatSteps.length ≤ k) ∧ flatSteps.length ≤ σ.sel)) :
    Consistent s (applyOps s ops) σ (observe (applyOps s ops) σ) := by
  rcases h with ⟨ha, hs⟩ | ⟨ha, hs⟩
  · exact .inl (reader_before_commit_consistent s ops σ ha (dbPos_of (· ≤ firstPublish flatSteps) _ σ hl ha hs))
  · exact .inr (reader_after_commit_consistent s ops σ hl ha hs)

theorem atomicRead_wf (k sel : Nat) (h : k ≤ sel) : (atomicRead k sel).wf :=
  ⟨List.length_replicate, List.pairwise_replicate.mpr (.inr (Nat.le_refl k)),
    fun _ hk => (List.eq_of_mem_replicate hk) ▸ h⟩

/-- Non-vacuity: both kinds of schedule exist, are well-formed, and differ in what they see. -/
example :
    let t := applyOps zero [.stage .dInfo 1, .stage .schema 1, .dbStage 1]
    (atomicRead 0 0).wf ∧ (atomicRead flatSteps.length flatSteps.length).wf ∧
    observe t (atomicRead 0 0) = oldObs zero (atomicRead 0 0) ∧
    observe t (atomicRead flatSteps.length flatSteps.length) = newObs t (atomicRead 0 0) ∧
    oldObs zero (atomicRead 0 0) ≠ newObs t (atomicRead 0 0) := by
  exact ⟨atomicRead_wf _ _ (Nat.le_refl _), atomicRead_wf _ _ (Nat.le_refl _), by decide +kernel⟩

/-- The full property: whatever the (well-formed) interleaving, the reader observes one committed state. -/
def snapshot_consistent_full : Prop :=
  ∀ (s : St), Clean s → ∀ (ops : List Op) (σ : Sched), σ.wf →
    Consistent s (applyOps s ops) σ (observe (applyOps s ops) σ)

/-- The instant just before the writer's `COMMIT TRANSACTION`: D5's reader window at its widest. -/
def windowPos : Nat := dbCommitIdx

/-- D5 witness: a reader that starts (and selects) between the writer's publications and its
`COMMIT`: the new domain info with the old database. -/
def reader_between_publications : Sched := atomicRead windowPos windowPos

theorem snapshot_consistent_full_false : ¬ snapshot_consistent_full := by
  intro h
  have hobs : (observe (applyOps zero [.stage .dInfo 1, .dbStage 1]) reader_between_publications).db = 0 ∧
      (.dInfo, 1) ∈ (observe (applyOps zero [.stage .dInfo 1, .dbStage 1]) reader_between_publications).cells := by
    decide +kernel
  rcases h zero zero_clean [.stage .dInfo 1, .dbStage 1] reader_between_publications
    (atomicRead_wf _ _ (Nat.le_refl _)) with h1 | h1
  · -- every cell value of the old state is 0
    obtain ⟨_, _, hv⟩ := mem_cellObsF _ _ _ _ _ (h1 ▸ hobs.2)
    cases hv
  · -- the database of the new state is 1
    cases h1 ▸ hobs.1

/-- The same for readers whose `read()` is atomic (not interleaved with the writer at all). -/
def atomic_read_consistent_full : Prop :=
  ∀ (s : St), Clean s → ∀ (ops : List Op) (k sel : Nat), k ≤ sel →
    Consistent s (applyOps s ops) (atomicRead k sel) (observe (applyOps s ops) (atomicRead k sel))

/-- Witness: `read()` before the writer even began, first select after its `commit()` returned. -/
def reader_select_after_commit : Sched := atomicRead 0 flatSteps.length

/-- Because the SQLite snapshot is deferred, even an un-interleaved `read()` does not give one
committed state: old domain info, new database. -/
theorem atomic_read_consistent_full_false : ¬ atomic_read_consistent_full := by
  intro h
  have hobs : (observe (applyOps zero [.stage .dInfo 1, .dbStage 1]) reader_select_after_commit).db = 1 ∧
      (.dInfo, 0) ∈ (observe (applyOps zero [.stage .dInfo 1, .dbStage 1]) reader_select_after_commit).cells := by
    decide +kernel
  have hc : Consistent zero _ reader_select_after_commit (observe _ reader_select_after_commit) :=
    h zero zero_clean [.stage .dInfo 1, .dbStage 1] 0 flatSteps.length (Nat.zero_le _)
  rcases hc with h1 | h1
  · -- the database of the old state is 0
    cases h1 ▸ hobs.1
  · -- the domain info of the new state is 1
    obtain ⟨_, _, hv⟩ := mem_cellObsF _ _ _ _ _ (h1 ▸ hobs.2)
    cases hv

/-- What an eager snapshot (a reading statement inside `read()`) would give: a reader whose
`read()` ran before the writer's first publication observes the old state, whenever it selects. -/
theorem eager_snapshot_read_before_commit_consistent (s : St) (ops : List Op) (σ : Sched)
    (hl : σ.acq.length = readSteps.length) (hacq : ∀ k ∈ σ.acq, k ≤ firstPublish flatSteps) :
    observeWith false (applyOps s ops) σ = oldObs s σ :=
  observeWith_before false s ops σ hacq (hacq _ (beginPos_readSteps_mem σ hl))

theorem lateCells_not_early :
    lateCells.all (fun c => decide (c ∉ publishedCells (flatSteps.take (flatSteps.findIdx isDbCommit + 1)))) = true := by
  decide +kernel

/-- A reader that sees a backend cache, the RUV or the index metadata in its new version also sees the
new database: these cells are published only after `COMMIT TRANSACTION`, and the deferred SQLite
snapshot is taken after every acquisition (the position of a cell in `readSteps` plays no part). -/
theorem cache_new_imp_db_new (σ : Sched) (hwf : σ.wf) (c : Cell) (hc : c ∈ lateCells) (k : Nat)
    (hk : k ∈ σ.acq) (hnew : cellNewAt c k = true) (hdef : dbSnapshotDeferred = true) :
    dbNewAt (dbPos dbSnapshotDeferred σ) = true := by
  have hnot : c ∉ publishedCells (flatSteps.take (flatSteps.findIdx isDbCommit + 1)) :=
    of_decide_eq_true (List.all_eq_true.mp lateCells_not_early c hc)
  obtain ⟨_, _, hsel⟩ := hwf  -- every acquisition precedes the select
  have hle : k ≤ dbPos dbSnapshotDeferred σ := by
    unfold dbPos
    rw [hdef]
    exact hsel k hk
  -- the `COMMIT` step among the first `k` is also among the steps run when the snapshot is taken
  obtain ⟨x, hx, hp⟩ := List.any_eq_true.mp (late_cell_new_imp_db flatSteps k c hnot (of_decide_eq_true hnew))
  exact List.any_eq_true.mpr ⟨x, List.take_subset_take_left flatSteps hle hx, hp⟩

example : cellNewAt .entryCache flatSteps.length = true ∧ dbNewAt flatSteps.length = true ∧
    cellNewAt .entryCache (windowPos + 1) = false := by decide +kernel

end Kanidm.TxnSnapshot

namespace Kanidm.ReloadDispatch
open Kanidm.Gen.ReloadDispatch

theorem run_unchained (changed : List Flag) (cs : List Check) (t : Bool)
    (h : ∀ c ∈ cs, c.chained = false) :
    run changed cs t = cs.flatMap fun c => if hit changed c then c.calls else [] := by
  induction cs generalizing t with
  | nil => rfl
  | cons d ds ih =>
    rw [run, h d (List.mem_cons_self ..), List.flatMap_cons, ih _ fun x hx => h x (List.mem_cons_of_mem _ hx)]
    simp only [Bool.false_and, Bool.not_false, Bool.and_true]

/-- The generated checks of `reload()` are independent `if`s: whatever set of flags ONE write transaction
set, every check whose flags intersect it executes all of its reload functions (an `else if` between two
checks — e.g. system config / domain info — generates `chained := true` and this stops proving). -/
theorem reload_checks_independent (changed : List Flag) (c : Check) (hc : c ∈ checks)
    (hh : hit changed c = true) (r : Reload) (hr : r ∈ c.calls) : r ∈ reloadRuns changed := by
  rw [reloadRuns, run_unchained changed checks false (by decide +kernel)]
  exact List.mem_flatMap.mpr ⟨c, hc, (if_pos hh).symm ▸ hr⟩

/-- Every flag `reload()` clears is served by a check: a set flag is never dropped without its reload. -/
theorem reload_cleared_flags_served : ∀ f ∈ cleared, ∃ c ∈ checks, f ∈ c.flags ∧ c.calls ≠ [] := by
  decide +kernel

/-- Hence: for every cleared flag a transaction set, some reload function of a check naming it ran. -/
theorem reload_serves_every_set_flag (changed : List Flag) (f : Flag) (hf : f ∈ cleared) (hs : f ∈ changed) :
    ∃ c ∈ checks, f ∈ c.flags ∧ c.calls ≠ [] ∧ ∀ r ∈ c.calls, r ∈ reloadRuns changed := by
  obtain ⟨c, hc, hfc, hne⟩ := reload_cleared_flags_served f hf
  refine ⟨c, hc, hfc, hne, fun r hr => reload_checks_independent changed c hc ?_ r hr⟩
  exact List.any_eq_true.mpr ⟨f, hfc, List.contains_iff_mem.mpr hs⟩

/-- Non-vacuity: a transaction that changes system config and domain info runs both reloads
(and the version check), in source order. -/
example : reloadRuns [.systemConfig, .domain] = [.reloadDomainInfoVersion, .reloadSystemConfig, .reloadDomainInfo] := by
  decide +kernel

/-- The model does distinguish a chained dispatch: with `else if` between the two checks the domain
reload is skipped when both flags are set. -/
example : run [.systemConfig, .domain]
    [⟨[.systemConfig], [.reloadSystemConfig], false⟩, ⟨[.domain], [.reloadDomainInfo], true⟩] false
    = [.reloadSystemConfig] := by decide +kernel

end Kanidm.ReloadDispatch
