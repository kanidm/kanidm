import KanidmProofs.Lemmas.Migration
import KanidmProofs.Lemmas.Ite
import KanidmProofs.Lemmas.Keyed
/-!
# C48 — upgrading the domain level preserves data and consistency

Property theorems over `KanidmModel/Migration.lean` (which runs on the regenerated
`Generated/MigrationOps.lean`).  Three groups:

1. the upsert of one definition (`internal_migrate_or_create` through `gen_modlist_assert`): exactly which
   values of the stored entry are kept, replaced, added; idempotence;
2. the database: a migration level touches only the uuids it defines or deletes — every other entry keeps
   its state and every value, for every starting database, every schema table and every plugin verdict,
   whether or not a batch fails; uuids stay unique; a batch that reports no error leaves every definition
   present with its values;
3. the driver (`initialise_helper`, `reload_domain_info_version`): refuses downgrades and skips, never lowers
   the level, runs exactly the migrations between the two levels in order, refuses levels in development,
   and the same level again is either nothing or a re-run of the target migration.
-/
namespace Kanidm.Migration
open Kanidm.Gen.Migration

def FailsWith {ε α : Type} (r : Except ε α) (c : ε) : Prop := r = Except.error c

/-! ## 1. the upsert of one definition -/

/-- attributes the migrate arm never asserts: not named by the definition, the uuid, `member_create_once`,
    the ignore list (`credential_type_minimum`) -/
def Unasserted (d : Def) (a : Nat) : Prop :=
  a ∉ keys d ∨ a = attrUuid ∨ a = attrMemberCreateOnce ∨ a ∈ ignoreAttrs

def Asserted (d : Def) (a : Nat) (vs : List Nat) : Prop :=
  (a, vs) ∈ d ∧ a ≠ attrUuid ∧ a ≠ attrMemberCreateOnce ∧ a ∉ ignoreAttrs

theorem Unasserted.not_mem {d : Def} {a : Nat} (ha : Unasserted d a) :
    a ∉ keys (assertedPairs (stripForMigrate d)) := fun hk => by
  obtain ⟨p, hp, rfl⟩ := List.mem_map.1 hk
  obtain ⟨hd, hu, hc, hi⟩ := mem_asserted_strip.1 hp
  exact ha.elim (· (List.mem_map_of_mem hd)) fun ha => ha.elim hu fun ha => ha.elim hc hi

/-- Every attribute the definition does not assert keeps exactly its stored values. -/
theorem upsert_unnamed_kept (multi : Nat → Option Bool) (d : Def) (ms : List Mod) (e : Ent) (a : Nat)
    (h : genModlistAssert multi (stripForMigrate d) = some ms) (ha : Unasserted d a) :
    applyMods e ms a = e a := by
  obtain ⟨_, rfl⟩ := genModlistAssert_some h
  exact assertMods_other _ _ e a ha.not_mem

/-- The exact values of an asserted attribute afterwards: the definition's values only if the attribute is
    single-valued or on the purge list of `gen_modlist_assert`, stored ∪ defined otherwise. -/
theorem upsert_defined_exact (multi : Nat → Option Bool) (d : Def) (ms : List Mod) (e : Ent)
    (h : genModlistAssert multi (stripForMigrate d) = some ms) (hnd : (keys d).Nodup)
    (a : Nat) (vs : List Nat) (r : Bool) (ha : Asserted d a vs) (hr : multi a = some r) (v : Nat) :
    v ∈ applyMods e ms a ↔
      (if purgeWhen r (forcePurgeAttrs.contains a) then v ∈ vs else (v ∈ e a ∨ v ∈ vs)) := by
  obtain ⟨_, rfl⟩ := genModlistAssert_some h
  rw [mem_assertMods_self _ _ e (keys_asserted_strip_nodup hnd) (mem_asserted_strip.2 ha) v, hr]
  rfl

/-- The entry carries every value its definition specifies. -/
theorem upsert_defined_superset (multi : Nat → Option Bool) (d : Def) (ms : List Mod) (e : Ent)
    (h : genModlistAssert multi (stripForMigrate d) = some ms) (hnd : (keys d).Nodup)
    (a : Nat) (vs : List Nat) (ha : Asserted d a vs) (v : Nat) (hv : v ∈ vs) :
    v ∈ applyMods e ms a := by
  obtain ⟨r, hr⟩ := (genModlistAssert_some h).1 _ (mem_asserted_strip.2 ha)
  rw [upsert_defined_exact multi d ms e h hnd a vs r ha hr v]
  split
  · exact hv
  · exact Or.inr hv

/-- Values an administrator added to a multi-valued attribute that is not on the purge list stay. -/
theorem upsert_user_multi_kept (multi : Nat → Option Bool) (d : Def) (ms : List Mod) (e : Ent)
    (h : genModlistAssert multi (stripForMigrate d) = some ms) (hnd : (keys d).Nodup)
    (a : Nat) (vs : List Nat) (ha : Asserted d a vs) (hr : multi a = some true)
    (hp : forcePurgeAttrs.contains a = false) (v : Nat) (hv : v ∈ e a) :
    v ∈ applyMods e ms a := by
  rw [upsert_defined_exact multi d ms e h hnd a vs true ha hr v, hp]
  simp [purgeWhen, hv]

/-- A single-valued attribute, or one on the purge list, ends with exactly the definition's values. -/
theorem upsert_single_replaced (multi : Nat → Option Bool) (d : Def) (ms : List Mod) (e : Ent)
    (h : genModlistAssert multi (stripForMigrate d) = some ms) (hnd : (keys d).Nodup)
    (a : Nat) (vs : List Nat) (r : Bool) (ha : Asserted d a vs) (hr : multi a = some r)
    (hp : r = false ∨ forcePurgeAttrs.contains a = true) (v : Nat) :
    v ∈ applyMods e ms a ↔ v ∈ vs := by
  rw [upsert_defined_exact multi d ms e h hnd a vs r ha hr v]
  rcases hp with hp | hp
  · subst hp; simp [purgeWhen]
  · rw [hp]; simp [purgeWhen]

/-- Asserting the same definition twice equals once (as sets of values, attribute by attribute). -/
theorem upsert_idempotent (multi : Nat → Option Bool) (d : Def) (ms : List Mod) (e : Ent)
    (h : genModlistAssert multi (stripForMigrate d) = some ms) (hnd : (keys d).Nodup) (a v : Nat) :
    v ∈ applyMods (applyMods e ms) ms a ↔ v ∈ applyMods e ms a := by
  obtain ⟨_, rfl⟩ := genModlistAssert_some h
  by_cases hk : a ∈ keys (assertedPairs (stripForMigrate d))
  · obtain ⟨⟨a, vs⟩, hp, rfl⟩ := List.mem_map.1 hk
    have hnd' := keys_asserted_strip_nodup hnd
    rw [mem_assertMods_self _ _ _ hnd' hp, mem_assertMods_self _ _ _ hnd' hp]
    -- purged: the definition's values both times; otherwise (stored ∪ defined) ∪ defined
    split
    · exact Iff.rfl
    · rw [or_assoc, or_self]
  · rw [assertMods_other _ _ _ a hk]

/-! ## 2. the database -/

/-- What a successful upsert of `d` under `u` did: appended the new entry, or rewrote the one live entry. -/
inductive Upserted (env : Env) (db : List DbEntry) (u : Nat) (d : Def) : List DbEntry → Prop
  | create : u ∉ db.map (·.uuid) → env.acceptCreate db u (entOfDef (mergeCreateOnce d)) = true →
      Upserted env db u d (db ++ [⟨u, true, entOfDef (mergeCreateOnce d)⟩])
  | migrate {x : DbEntry} {ms : List Mod} : x ∈ db → x.live = true → x.uuid = u →
      genModlistAssert env.multi (stripForMigrate d) = some ms →
      env.acceptModify db x (applyMods x.attrs ms) = true →
      Upserted env db u d (setAttrs db u (applyMods x.attrs ms))

theorem migrateOrCreate_ok {env : Env} {db db' : List DbEntry} {u : Nat} {d : Def}
    (h : migrateOrCreate env db u d = .ok db') : Upserted env db u d db' := by
  revert h
  fun_cases migrateOrCreate env db u d <;> intro h <;> cases h
  · next hc =>
    simp only [Bool.or_eq_true, Bool.not_eq_true', not_or, Bool.not_eq_true, Bool.not_eq_false,
      List.any_eq_false, beq_iff_eq] at hc
    exact .create (fun hm => by obtain ⟨y, hy, hyu⟩ := List.mem_map.1 hm; exact hc.1 y hy hyu) hc.2
  · next x hx ms hms _ hacc =>
    have hx' := List.mem_filter.1 (hx ▸ List.mem_singleton_self x : x ∈ hits db u)
    simp only [Bool.and_eq_true, beq_iff_eq] at hx'
    obtain ⟨hmem, hlive, huuid⟩ := hx'
    exact .migrate hmem hlive huuid hms hacc

/-- One upsert changes or creates only the entry with the definition's uuid. -/
theorem migrateOrCreate_frame (env : Env) (db db' : List DbEntry) (u : Nat) (d : Def)
    (h : migrateOrCreate env db u d = .ok db') (x : DbEntry) (hx : x ∈ db) (hne : x.uuid ≠ u) :
    x ∈ db' := by
  cases migrateOrCreate_ok h with
  | create => exact List.mem_append_left _ hx
  | migrate => exact List.mem_map.mpr ⟨x, hx, by simp [hne]⟩

def UuidNodup (db : List DbEntry) : Prop := (db.map (·.uuid)).Nodup

theorem setAttrs_nodup {db : List DbEntry} (u : Nat) (e : Ent) (hn : UuidNodup db) :
    UuidNodup (setAttrs db u e) :=
  Keyed.nodup_map DbEntry.uuid (fun y _ => by split <;> rfl) hn

theorem uuidNodup_append {db : List DbEntry} {u : Nat} (e : Ent) (hn : UuidNodup db)
    (hu : u ∉ db.map (·.uuid)) : UuidNodup (db ++ [⟨u, true, e⟩]) :=
  Keyed.nodup_append DbEntry.uuid hn (List.nodup_cons.2 ⟨List.not_mem_nil, List.nodup_nil⟩)
    fun x hx y hy hxy => by
      cases List.mem_singleton.1 hy
      exact hu (List.mem_map.2 ⟨x, hx, hxy⟩)

theorem migrateOrCreate_nodup (env : Env) (db db' : List DbEntry) (u : Nat) (d : Def)
    (h : migrateOrCreate env db u d = .ok db') (hn : UuidNodup db) : UuidNodup db' := by
  cases migrateOrCreate_ok h with
  | create hu => exact uuidNodup_append _ hn hu
  | migrate => exact setAttrs_nodup _ _ hn

/-- with unique uuids the entries of a given uuid are at most one; `hits` keeps it if it is live -/
theorem hits_nil_or_singleton {db : List DbEntry} (hn : UuidNodup db) (u : Nat) :
    hits db u = [] ∨ ∃ x, hits db u = [x] := by
  have hh : hits db u = (db.filter fun x => x.uuid == u).filter (·.live) := by
    rw [List.filter_filter]; rfl
  by_cases h : ∃ x ∈ db, x.uuid = u
  · obtain ⟨x, hx, rfl⟩ := h
    rw [hh, Keyed.filter_of_mem DbEntry.uuid hn hx, List.filter_cons]
    split
    · exact .inr ⟨x, rfl⟩
    · exact .inl rfl
  · exact .inl (List.filter_eq_nil_iff.2 fun x hx hxu =>
      h ⟨x, hx, eq_of_beq (Bool.and_eq_true_iff.1 hxu).2⟩)

/-- with unique uuids the `InvalidDbState` arm of the upsert is unreachable -/
theorem no_invalid_state (env : Env) (db : List DbEntry) (u : Nat) (d : Def) (hn : UuidNodup db) :
    ¬ FailsWith (migrateOrCreate env db u d) Err.invalidDbState := by
  unfold FailsWith
  fun_cases migrateOrCreate env db u d <;> intro h <;> cases h
  next h0 h1 =>
  rcases hits_nil_or_singleton hn u with h | ⟨x, h⟩
  · exact h0 h
  · exact h1 x h

/-- What every successful upsert keeps a batch keeps, failing or not: the completed upserts of a failing batch stay. -/
theorem batch_preserves (env : Env) (P : List DbEntry → Prop) (defs : List (Nat × Def)) (db : List DbEntry)
    (hstep : ∀ p ∈ defs, ∀ db db', migrateOrCreate env db p.1 p.2 = .ok db' → P db → P db')
    (h : P db) : P (batch env db defs).1 := by
  fun_induction batch env db defs with
  | case1 => exact h  -- no definition left
  | case2 db u d rest db' hm ih =>  -- the upsert succeeded
    exact ih (fun p hp => hstep p (List.mem_cons_of_mem _ hp)) (hstep (u, d) List.mem_cons_self db db' hm h)
  | case3 => exact h  -- the upsert failed: the batch ends here

/-- A batch — failing or not — leaves every entry it does not define exactly as it was. -/
theorem batch_frame (env : Env) : ∀ (defs : List (Nat × Def)) (db : List DbEntry) (x : DbEntry),
    x ∈ db → (∀ p ∈ defs, p.1 ≠ x.uuid) → x ∈ (batch env db defs).1 :=
  fun defs db x hx hd => batch_preserves env (x ∈ ·) defs db
    (fun p hp db db' h hx => migrateOrCreate_frame env db db' p.1 p.2 h x hx (Ne.symm (hd p hp))) hx

/-- `y` is `x` up to references to entries the migration deleted. -/
structure Kept (isRef : Nat → Bool) (gone : List Nat) (x y : DbEntry) : Prop where
  uuid : y.uuid = x.uuid
  live : y.live = x.live
  sub : ∀ a v, v ∈ y.attrs a → v ∈ x.attrs a
  sup : ∀ a v, v ∈ x.attrs a → v ∈ y.attrs a ∨ (isRef a = true ∧ v ∈ gone)

theorem Kept.refl (isRef : Nat → Bool) (gone : List Nat) (x : DbEntry) : Kept isRef gone x x :=
  ⟨rfl, rfl, fun _ _ h => h, fun _ _ h => Or.inl h⟩

theorem mem_unref {isRef : Nat → Bool} {gone : List Nat} {e : Ent} {a v : Nat} :
    v ∈ unref isRef gone e a ↔ v ∈ e a ∧ (isRef a = true → v ∉ gone) := by
  unfold unref
  split <;> simp [*]

theorem deleteWhere_kept {isRef : Nat → Bool} {p : DbEntry → Bool} {s : St} {x y : DbEntry}
    (hy : y ∈ s.db) (hp : (y.live && p y) = false) (hk : Kept isRef s.gone x y) :
    ∃ z ∈ (deleteWhere isRef p s).db, Kept isRef (deleteWhere isRef p s).gone x z := by
  refine ⟨{ y with attrs := unref isRef (deleteHits p s.db) y.attrs },
    List.mem_map.2 ⟨y, hy, by simp [hp]⟩, hk.uuid, hk.live,
    fun a v hv => hk.sub a v (mem_unref.1 hv).1, fun a v hv => ?_⟩
  rcases hk.sup a v hv with h | ⟨hr, hg⟩
  · by_cases hd : isRef a = true ∧ v ∈ deleteHits p s.db
    · exact Or.inr ⟨hd.1, List.mem_append_right _ hd.2⟩
    · exact Or.inl (mem_unref.2 ⟨h, fun hr hg => hd ⟨hr, hg⟩⟩)
  · exact Or.inr ⟨hr, List.mem_append_left _ hg⟩

/-- the entry is none of the migration's business -/
def Untouched (env : Env) (ld : LevelData) (steps : List Step) (x : DbEntry) : Prop :=
  (∀ n, Step.batch n ∈ steps → ∀ p ∈ ld.batches n, p.1 ≠ x.uuid) ∧
  (Step.deleteBatch ∈ steps → ld.dels.contains x.uuid = false) ∧
  (Step.deleteDbSchema ∈ steps → matchesDbSchema env x = false)

theorem matchesDbSchema_congr (env : Env) (x y : DbEntry) (hc : env.isRef attrClass = false)
    (g : List Nat) (h : Kept env.isRef g x y) : matchesDbSchema env y = matchesDbSchema env x := by
  have hcont : ∀ v, (y.attrs attrClass).contains v = (x.attrs attrClass).contains v := fun v => by
    rw [Bool.eq_iff_iff, List.contains_iff_mem, List.contains_iff_mem]
    exact ⟨h.sub _ v, fun hv => (h.sup _ v hv).resolve_right fun h' => by rw [hc] at h'; cases h'.1⟩
  unfold matchesDbSchema
  simp only [hcont]

/-- **User data is unchanged by a whole migration level**, for every starting database, schema table and
    plugin verdict: an entry the level neither defines nor deletes is still there in the same state, and it
    has exactly its values — except references to entries the level deleted (referential integrity). -/
theorem runSteps_user_data (env : Env) (ld : LevelData) (hc : env.isRef attrClass = false)
    (x : DbEntry) : ∀ (steps : List Step) (s : St) (y : DbEntry), Untouched env ld steps x →
      y ∈ s.db → Kept env.isRef s.gone x y →
      ∃ z ∈ (runSteps env ld s steps).db, Kept env.isRef (runSteps env ld s steps).gone x z :=
  fun steps s y ⟨hbatches, hdels, hschema⟩ hy hk =>
    List.foldlRecOn steps (runStep env ld) (motive := fun s => ∃ z ∈ s.db, Kept env.isRef s.gone x z)
      ⟨y, hy, hk⟩ fun s ⟨y, hy, hk⟩ st hst => by
        cases st with
        | batch n => exact ⟨y, batch_frame env _ s.db y hy fun p hp => hk.uuid ▸ hbatches n hst p hp, hk⟩
        | deleteBatch => exact deleteWhere_kept hy (by rw [hk.uuid, hdels hst]; simp) hk
        | deleteDbSchema =>
          exact deleteWhere_kept hy (by
            rw [matchesDbSchema_congr env x y hc s.gone hk, hschema hst]; simp) hk
        | _ => exact ⟨y, hy, hk⟩

/-- The instance the property talks about: the steps of the migration to `DOMAIN_TGT_LEVEL`, from the
    database as it is (nothing deleted yet). -/
theorem target_level_keeps_user_data (env : Env) (ld : LevelData) (hc : env.isRef attrClass = false)
    (db : List DbEntry) (x : DbEntry) (hx : x ∈ db) (hu : Untouched env ld targetSteps x) :
    ∃ z ∈ (runSteps env ld ⟨db, []⟩ targetSteps).db,
      Kept env.isRef (runSteps env ld ⟨db, []⟩ targetSteps).gone x z :=
  runSteps_user_data env ld hc x targetSteps ⟨db, []⟩ x hu hx (Kept.refl _ _ x)

/-- With the filter as written (`f_and` of both schema classes) an entry that has only one of the two
    classes — every real schema entry, hence every user-defined schema extension — is not deleted. -/
theorem custom_schema_entries_survive (env : Env) (x : DbEntry)
    (h : (x.attrs attrClass).contains env.valClassType ≠ (x.attrs attrClass).contains env.valAttributeType) :
    matchesDbSchema env x = false := by
  unfold matchesDbSchema
  simp only [dbSchemaFilterIsAnd, if_true]
  cases h1 : (x.attrs attrClass).contains env.valClassType <;>
    cases h2 : (x.attrs attrClass).contains env.valAttributeType <;> simp_all

theorem deleteWhere_nodup (isRef : Nat → Bool) (p : DbEntry → Bool) (s : St) (hn : UuidNodup s.db) :
    UuidNodup (deleteWhere isRef p s).db :=
  Keyed.nodup_map DbEntry.uuid (fun y _ => by split <;> rfl) hn

/-- What every successful upsert and every delete keep a level keeps: its other statements write no stored
    attribute. -/
theorem runSteps_preserves (env : Env) (ld : LevelData) (P : List DbEntry → Prop)
    (hup : ∀ db db' u d, migrateOrCreate env db u d = .ok db' → P db → P db')
    (hdel : ∀ p s, P s.db → P (deleteWhere env.isRef p s).db) (steps : List Step) (s : St)
    (h : P s.db) : P (runSteps env ld s steps).db :=
  List.foldlRecOn steps (runStep env ld) (motive := fun s => P s.db) h fun s h st _ => by
    cases st with
    | batch n => exact batch_preserves env P _ s.db (fun p _ db db' => hup db db' p.1 p.2) h
    | deleteBatch => exact hdel _ s h
    | deleteDbSchema => exact hdel _ s h
    | _ => exact h

/-- **Consistency invariant carried by the model**: uuids stay unique through a whole level. -/
theorem runSteps_nodup (env : Env) (ld : LevelData) : ∀ (steps : List Step) (s : St),
    UuidNodup s.db → UuidNodup (runSteps env ld s steps).db :=
  runSteps_preserves env ld UuidNodup (migrateOrCreate_nodup env) (deleteWhere_nodup env.isRef)

/-- What is trusted of schema validation and the plugins for a consistency invariant `Inv` of the database
    (the relatives' invariants: membership closure C17, references C16, unique names C19, spn C22 — as far as
    they are statements about the stored state): a create / modify they ACCEPT keeps `Inv`, and so does a
    delete with its reference clean-up. -/
structure PluginsKeep (env : Env) (Inv : List DbEntry → Prop) : Prop where
  create : ∀ db u e, Inv db → env.acceptCreate db u e = true → Inv (db ++ [⟨u, true, e⟩])
  modify : ∀ db x e, Inv db → x ∈ db → env.acceptModify db x e = true → Inv (setAttrs db x.uuid e)
  delete : ∀ p s, Inv s.db → Inv (deleteWhere env.isRef p s).db

theorem migrateOrCreate_inv (env : Env) (Inv : List DbEntry → Prop) (hk : PluginsKeep env Inv)
    (db db' : List DbEntry) (u : Nat) (d : Def) (h : migrateOrCreate env db u d = .ok db') (hi : Inv db) :
    Inv db' := by
  cases migrateOrCreate_ok h with
  | create _ hacc => exact hk.create db u _ hi hacc
  | migrate hx _ hu _ hacc => exact hu ▸ hk.modify db _ _ hi hx hacc

/-- **Every consistency invariant the plugins keep write by write is kept by a whole migration level** —
    a failing batch included (its completed upserts were accepted ones). -/
theorem runSteps_preserves_invariant (env : Env) (ld : LevelData) (Inv : List DbEntry → Prop)
    (hk : PluginsKeep env Inv) : ∀ (steps : List Step) (s : St), Inv s.db → Inv (runSteps env ld s steps).db :=
  runSteps_preserves env ld Inv (migrateOrCreate_inv env Inv hk) hk.delete

/-- non-vacuity of `PluginsKeep`: uuid uniqueness, for any environment whose create refuses a uuid that is
    already there (the base plugin) -/
theorem pluginsKeep_uuidNodup (env : Env)
    (hfresh : ∀ db u e, env.acceptCreate db u e = true → u ∉ db.map (·.uuid)) :
    PluginsKeep env UuidNodup :=
  ⟨fun db u e hn hacc => uuidNodup_append e hn (hfresh db u e hacc),
    fun _ _ e hn _ _ => setAttrs_nodup _ e hn, deleteWhere_nodup env.isRef⟩

/-- the entry with `uuid`, live, carrying the asserted values of `d` — except those of `member`, which the
    create arm merges with `member_create_once` (`mergeCreateOnce`) -/
def Carries (db : List DbEntry) (u : Nat) (d : Def) : Prop :=
  ∃ y ∈ db, y.uuid = u ∧ y.live = true ∧
    ∀ a vs, Asserted d a vs → a ≠ attrMember → ∀ v ∈ vs, v ∈ y.attrs a

/-- After a successful upsert the definition's entry exists, live, with the asserted values (the `member`
    attribute of the create arm is the union with `member_create_once`, stated by `mergeCreateOnce`). -/
theorem migrateOrCreate_carries (env : Env) (db db' : List DbEntry) (u : Nat) (d : Def)
    (hnd : (keys d).Nodup) (h : migrateOrCreate env db u d = .ok db') : Carries db' u d := by
  cases migrateOrCreate_ok h with
  | create =>
    refine ⟨⟨u, true, entOfDef (mergeCreateOnce d)⟩, List.mem_append_right _ (by simp), rfl, rfl, ?_⟩
    intro a vs ⟨hmem, _, honce, _⟩ hm v hv
    show v ∈ lookupVals (mergeCreateOnce d) a
    rw [lookupVals, mergeCreateOnce_lookup d a honce hm, lookup_of_mem_nodup hnd hmem]
    exact hv
  | @migrate x ms hx hl hu hms =>
    exact ⟨{ x with attrs := applyMods x.attrs ms }, List.mem_map.2 ⟨x, hx, by simp [hl, hu]⟩, hu, hl,
      fun a vs ha _ v hv => upsert_defined_superset env.multi d ms x.attrs hms hnd a vs ha v hv⟩

/-- **Every built-in entry of a batch that reports no error exists afterwards with its values**
    (definitions of distinct uuids, as the data of a level are). -/
theorem batch_carries (env : Env) : ∀ (defs : List (Nat × Def)) (db : List DbEntry),
    (defs.map (·.1)).Nodup → (∀ p ∈ defs, (keys p.2).Nodup) → (batch env db defs).2 = none →
    ∀ p ∈ defs, Carries (batch env db defs).1 p.1 p.2 := by
  intro defs db
  fun_induction batch env db defs with
  | case1 => exact fun _ _ _ p hp => nomatch hp  -- no definition left
  | case2 db u d rest db' hm ih =>  -- the upsert succeeded
    intro hn hk hok p hp
    have hn' := List.nodup_cons.mp hn
    rcases List.mem_cons.mp hp with rfl | hin
    · obtain ⟨y, hy, hyu, hyl, hyv⟩ := migrateOrCreate_carries env db db' _ _ (hk _ List.mem_cons_self) hm
      refine ⟨y, batch_frame env rest db' y hy fun q hq heq => hn'.1 ?_, hyu, hyl, hyv⟩
      rw [← hyu, ← heq]
      exact List.mem_map.2 ⟨q, hq, rfl⟩
    · exact ih hn'.2 (fun q hq => hk q (List.mem_cons_of_mem _ hq)) hok p hin
  | case3 => exact fun _ _ hok => nomatch hok  -- the upsert failed: the batch reports it

/-! ## 3. the driver -/

/-- `initialise_helper` on an existing database with the generated level tests read: upgrade (refused
    from below the supported minimum), downgrade (refused), or the same level again. -/
theorem initialiseExisting_eq (dbv tgt : Nat) (taint : Bool) (patch : Nat) :
    initialiseExisting dbv tgt taint patch =
      if dbv < tgt then
        if dbv < domainMigrationFromMin then .error .MG0008
        else match stepLoop patch dbv (tgt - dbv) with
          | .error c => .error c
          | .ok fs => finishInit patch tgt tgt fs false
      else if tgt < dbv then .error .MG0010
      else if taint then
        finishInit patch dbv (if remigrateIsNoop remigrateFrom dbv then dbv else remigrateFrom) [] true
      else finishInit patch dbv dbv [] false := by
  simp only [initialiseExisting, needsUpgrade, skipRefused, isDowngrade, decide_eq_true_eq, gt_iff_lt]
  rfl

/-- **A downgrade is refused.** -/
theorem init_refuses_downgrade (dbv tgt : Nat) (taint : Bool) (patch : Nat) (h : tgt < dbv) :
    FailsWith (initialiseExisting dbv tgt taint patch) Code.MG0010 := by
  rw [FailsWith, initialiseExisting_eq, if_neg (Nat.lt_asymm h), if_pos h]

/-- **An upgrade from below the supported minimum is refused** (no skipping). -/
theorem init_refuses_skip (dbv tgt : Nat) (taint : Bool) (patch : Nat) (h : dbv < tgt)
    (hs : dbv < domainMigrationFromMin) : FailsWith (initialiseExisting dbv tgt taint patch) Code.MG0008 := by
  rw [FailsWith, initialiseExisting_eq, if_pos h, if_pos hs]

theorem finishInit_level (patch level memv : Nat) (ran : List Nat) (rr : Bool) (l : Nat) (fs : List Nat)
    (h : finishInit patch level memv ran rr = .ok (l, fs)) : l = level := by
  revert h
  fun_cases finishInit patch level memv ran rr <;> intro h <;> cases h <;> rfl

/-- **The driver never lowers the level**: a successful start ends exactly at the requested level, which is
    not below the database's. -/
theorem init_ok_level (dbv tgt : Nat) (taint : Bool) (patch : Nat) (l : Nat) (fs : List Nat)
    (h : initialiseExisting dbv tgt taint patch = .ok (l, fs)) : l = tgt ∧ dbv ≤ l := by
  rw [initialiseExisting_eq] at h
  rcases ite_eq_cases h with ⟨hlt, h⟩ | ⟨hup, h⟩
  · obtain ⟨_, h⟩ := ite_error_eq_ok.1 h
    split at h
    · cases h
    · cases finishInit_level _ _ _ _ _ _ _ h
      exact ⟨rfl, Nat.le_of_lt hlt⟩
  · obtain ⟨hdown, h'⟩ := ite_error_eq_ok.1 h
    -- neither upgrade nor downgrade: the database is at the requested level already
    obtain rfl : dbv = tgt := Nat.le_antisymm (Nat.le_of_not_gt hdown) (Nat.le_of_not_gt hup)
    have hl : l = dbv := by
      rcases ite_eq_cases h' with ⟨_, h'⟩ | ⟨_, h'⟩ <;> exact finishInit_level _ _ _ _ _ _ _ h'
    exact ⟨hl, Nat.le_of_eq hl.symm⟩

/-- `okFns` and `okLevelFns` are core's `Except.toOption` at the driver's two result types. -/
def okFns (r : Except Code (List Nat)) : Option (List Nat) :=
  match r with
  | .ok l => some l
  | .error _ => none

def okLevelFns (r : Except Code (Nat × List Nat)) : Option (Nat × List Nat) :=
  match r with
  | .ok l => some l
  | .error _ => none

/-- the migration functions whose level lies in `(prev, new]`, in table order -/
def expectedFns (prev new : Nat) : List Nat :=
  (migrationLevel.filter (fun p => decide (prev < p.2) && decide (p.2 ≤ new))).map (·.1)

/-- the claim of `gates_cover_range`, for every pair of levels below one another up to the target level -/
def gatesCoverB : Bool :=
  (List.range (domainTgtLevel + 1)).all fun new => (List.range new).all fun prev =>
    !decide (domainMinRemigrationLevel ≤ prev) ||
      decide (okFns (reloadVersion prev new domainTgtPatchLevel domainTgtPatchLevel false) =
        some (expectedFns prev new))

/-- **The gate chain runs exactly the migrations between the two levels, in order** — for every pair of
    levels from the re-migration floor up to the target level (levels are bounded by the table). -/
theorem gates_cover_range (prev new : Nat) (hp : prev < 24) (hn : new < 24)
    (h1 : domainMinRemigrationLevel ≤ prev) (h2 : prev < new) (h3 : new ≤ domainTgtLevel) :
    okFns (reloadVersion prev new domainTgtPatchLevel domainTgtPatchLevel false) =
      some (expectedFns prev new) := by
  have h : gatesCoverB = true := by decide +kernel
  have h' := List.all_eq_true.mp (List.all_eq_true.mp h new (List.mem_range.mpr (Nat.lt_succ_of_le h3)))
    prev (List.mem_range.mpr h2)
  simpa only [h1, decide_true, Bool.not_true, Bool.false_or, decide_eq_true_eq] using h'

/-- **The upgrade the property is about**: from the previous level to the target level the driver runs the
    target level's migration function, once, and ends at the target level (tainted or not). -/
theorem previous_to_target_runs_target_migration : ∀ taint : Bool,
    okLevelFns (initialiseExisting domainPreviousTgtLevel domainTgtLevel taint domainTgtPatchLevel) =
      targetMigration.map (fun f => (domainTgtLevel, [f])) := by
  decide +kernel

/-- the step that would leave the target level runs into the in-development guard of the next
migration, whatever the patch level -/
theorem step_beyond_target (patch : Nat) :
    reloadVersion domainTgtLevel (domainTgtLevel + stepOffset) patch patch false = .error .MG0004 := rfl

theorem stepLoop_beyond_target (patch : Nat) (n cur : Nat) (h1 : cur ≤ domainTgtLevel)
    (h2 : domainTgtLevel < cur + n) : ∃ c, stepLoop patch cur n = .error c := by
  fun_induction stepLoop patch cur n with
  | case1 => omega  -- no step left
  | case2 cur n c hr => exact ⟨c, rfl⟩  -- this step's reload refuses
  | case3 cur n fs hr c hl ih => exact ⟨c, rfl⟩  -- a later step refuses
  | case4 cur n fs hr gs hl ih =>  -- every step accepted: impossible beyond the target level
    have hlt : cur < domainTgtLevel := by
      refine Nat.lt_of_le_of_ne h1 fun hc => ?_
      rw [hc, step_beyond_target] at hr; cases hr
    obtain ⟨c, hc⟩ := ih hlt (by simp only [stepOffset]; omega)
    rw [hc] at hl; cases hl

theorem no_start_beyond_target (dbv tgt : Nat) (taint : Bool) (patch : Nat)
    (h2 : dbv ≤ domainTgtLevel) (h3 : domainTgtLevel < tgt) :
    okLevelFns (initialiseExisting dbv tgt taint patch) = none := by
  rw [initialiseExisting_eq, if_pos (Nat.lt_of_le_of_lt h2 h3)]
  split
  · rfl
  · obtain ⟨c, hc⟩ := stepLoop_beyond_target patch (tgt - dbv) dbv h2 (by omega)
    rw [hc]; rfl

/-- **Levels in development are refused**: from any level up to the target level no start ends above it
    (`no_start_beyond_target`, which needs none of the four bounds). -/
theorem beyond_target_refused (dbv tgt : Nat) (taint : Bool) (patch : Nat) (hd : dbv < 24) (ht : tgt < 24)
    (hp : patch < 4) (h1 : 0 < dbv) (h2 : dbv ≤ domainTgtLevel) (h3 : domainTgtLevel < tgt) :
    okLevelFns (initialiseExisting dbv tgt taint patch) = none :=
  no_start_beyond_target dbv tgt taint patch h2 h3

/-- **The same level again without the development taint does nothing.** -/
theorem same_level_untainted_noop (l : Nat) :
    initialiseExisting l l false domainTgtPatchLevel = .ok (l, []) := by
  rw [initialiseExisting_eq, if_neg (Nat.lt_irrefl l), if_neg (Nat.lt_irrefl l)]
  rfl

/-- **The same level again with the development taint re-runs exactly the target migration.** -/
theorem same_level_tainted_reruns_target :
    okLevelFns (initialiseExisting domainTgtLevel domainTgtLevel true domainTgtPatchLevel) =
      targetMigration.map (fun f => (domainTgtLevel, [f])) := by
  decide +kernel

def isBatch : Step → Bool
  | .batch _ => true
  | _ => false

/-- the statement list is exactly this one: every batch comes after the reload that loads what it needs, the
    deletes after the last batch -/
def wellOrdered (steps : List Step) : Bool :=
  steps == [.schemaInMemory, .reload, .reindex, .deleteDbSchema, .phase 1, .batch 3, .reload, .batch 4,
    .reload, .phase 2, .batch 5, .batch 6, .batch 7, .deleteBatch, .reload]

/-- **Order of the target migration**: the schema is extended and reloaded before any data batch, key
    providers are reloaded before the system entries, those before the built-in accounts, groups and access
    controls; there is no hand-written data fix-up; the level ends with a reload. -/
theorem target_steps_shape :
    targetMigration.isSome = true ∧ wellOrdered targetSteps = true ∧
      targetSteps.all (fun s => s != Step.fixup) = true := by
  decide +kernel

/-! ## non-vacuity -/

/-- a definition with a single-valued (5), a multi-valued (6), a purge-listed (20), an ignored (10) attribute,
    `member_create_once` and the uuid -/
def exDef : Def := [(0, [77]), (1, [9]), (5, [50]), (6, [60, 61]), (10, [1]), (20, [7])]
def exMulti : Nat → Option Bool := fun a => if a = 5 then some false else if a < 30 then some true else none
def exEnt : Ent := fun a => if a = 5 then [51] else if a = 6 then [62] else if a = 10 then [2] else if a = 20 then [8] else if a = 40 then [4] else []

example : (keys exDef).Nodup := by decide +kernel
example : ∃ ms, genModlistAssert exMulti (stripForMigrate exDef) = some ms ∧
    applyMods exEnt ms 5 = [50] ∧ applyMods exEnt ms 6 = [62, 60, 61] ∧ applyMods exEnt ms 10 = [2] ∧
    applyMods exEnt ms 20 = [7] ∧ applyMods exEnt ms 40 = [4] ∧ applyMods exEnt ms 1 = [] :=
  ⟨_, rfl, by decide +kernel, by decide +kernel, by decide +kernel, by decide +kernel, by decide +kernel, by decide +kernel⟩
example : Asserted exDef 6 [60, 61] := by unfold Asserted; decide +kernel
example : Unasserted exDef 10 := by unfold Unasserted; decide +kernel

def exEnv : Env :=
  { multi := exMulti, acceptCreate := fun _ _ _ => true, acceptModify := fun _ _ _ => true,
    isRef := fun a => a == 2, valClassType := 1, valAttributeType := 2 }
/-- a database with a built-in entry (uuid 77), a user group (uuid 500) that has the to-be-deleted entry 90
    as a member, and entry 90 -/
def exDb : List DbEntry :=
  [⟨77, true, exEnt⟩, ⟨500, true, fun a => if a = 2 then [90, 77] else if a = 3 then [1] else []⟩, ⟨90, true, fun _ => []⟩]
def exLd : LevelData := { batches := fun n => if n = 5 then [(77, exDef)] else [], dels := [90] }

example : Untouched exEnv exLd targetSteps ⟨500, true, fun a => if a = 2 then [90, 77] else if a = 3 then [1] else []⟩ := by
  refine ⟨?_, ?_, ?_⟩
  · intro n _ p hp
    simp only [exLd] at hp
    split at hp
    · simp at hp; subst hp; decide +kernel
    · simp at hp
  · intro _; decide +kernel
  · intro _; decide +kernel
example : ((runSteps exEnv exLd ⟨exDb, []⟩ targetSteps).db.map (fun x => (x.uuid, x.live, x.attrs 2, x.attrs 5))) =
    [(77, true, [], [50]), (500, true, [77], []), (90, false, [], [])] := by decide +kernel
example : UuidNodup exDb := by unfold UuidNodup; decide +kernel

end Kanidm.Migration
