import KanidmProofs.Lemmas.SoftLock
/-!
# C28 — Failed credentials are rate limited

Helper lemmas are in `Lemmas/SoftLock.lean`, and so is the vocabulary of the statements that is not
part of the model: `Policy.WF`, `windowEndOf`, `lastTime`, `NoAdmin`, `Protocol`, `passwordCap`.  The model
(`KanidmModel/SoftLock.lean`) transcribes `credential/softlock.rs`; thresholds, delays, `ONEDAY`,
the `failure_next_state` wrapper guard, every comparison of `apply_time_step` and the counts of
`record_failure` are regenerated from the source on every run
(`KanidmModel/Generated/SoftLockTable.lean`), so each theorem below is re-proved about the
current source.

Time is in nanoseconds; `applyTimeStep s t none` is a time step without administrator-set
expiry; `attempt` is the server's protocol (time step, `is_valid`, credential check only if valid,
`record_failure` on denial, nothing on success).
-/
namespace Kanidm.SoftLock
open Kanidm.Gen.SoftLock

/-! ## 1. After a failure the credential is refused until its unlock time -/

/-- A recorded failure (any previous state, any time `ct`, any policy
that locks at all) leaves the lock `Locked` with `ct < unlock_at ≤ reset_at`, and any number of
later time steps at times `≤ unlock_at` (in any order, without admin expiry) leave exactly that
state: the credential is refused until its unlock time.

Without the `failure_next_state` wrapper `unlock_at ≤ reset_at` fails for a failure just before a
window boundary (defect D18, DESIGN §11.5); the example below is its witness. -/
theorem locked_until_unlock (s : SoftLock) (ct : Nat) (hwf : s.policy.WF)
    (hp : s.policy ≠ .unrestricted) :
    ∃ c r u, (recordFailure s ct).state = .locked c r u ∧ ct < u ∧ u ≤ r ∧
      ∀ ts : List Nat, (∀ t ∈ ts, t ≤ u) →
        (ts.foldl (fun a t => applyTimeStep a t none) (recordFailure s ct)).state = .locked c r u ∧
        isValid (ts.foldl (fun a t => applyTimeStep a t none) (recordFailure s ct)) = false := by
  have hst := recordFailure_locked hp ct
  refine ⟨_, _, _, hst, unlockOf_gt hwf hp _ ct, Nat.le_max_right _ _, fun ts hts => ?_⟩
  have := locked_stays_foldl (Nat.le_max_right _ _) ts hts hst
  exact ⟨this, by rw [isValid, this]⟩

/-- Non-vacuity + D18 regression: the 3rd password failure one second before UTC midnight locks
until `86402 s` and is still refused at `86401 s` (the source without the wrapper answers "valid"). -/
example :
    let s : SoftLock := { state := .unlocked 2 (fromSecs 86400), policy := .password, lastExpireAt := 0 }
    (recordFailure s (fromSecs 86399)).state = .locked 3 (fromSecs 86402) (fromSecs 86402) ∧
    isValid (applyTimeStep (recordFailure s (fromSecs 86399)) (fromSecs 86401) none) = false := by
  decide +kernel

/-! ## 2. Further failures never shorten the lock -/

/-- Take any history under monotone time from a fresh lock
(attempts, time steps with or without admin expiry, even raw failures recorded while locked), then a
further failure at `ct`.  At no time `t` inside that failure's own window is the credential valid
if it would have been refused at `t` without the failure. -/
theorem failure_never_shortens_lock (p : Policy) (hp : p ≠ .unrestricted)
    (es : List Event) (hm : Mono 0 es) (ct t : Nat) (h1 : lastTime 0 es ≤ ct)
    (h3 : t ≤ windowEndOf p ct)
    (href : isValid (applyTimeStep (run (new p) es) t none) = false) :
    isValid (applyTimeStep (recordFailure (run (new p) es) ct) t none) = false := by
  have hinv : Inv (lastTime 0 es) (run (new p) es) := inv_run (by simp [Inv, new]) es hm
  have hpol : (run (new p) es).policy = p := run_policy _ _
  exact fail_keeps_refusal (by rw [hpol]; exact hp) hinv h1 (by rw [hpol]; exact h3) href

/-- Non-vacuity: two failures 1 s apart, the second one recorded while still locked. -/
example :
    isValid (applyTimeStep (run (new .password) [.fail (fromSecs 10)]) (fromSecs 11) none) = false ∧
    isValid (applyTimeStep (recordFailure (run (new .password) [.fail (fromSecs 10)]) (fromSecs 10)) (fromSecs 11) none) = false := by
  decide +kernel

/-- Why monotone time is assumed: with time running backwards a failure does shorten the lock. -/
theorem nonmonotone_counterexample :
    isValid (applyTimeStep (run (new .password) [.fail (fromSecs 100)]) (fromSecs 100) none) = false ∧
    isValid (applyTimeStep (recordFailure (run (new .password) [.fail (fromSecs 100)]) (fromSecs 50))
      (fromSecs 100) none) = true := by
  decide +kernel

/-! ## 3. The count resets only after the reset time or by admin expiry, never by success -/

/-- Stored `reset_at` of a state. -/
def resetAtOf : LockState → Option Nat
  | .init => none
  | .locked _ r _ => some r
  | .unlocked _ r => some r

/-- A time step (the only operation besides
`record_failure` that touches the lock) either keeps the failure count, or resets the lock to
`Init` — and then the time is strictly after the stored `reset_at`, or the step carried a *new*
administrator-set expiry `x` with `x < reset_at` and `x < ct`.  For every state, time and expiry. -/
theorem count_resets_only_after_reset_or_admin (s : SoftLock) (ct : Nat) (e : Option Nat) :
    countOf (applyTimeStep s ct e).state = countOf s.state ∨
    ((applyTimeStep s ct e).state = .init ∧
      ((∃ r, resetAtOf s.state = some r ∧ r < ct) ∨
       (∃ x c r u, e = some x ∧ x ≠ s.lastExpireAt ∧ s.state = .locked c r u ∧ x < r ∧ x < ct))) := by
  rw [applyTimeStep_state]
  cases hs : s.state with
  | init => exact Or.inl rfl
  | unlocked c r =>
    by_cases h : r < ct
    · exact Or.inr ⟨by simp [h], Or.inl ⟨r, rfl, h⟩⟩
    · exact Or.inl (by simp [h, countOf])
  | locked c r u =>
    by_cases h : (boundReset s.lastExpireAt r e).2 < ct
    · refine Or.inr ⟨by simp [h], ?_⟩
      rcases boundReset_snd s.lastExpireAt r e with hb | ⟨x, he, hx, hxr, hb⟩
      · exact Or.inl ⟨r, rfl, hb ▸ h⟩
      · exact Or.inr ⟨x, c, r, u, he, hx, rfl, hxr, hb ▸ h⟩
    · by_cases h2 : u < ct <;> exact Or.inl (by simp [h, h2, countOf])

/-- Non-vacuity of both disjuncts of the reset case. -/
example :
    let s : SoftLock := { state := .locked 5 100 50, policy := .password, lastExpireAt := 0 }
    (applyTimeStep s 101 none).state = .init ∧ (applyTimeStep s 60 (some 55)).state = .init ∧
    countOf (applyTimeStep s 60 none).state = 5 := by decide +kernel

/-- `record_failure` never resets or lowers the count. -/
theorem failure_increments_count (s : SoftLock) (ct : Nat) (hp : s.policy ≠ .unrestricted) :
    countOf (recordFailure s ct).state = countOf s.state + 1 := by
  rw [recordFailure_locked hp]
  rfl

/-- An attempt whose credential check succeeds leaves exactly the state
of a bare time step — nothing is recorded, in particular the count is not reset by the success
(it changes only as `count_resets_only_after_reset_or_admin` allows); under a policy that locks at
all, an attempt of either outcome never yields a smaller count than the bare time step. -/
theorem success_never_resets (s : SoftLock) (ct : Nat) (e : Option Nat) :
    (attempt s ct e true).1 = applyTimeStep s ct e ∧
    ∀ ok, countOf (applyTimeStep s ct e).state ≤ countOf (attempt s ct e ok).1.state ∨
      s.policy = .unrestricted := by
  refine ⟨by simp only [attempt]; split <;> rfl, fun ok => ?_⟩
  by_cases hp : s.policy = .unrestricted
  · exact Or.inr hp
  · refine Or.inl ?_
    change _ ≤ countOf (exec s (.attempt ct e ok)).state
    rw [exec_attempt]
    split
    · rw [failure_increments_count _ _ (by rw [applyTimeStep_policy]; exact hp)]
      exact Nat.le_succ _
    · exact Nat.le_refl _

example :
    let s : SoftLock := { state := .unlocked 7 (fromSecs 86400), policy := .password, lastExpireAt := 0 }
    (attempt s (fromSecs 500) none true) = (s, .success) := by decide +kernel

/-! ## 4. Budgets -/

/-- The generated Password table caps at 100 failures, its window is the UTC day, and the Totp cap is 3. -/
theorem password_table_budget : passwordCap = 100 ∧ oneDay = 86400 ∧ totpCap = 3 := by decide

/-- For a password-only credential, from *any* lock state,
over any history under monotone time that follows the server's protocol and carries no
administrator-set expiry, the number of failures recorded at times within UTC day `day`
(`ct.as_secs() / 86400 = day`) is at most 100. -/
theorem password_at_most_100_per_utc_day (s : SoftLock) (hs : s.policy = .password)
    (es : List Event) (now day : Nat) (hm : Mono now es) (hna : NoAdmin es) (hpr : Protocol es) :
    failsIn 86400 day s es ≤ 100 := by
  have h := window_budget windowed_password s hs es now day hm hna hpr
  rw [password_table_budget.1, password_table_budget.2.1] at h
  exact h

/-- For a TOTP-protected credential with step `step > 0`, at most 3
failures are recorded within any one TOTP step (`ct.as_secs() / step = k`). -/
theorem totp_at_most_3_per_step (s : SoftLock) (step : Nat) (hstep : 0 < step)
    (hs : s.policy = .totp step) (es : List Event) (now k : Nat) (hm : Mono now es)
    (hna : NoAdmin es) (hpr : Protocol es) : failsIn step k s es ≤ 3 := by
  have h := window_budget (windowed_totp hstep) s hs es now k hm hna hpr
  rw [password_table_budget.2.2] at h
  exact h

/-- An attacker trying every 11 s from midnight (every allowed try fails). -/
def attack (n : Nat) : List Event := (List.range n).map fun i => .attempt (fromSecs (11 * i)) none false

/-- The bounds are attained (so the hypotheses are satisfiable and the numbers tight): 100 of the
300 tries are recorded, none of the others is even checked; 3 per TOTP step. -/
example : failsIn 86400 0 (new .password) (attack 300) = 100 := by decide +kernel
example : failsIn 30 0 (new (.totp 30)) ((List.range 30).map fun i => .attempt (fromSecs i + i) none false) = 3 := by
  decide +kernel

/-- With an administrator-set expiry the budget can be exceeded (why `NoAdmin` is assumed):
one expiry update re-opens the lock after the 3rd failure of a TOTP step. -/
example : failsIn 30 0 (new (.totp 30))
    [.attempt (fromSecs 1) none false, .attempt (fromSecs 3) none false, .attempt (fromSecs 5) none false,
     .attempt (fromSecs 7) (some (fromSecs 6)) false] = 4 := by decide +kernel

end Kanidm.SoftLock
