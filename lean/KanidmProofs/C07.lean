import KanidmProofs.Lemmas.Cid
/-!
# C07 — Change identifiers strictly increase

Property theorems (helpers, and `lamport_gt`/`lamport_ge_clock`, which C26 shares: `Lemmas/Cid.lean`).
The model (`KanidmModel/Cid.lean`) is an event machine over `begin ts | commit fail? | abort | restart ts | resetUuid u`.  The lamport
comparison and branches, the field order of the derived `Ord for Cid`, the order of persistence
steps in `QueryServerWriteTransaction::commit` and the seeds used by `QueryServer::new`/`write` are
regenerated from the source on every run; every theorem below is stated over those generated
definitions, so editing the source re-states the theorems.
-/
namespace Kanidm.Cid
open Kanidm.Gen.Cid Kanidm.Gen.CidCommit

example : lamportTs 5 5 = 6 ∧ lamportTs 3 5 = 6 ∧ lamportTs 9 5 = 9 := by decide

/-- The derived order on `Cid` compares the timestamp first: a larger timestamp is a larger cid
whatever the server uuids are (needed because `reset_server_uuid` may change the uuid). -/
theorem ts_lt_cidLt (a b : Cid) (h : a.ts < b.ts) : cidLt a b = true :=
  (cidLt_iff a b).2 (.inl h)

example : cidLt ⟨5, 9⟩ ⟨6, 1⟩ = true ∧ cidLt ⟨6, 1⟩ ⟨6, 2⟩ = true ∧ cidLt ⟨6, 2⟩ ⟨6, 2⟩ = false := by
  decide

/-- In the generated order, `set_db_ts_max(cid.ts)` (inside the backend transaction) and
the in-memory `cid.commit()` both precede `be_txn.commit()`. -/
theorem commit_order_ok : orderOk commitSteps = true := by decide

/-- A commit that returns `Ok` makes the transaction durable with `persisted ts_max = committed
in-memory maximum = the transaction's cid`. -/
theorem commit_ok_persists (s : Server) (t : Txn) (fail : Option Nat)
    (hok : (commitTxn s t fail).2 = true) :
    (commitTxn s t fail).1.dbTs = some t.cid.ts ∧ (commitTxn s t fail).1.mem = t.cid ∧
    (commitTxn s t fail).1.hist = s.hist ++ [t.cid] := by
  -- `Ok` means no step failed, so the backend commit in the list ran
  have hd := runSteps_ok_durable t.cid fail commitSteps 0 _ (.inr (by decide)) hok
  obtain ⟨hdb, hm⟩ := (runSteps_start s t fail _ commit_order_ok).dur hd
  exact ⟨hdb, hm, if_pos hd⟩

example : (commitTxn ⟨⟨5, 1⟩, some 5, 1, none, [⟨5, 1⟩]⟩ ⟨⟨6, 1⟩, none⟩ none).2 = true := by decide

/-- Whatever step of `commit()` fails, the cid is in the history only if it is durable, the
durable maximum then equals it, and the in-memory maximum never goes below its old value. -/
theorem commit_any_failure (s : Server) (t : Txn) (fail : Option Nat) :
    let s' := (commitTxn s t fail).1
    (s'.mem = t.cid ∨ s'.mem = s.mem) ∧
    ((s'.hist = s.hist ++ [t.cid] ∧ s'.dbTs = some t.cid.ts ∧ s'.mem = t.cid) ∨
     (s'.hist = s.hist ∧ s'.dbTs = s.dbTs)) :=
  have hp := runSteps_start s t fail _ commit_order_ok
  ⟨hp.memEither, hp.hist_cases s.hist⟩

theorem step_preserves_inv (s : Server) (e : Event) (h : Inv s) : Inv (step s e) := by
  unfold step
  -- one goal per arm of `stepR`; the four refusals leave `s` as it is, the other five follow in the order
  -- of `Event`: begin, commit, abort, restart, resetUuid
  fun_cases stepR s e <;> try exact h
  next ts _ _ =>  -- begin
    -- `write` seeds the lamport step from the committed in-memory maximum
    exact h.frame rfl rfl h.memDom fun t ht => by cases ht; exact lamport_gt ts s.mem.ts
  next fail t htx _ =>  -- commit
    exact h.seal (h.txnAbove t htx) (runSteps_start s t fail _ commit_order_ok) _
  next => exact h.frame rfl rfl h.memDom fun _ h => nomatch h  -- abort
  next ts =>  -- restart
    -- the new in-memory maximum is re-seeded above the durable one, which dominates the history
    refine h.frame rfl rfl (fun c hcm => ?_) fun _ h => nomatch h
    obtain ⟨d, hd, hle⟩ := h.dbDom c hcm
    show c.ts ≤ lamportTs ts (seedVal seedAtStart s ts)
    simp only [seedVal, seedAtStart, hd]
    exact Nat.le_trans hle (Nat.le_of_lt (lamport_gt ts d))
  next u t htx =>  -- resetUuid
    exact h.frame rfl rfl h.memDom fun t' ht' => by cases ht'; exact h.txnAbove t htx

theorem run_preserves_inv (evs : List Event) : ∀ s, Inv s → Inv (run s evs) := fun _ h =>
  List.foldlRecOn evs step h fun s hs e _ => step_preserves_inv s e hs

theorem boot_inv (u ts : Nat) : Inv (boot u ts) :=
  step_preserves_inv _ _ ⟨nofun, nofun, nofun, .nil⟩

/-- **C07.** For every finite sequence of transaction starts at arbitrary clock readings
(repeats and regressions included), commits (succeeding or failing at any step), aborts, restarts
at arbitrary clock readings and server-uuid resets: the cids of the committed transactions
strictly increase in commit order, i.e. each is strictly greater than every earlier one. -/
theorem committed_strictly_increasing (s0 : Server) (h0 : Inv s0) (evs : List Event) :
    (run s0 evs).hist.Pairwise (fun a b => cidLt a b = true) :=
  (run_preserves_inv evs s0 h0).sorted

/-- The same from a freshly created database. -/
theorem committed_strictly_increasing_from_boot (u ts0 : Nat) (evs : List Event) :
    (run (boot u ts0) evs).hist.Pairwise (fun a b => cidLt a b = true) :=
  committed_strictly_increasing _ (boot_inv u ts0) evs

/-- The property in the words of its statement: after any history, the cid stamped on the open
write transaction is strictly greater than the cid of every transaction committed before
(whether or not this transaction will itself be committed). -/
theorem stamped_gt_all_committed (s0 : Server) (h0 : Inv s0) (evs : List Event) (t : Txn)
    (ht : (run s0 evs).txn = some t) : ∀ c ∈ (run s0 evs).hist, cidLt c t.cid = true := by
  intro c hc
  have h := run_preserves_inv evs s0 h0
  exact ts_lt_cidLt c t.cid (Nat.lt_of_le_of_lt (h.memDom c hc) (h.txnAbove t ht))

/-- After every commit that returned `Ok` the persisted maximum equals the committed in-memory
maximum (so a restart can never re-seed below a committed transaction). -/
theorem persisted_eq_committed_after_commit (s : Server) (t : Txn) (fail : Option Nat)
    (htx : s.txn = some t) (hok : (stepR s (.commit fail)).2 = .ok) :
    (step s (.commit fail)).dbTs = some (step s (.commit fail)).mem.ts := by
  have hr : (commitTxn s t fail).2 = true := by
    rw [stepR_commit htx] at hok
    cases hb : (commitTxn s t fail).2
    · rw [hb] at hok; cases hok
    · rfl
  have := commit_ok_persists s t fail hr
  rw [step_commit htx, this.1, this.2.1]

/-! ### Non-vacuity: a concrete history with a repeated clock, a regression, an abort, a failed
commit, a crash with an open transaction, a restart at an earlier clock and a uuid reset. -/
def demo : List Event :=
  [.begin 100, .commit none, .begin 100, .commit none, .begin 50, .abort, .begin 50, .commit (some 6),
   .begin 40, .commit none, .begin 500, .restart 10, .begin 10, .resetUuid 3, .commit none,
   .restart 7, .begin 7, .commit none]

example : (run (boot 7 100) demo).hist = [⟨102, 7⟩, ⟨103, 7⟩, ⟨105, 7⟩, ⟨107, 3⟩, ⟨109, 3⟩] := by
  decide +kernel

example : Inv (boot 7 100) := boot_inv 7 100

end Kanidm.Cid
