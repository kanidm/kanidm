import KanidmProofs.Lemmas.TotpEval
/-!
# C29 — TOTP accepts exactly the current and previous code

`verify`, `digest`, `algoDigest` are the transcription of `Totp::verify`, `Totp::digest`,
`TotpAlgo::digest` (`KanidmModel/Totp.lean`); every constant, operator and table in them is
read from `KanidmModel/Generated/TotpOps.lean`, regenerated from totp.rs on every run.
`Rfc.hotp` / `Rfc.totp` are RFC 4226 / RFC 6238 written from the standards.  SHA-1/256/512 and
HMAC are the executable definitions of `KanidmModel/TotpHash.lean`; the theorems need only
their output length (≥ 20 bytes, ≤ one block) — their agreement with the linked crates is
the correspondence harness's job, and with the standards the known-answer examples below.

There is no hypothesis on the length of the secret: a secret longer than the hash block is
hashed first (RFC 2104), `digest` never returns `InvalidKeyError` (D7, fixed in /repo).
-/
namespace Kanidm.Totp
open Kanidm.Gen.Totp
open Kanidm.Totp.Hash

/-- The generated tables are the standard ones: each `TotpAlgo` arm builds the HMAC of the
hash of the same name, 8 big-endian counter bytes, and `TotpDigits`' discriminant is
`10 ^ (number of digits)`.  Swapped arms, a little-endian counter or a wrong modulus fail here. -/
theorem tables_are_rfc (a : Algo) (d : Digits) (c : Nat) :
    a.hmacHash = stdHash a ∧ counterBytes c = Rfc.counter8 c ∧ d.modulus = 10 ^ d.count := by
  refine ⟨by cases a <;> rfl, rfl, by cases d <;> rfl⟩

/-- `TryFrom<u8>` and `Into<u8>` of `TotpDigits` are inverse: exactly 6 and 8 are accepted. -/
theorem digits_of_u8 (n : Nat) (d : Digits) : Digits.ofU8 n = some d ↔ d.count = n := by
  cases d <;> simp only [Digits.ofU8, Digits.count] <;>
    by_cases h6 : n = 6 <;> by_cases h8 : n = 8 <;> simp [h6, h8] <;> omega

/-- Every HMAC the code computes has the hash's length, which is at least 20, and the offset is at
most 15: `hmac[offset..offset + 4]` never panics. -/
theorem truncation_in_bounds (a : Algo) (key : List Nat) (c : Nat) :
    ∃ hm, algoDigest a key c = .ok hm ∧ hm.length = (hashAlg a.hmacHash).outLen ∧
      ∀ v, offsetOf v + 4 ≤ hm.length := by
  refine ⟨_, rfl, hmac_length (hashAlg_wf _) _ _, fun v => ?_⟩
  rw [hmac_length (hashAlg_wf _)]
  have h1 : offsetOf v = v % 16 := Nat.and_two_pow_sub_one_eq_mod v 4
  have h2 := Nat.mod_lt v (show 0 < 16 by decide)
  have h3 := (hashAlg_wf a.hmacHash).out_ge
  omega

/-- **`Totp::digest` is HOTP.**  For every secret (of any length, including longer than the
hash block), algorithm, digit count and counter, the code neither panics nor errs and returns
the RFC 4226 value. -/
theorem digest_eq_rfc (t : Totp) (c : Nat) :
    digest t c = some (.ok (Rfc.hotp t.algo t.secret c t.digits.count)) := by
  obtain ⟨h1, h2, h3⟩ := tables_are_rfc t.algo t.digits c
  unfold digest algoDigest
  simp only []
  rw [truncate_eq_dynTrunc _ (by rw [hmac_length (hashAlg_wf _)]; exact (hashAlg_wf _).out_ge)]
  simp only [Rfc.hotp, h1, h2, h3]

/-- The specification's truncation (§5.3, arithmetic) is RFC 4226 §5.4's reference expression
`(hs[o] & 0x7f) << 24 | (hs[o+1] & 0xff) << 16 | (hs[o+2] & 0xff) << 8 | (hs[o+3] & 0xff)`. -/
theorem hotp_eq_reference (a : Algo) (key : List Nat) (c digits : Nat) :
    Rfc.hotp a key c digits =
      Rfc.refTrunc (hmac (hashAlg (stdHash a)) key (Rfc.counter8 c)) % 10 ^ digits := by
  unfold Rfc.hotp
  rw [dynTrunc_eq_refTrunc _ (fun b hb => hmac_lt (hashAlg_wf _) _ _ b hb)]

/-- One side of `verify`'s `||`. -/
theorem checkAt_eq (t : Totp) (chal : Nat) (a : Int) :
    checkAt t chal a =
      if a < 0 ∨ 18446744073709551616 ≤ a then none
      else some (chal == Rfc.hotp t.algo t.secret a.toNat t.digits.count) := by
  unfold checkAt digestAt
  split
  · rfl
  · rw [digest_eq_rfc]; exact congrArg some (BEq.comm ..)

/-- **`Totp::verify` on every input.**  Panics: `secs / 0`; a counter that does not fit `u64`
(`Duration::as_secs` is a `u64`, so never in the code); `0 - 1` when the current code did not match
in the first time step. -/
theorem verify_eq (t : Totp) (chal secs : Nat) :
    verify t chal secs =
      if t.step = 0 then none
      else if 2 ^ 64 ≤ secs / t.step then none
      else if chal == Rfc.hotp t.algo t.secret (secs / t.step) t.digits.count then some true
      else if secs / t.step = 0 then none
      else some (chal == Rfc.hotp t.algo t.secret (secs / t.step - 1) t.digits.count) := by
  unfold verify
  refine ite_congr rfl (fun _ => rfl) fun _ => ?_
  show (match checkAt t chal ((secs / t.step : Nat) : Int) with
    | none => none | some true => some true
    | some false => checkAt t chal (((secs / t.step : Nat) : Int) - 1)) = _
  generalize secs / t.step = c
  rw [checkAt_eq, checkAt_eq, Int.toNat_natCast]
  by_cases h64 : 2 ^ 64 ≤ c
  · rw [if_pos (.inr (by omega)), if_pos h64]
  rw [if_neg (by omega), if_neg h64]
  cases chal == Rfc.hotp t.algo t.secret c t.digits.count
  · by_cases hc : c = 0
    · subst hc; rfl
    · rw [if_neg (by omega), if_neg (by decide), if_neg hc, show ((c : Int) - 1).toNat = c - 1 by omega]
  · rfl

/-- **The property.**  For every token (any secret, algorithm, digit count), every positive
step and every time at least one step after the epoch (`secs` a `u64`, as `Duration::as_secs`
is), `verify` does not panic and accepts `chal` exactly when it is the RFC 6238 code of the
time step containing `secs` or of the step immediately before it. -/
theorem verify_iff (t : Totp) (chal secs : Nat) (hstep : 0 < t.step) (hsecs : t.step ≤ secs)
    (hu64 : secs < 2 ^ 64) :
    verify t chal secs = some
      (chal == Rfc.totp t.algo t.secret t.step t.digits.count secs ||
       chal == Rfc.totp t.algo t.secret t.step t.digits.count (secs - t.step)) := by
  have hc1 : 1 ≤ secs / t.step := (Nat.one_le_div_iff hstep).mpr hsecs
  have hc2 : secs / t.step < 2 ^ 64 := Nat.lt_of_le_of_lt (Nat.div_le_self _ _) hu64
  rw [verify_eq, if_neg (by omega), if_neg (by omega), if_neg (by omega : ¬ secs / t.step = 0)]
  unfold Rfc.totp
  rw [prev_step_counter]
  cases chal == Rfc.hotp t.algo t.secret (secs / t.step) t.digits.count <;> rfl

theorem verify_accepts_iff (t : Totp) (chal secs : Nat) (hstep : 0 < t.step)
    (hsecs : t.step ≤ secs) (hu64 : secs < 2 ^ 64) :
    verify t chal secs = some true ↔
      (chal = Rfc.totp t.algo t.secret t.step t.digits.count secs ∨
       chal = Rfc.totp t.algo t.secret t.step t.digits.count (secs - t.step)) := by
  simp [verify_iff t chal secs hstep hsecs hu64]

/-- A code is below `10 ^ digits`; anything else is rejected. -/
theorem verify_rejects_out_of_range (t : Totp) (chal secs : Nat) (hstep : 0 < t.step)
    (hsecs : t.step ≤ secs) (hu64 : secs < 2 ^ 64) (hbig : 10 ^ t.digits.count ≤ chal) :
    verify t chal secs = some false := by
  have hne : ∀ s, (chal == Rfc.totp t.algo t.secret t.step t.digits.count s) = false := fun s =>
    beq_eq_false_iff_ne.mpr
      (Nat.ne_of_gt (Nat.lt_of_lt_of_le (Nat.mod_lt _ (Nat.pow_pos (by decide))) hbig))
  rw [verify_iff t chal secs hstep hsecs hu64, hne, hne]
  rfl

/-- The hypotheses of `verify_iff` are needed — what the code does outside them.
`step = 0`: `secs / self.step` panics.  `secs < step` (time before the first full step): the
current code is still accepted, anything else reaches `0u64 - 1` (overflow panic in the checked
profile; in an unchecked build the counter wraps to `2^64-1`). -/
theorem verify_outside_domain (t : Totp) (chal secs : Nat) :
    (t.step = 0 → verify t chal secs = none) ∧
    (0 < t.step → secs < t.step →
      verify t chal secs =
        if chal == Rfc.hotp t.algo t.secret 0 t.digits.count then some true else none) := by
  refine ⟨fun h => by rw [verify_eq, if_pos h], fun hpos hlt => ?_⟩
  rw [verify_eq, Nat.div_eq_of_lt hlt, if_neg (by omega), if_neg (by decide), if_pos rfl]

/-- RFC 2104 key pre-hash (the D7 branch): with a secret longer than the hash block the code
is the code of the hashed secret. -/
theorem long_secret_is_hashed (a : Algo) (key : List Nat) (c digits : Nat)
    (hlong : (hashAlg (stdHash a)).blockLen < key.length) :
    Rfc.hotp a key c digits = Rfc.hotp a ((hashAlg (stdHash a)).hash key) c digits := by
  simp only [Rfc.hotp, hmac, hmacKey_long (hashAlg_wf _) key hlong]

/-- The driver's batched entry point is `verify` applied to each candidate. -/
theorem verifyMany_eq_map (t : Totp) (chals : List Nat) (secs : Nat) :
    verifyMany t chals secs = chals.map fun chal => verify t chal secs := by
  unfold verifyMany verify
  by_cases h : t.step = 0
  · simp [h]
  · simp only [h, if_false, checkAt]

/-- A token built from the wire form keeps secret, step and algorithm and gets the digit
count it names; only 6 and 8 digits exist. -/
theorem ofProto_spec (secret : List Nat) (a : Algo) (step n : Nat) (t : Totp) :
    ofProto secret a step n = some t ↔
      (t.secret = secret ∧ t.step = step ∧ t.algo = a ∧ t.digits.count = n) := by
  have ha : Algo.ofProto a = a := by cases a <;> rfl
  unfold ofProto
  rw [ha]
  constructor
  · intro h
    cases hd : Digits.ofU8 n with
    | none => rw [hd] at h; cases h
    | some d =>
      rw [hd] at h
      cases h
      exact ⟨rfl, rfl, rfl, (digits_of_u8 n d).mp hd⟩
  · rintro ⟨rfl, rfl, rfl, h4⟩
    rw [(digits_of_u8 n t.digits).mpr h4]

/-- A token read from the stored form keeps key, step and algorithm (the one `to_dbtotpv1`
wrote) and gets the stored digit count, six when the field is absent. -/
theorem ofDb_spec (key : List Nat) (a : Algo) (step : Nat) (n : Option Nat) (t : Totp) :
    ofDb key (Algo.toDb a) step n = some t ↔
      (t.secret = key ∧ t.step = step ∧ t.algo = a ∧ t.digits.count = n.getD 6) := by
  have e : ofDb key (Algo.toDb a) step n = ofProto key a step (n.getD 6) := by cases a <;> rfl
  rw [e]
  exact ofProto_spec key a step (n.getD 6) t

/-- The stored (`DbTotpV1`) and wire (`ProtoTotp`) forms name the same algorithm in both
directions, and a stored token without a digit count has six digits. -/
theorem conversions_keep_algo (a : Algo) :
    Algo.ofProto a = a ∧ Algo.toProto a = a ∧ Algo.ofDb (Algo.toDb a) = a ∧
    Algo.ofDb .S1 = .Sha1 ∧ Algo.ofDb .S256 = .Sha256 ∧ Algo.ofDb .S512 = .Sha512 ∧
    Digits.ofU8 dbDefaultDigits = some .Six := by
  cases a <;> decide

/-! ## Non-vacuity and known answers

Kernel evaluation.  The statements are about the definitions above; `hotp_keyed` hands the HMACs to the
evaluator of `Lemmas/TotpEval.lean`, which is proved equal to them. -/

/-- RFC 6238 Appendix B seeds. -/
def seed20 : List Nat := (List.range 20).map fun i => 0x30 + (i + 1) % 10
def seed32 : List Nat := (List.range 32).map fun i => 0x30 + (i + 1) % 10
def seed64 : List Nat := (List.range 64).map fun i => 0x30 + (i + 1) % 10

/-- RFC 4226 Appendix D token. -/
def tokRfc : Totp := ⟨seed20, 30, .Sha1, .Six⟩
/-- D7 witnesses: secrets one byte longer than the hash block. -/
def tokLong1 : Totp := ⟨List.replicate 65 0x41, 30, .Sha1, .Six⟩
def tokLong256 : Totp := ⟨List.replicate 65 0x41, 30, .Sha256, .Eight⟩
def tokLong512 : Totp := ⟨List.replicate 129 0x41, 30, .Sha512, .Six⟩

/-- The code of a digest result that neither panicked nor failed. -/
def okCode (r : Option (Except TotpError Nat)) : Option Nat := r.bind Except.toOption

/-- Known answers of HOTP over HMAC-SHA-1.  They are fields of one proposition so that one evaluation
settles them all: the evaluator's HMAC starts from the two states after the key blocks, which are
then computed once for all counters of a secret. -/
structure KnownSha1 : Prop where
  /-- RFC 4226 Appendix D, column "Truncated, Decimal" (ten digits are the whole 31-bit truncation) -/
  rfc4226_trunc0 : Rfc.hotp .Sha1 seed20 0 10 = 1284755224
  rfc4226_trunc1 : Rfc.hotp .Sha1 seed20 1 10 = 1094287082
  /-- RFC 4226 Appendix D, column "HOTP" -/
  rfc4226_hotp0 : Rfc.hotp .Sha1 seed20 0 6 = 755224
  rfc4226_hotp1 : Rfc.hotp .Sha1 seed20 1 6 = 287082
  /-- RFC 6238 Appendix B, T = 59 (count 1) and T = 1111111109 (count 37037036) -/
  rfc6238_59 : Rfc.hotp .Sha1 seed20 1 8 = 94287082
  rfc6238_1111111109 : Rfc.hotp .Sha1 seed20 37037036 8 = 7081804
  long_secret : Rfc.hotp .Sha1 tokLong1.secret 1 6 = 549712

theorem known_sha1 : KnownSha1 := by
  refine (fun ⟨a, b, c, d, e, f, g⟩ => ⟨a, b, c, d, e, f, g⟩ : _ ∧ _ ∧ _ ∧ _ ∧ _ ∧ _ ∧ _ → _) ?_
  simp only [hotp_keyed .Sha1 evalSha1]
  decide +kernel

/-- HOTP over HMAC-SHA-256: RFC 6238 Appendix B, the same two times; the 65-byte secret. -/
structure KnownSha256 : Prop where
  rfc6238_59 : Rfc.hotp .Sha256 seed32 1 8 = 46119246
  rfc6238_1111111109 : Rfc.hotp .Sha256 seed32 37037036 8 = 68084774
  long_secret : Rfc.hotp .Sha256 tokLong256.secret 1 8 = 47673152

theorem known_sha256 : KnownSha256 := by
  refine (fun ⟨a, b, c⟩ => ⟨a, b, c⟩ : _ ∧ _ ∧ _ → _) ?_
  simp only [hotp_keyed .Sha256 (evalSha2 p256 _ _ (by decide))]
  decide +kernel

/-- HOTP over HMAC-SHA-512: RFC 6238 Appendix B, the same two times; the 129-byte secret. -/
structure KnownSha512 : Prop where
  rfc6238_59 : Rfc.hotp .Sha512 seed64 1 8 = 90693936
  rfc6238_1111111109 : Rfc.hotp .Sha512 seed64 37037036 8 = 25091201
  long_secret : Rfc.hotp .Sha512 tokLong512.secret 1 6 = 799118

theorem known_sha512 : KnownSha512 := by
  refine (fun ⟨a, b, c⟩ => ⟨a, b, c⟩ : _ ∧ _ ∧ _ → _) ?_
  simp only [hotp_keyed .Sha512 (evalSha2 p512 _ _ (by decide))]
  decide +kernel

example : Rfc.totp .Sha1 seed20 30 8 59 = 94287082 := known_sha1.rfc6238_59
example : Rfc.totp .Sha256 seed32 30 8 59 = 46119246 := known_sha256.rfc6238_59
example : Rfc.totp .Sha512 seed64 30 8 59 = 90693936 := known_sha512.rfc6238_59
example : Rfc.totp .Sha1 seed20 30 8 1111111109 = 7081804 := known_sha1.rfc6238_1111111109
example : Rfc.totp .Sha256 seed32 30 8 1111111109 = 68084774 := known_sha256.rfc6238_1111111109
example : Rfc.totp .Sha512 seed64 30 8 1111111109 = 25091201 := known_sha512.rfc6238_1111111109
example : Rfc.hotp .Sha1 seed20 0 6 = 755224 ∧ Rfc.hotp .Sha1 seed20 1 6 = 287082 :=
  ⟨known_sha1.rfc4226_hotp0, known_sha1.rfc4226_hotp1⟩

theorem verify_tokRfc_59 (chal : Nat) :
    verify tokRfc chal 59 = some (chal == 287082 || chal == 755224) := by
  rw [verify_iff tokRfc chal 59 (by decide) (by decide) (by decide)]
  show some (chal == Rfc.hotp .Sha1 seed20 1 6 || chal == Rfc.hotp .Sha1 seed20 0 6) = _
  rw [known_sha1.rfc4226_hotp1, known_sha1.rfc4226_hotp0]

-- both disjuncts of `verify_iff` occur; 359152 is the code of the next step (counter 2, RFC 4226)
example : 0 < tokRfc.step ∧ tokRfc.step ≤ 59 ∧ (59 : Nat) < 2 ^ 64 := by decide
example : verify tokRfc 287082 59 = some true := verify_tokRfc_59 _
example : verify tokRfc 755224 59 = some true := verify_tokRfc_59 _
example : verify tokRfc 359152 59 = some false := verify_tokRfc_59 _
example : verify tokRfc 287083 59 = some false := verify_tokRfc_59 _

-- D7 regression: 65 / 65 / 129-byte secrets are valid keys; the code is accepted, and it is
-- the code under the pre-hashed key (RFC 2104).
example : okCode (digest tokLong1 1) = some 549712 := by
  rw [digest_eq_rfc]; exact congrArg some known_sha1.long_secret
example : verify tokLong1 549712 59 = some true :=
  (verify_accepts_iff tokLong1 _ 59 (by decide) (by decide) (by decide)).mpr (.inl known_sha1.long_secret.symm)
example : okCode (digest { tokLong1 with secret := sha1 tokLong1.secret } 1) = some 549712 := by
  rw [digest_eq_rfc]
  exact congrArg some ((long_secret_is_hashed .Sha1 tokLong1.secret 1 6 (by decide +kernel)).symm.trans known_sha1.long_secret)
example : okCode (digest tokLong256 1) = some 47673152 := by
  rw [digest_eq_rfc]; exact congrArg some known_sha256.long_secret
example : verify tokLong256 47673152 59 = some true :=
  (verify_accepts_iff tokLong256 _ 59 (by decide) (by decide) (by decide)).mpr (.inl known_sha256.long_secret.symm)
example : okCode (digest { tokLong256 with secret := sha256 tokLong256.secret } 1) = some 47673152 := by
  rw [digest_eq_rfc]
  exact congrArg some ((long_secret_is_hashed .Sha256 tokLong256.secret 1 8 (by decide +kernel)).symm.trans known_sha256.long_secret)
example : okCode (digest tokLong512 1) = some 799118 := by
  rw [digest_eq_rfc]; exact congrArg some known_sha512.long_secret
example : verify tokLong512 799118 59 = some true :=
  (verify_accepts_iff tokLong512 _ 59 (by decide) (by decide) (by decide)).mpr (.inl known_sha512.long_secret.symm)
example : okCode (digest { tokLong512 with secret := sha512 tokLong512.secret } 1) = some 799118 := by
  rw [digest_eq_rfc]
  exact congrArg some ((long_secret_is_hashed .Sha512 tokLong512.secret 1 6 (by decide +kernel)).symm.trans known_sha512.long_secret)

theorem verify_tokRfc_29 (chal : Nat) :
    verify tokRfc chal 29 = if chal == 755224 then some true else none := by
  rw [(verify_outside_domain tokRfc chal 29).2 (by decide) (by decide)]
  show (if chal == Rfc.hotp .Sha1 seed20 0 6 then some true else none) = _
  rw [known_sha1.rfc4226_hotp0]

-- outside the domain: step 0 panics; before the first step only the current code returns.
example : verify { tokRfc with step := 0 } 755224 59 = none := by decide +kernel
example : verify tokRfc 755224 29 = some true := verify_tokRfc_29 _
example : verify tokRfc 1 29 = none := verify_tokRfc_29 _

end Kanidm.Totp
