import KanidmProofs.Lemmas.Unique
/-!
# C19 — unique values stay unique

No two live entries ever share a UUID or a value of any attribute the schema marks unique, whether
the duplicates arrive in one request, in separate transactions, or concurrently on different
replicas; in the replicated case every entry involved in a clash is moved to the conflict state,
identically on every replica.

The theorems are about `Kanidm.Unique.step` / `conflictStep` / `resolveAdd` — the functions the
driver `km_c19` runs against real servers — and depend on the operators regenerated from the
source into `KanidmModel/Generated/UniqueOps.lean`.
-/
namespace Kanidm.Unique
open Kanidm.Gen

/-! ## one server: Base's uuid check; every operation preserves uniqueness -/

/-- Base refuses a create exactly when a uuid is repeated in the request or known to the
database in any state (live, recycled, conflict, tombstone). -/
theorem base_uuid_exact (db cands : List Entry) :
    baseOk db cands = true ↔ (cands.map (·.id)).Nodup ∧ ∀ c ∈ cands, ∀ e ∈ db, e.id ≠ c.id := by
  simp only [baseOk, UniqueOps.baseRejectsRequestDup, UniqueOps.baseRejectsExisting,
    UniqueOps.baseLooksAtHidden, Bool.not_true, Bool.false_or, Bool.true_or, Bool.true_and,
    Bool.and_eq_true, nodupB_iff, List.all_eq_true, Bool.not_eq_true', beq_eq_false_iff_ne, ne_eq]

theorem create_uniq {s s' : State} {cands : List Entry} (hu : Uniq s)
    (h : create s cands = .ok s') : Uniq s' := by
  revert h
  fun_cases create s cands <;> intro h <;> cases h
  -- the accepting arm; `cs` are the candidates set live
  next cs _ hbase hun =>
  have hbase : baseOk s cs = true := by simpa using hbase
  have hun : enforceUnique s cs = true := by simpa [uniqueHook_eq] using hun
  obtain ⟨hnd, hfresh⟩ := (base_uuid_exact _ _).mp hbase
  refine ⟨?_, keysUnique_of_enforce hu.2 hun fun e he => (List.mem_append.1 he).symm⟩
  exact Keyed.nodup_append Entry.id hu.1 hnd fun e he c hc => hfresh c hc e he

theorem modify_uniq {s s' : State} {ids : List Nat} {sets : List (Nat × List Nat)} (hu : Uniq s)
    (h : modify s ids sets = .ok s') : Uniq s' := by
  revert h
  fun_cases modify s ids sets <;> intro h <;> cases h
  -- nothing selected
  · exact hu
  -- the hook passed the rewritten entries
  · next hun => exact uniq_update hu (fun _ => rfl) (by simpa [uniqueHook_eq] using hun)

theorem delete_uniq {s s' : State} {ids : List Nat} (hu : Uniq s)
    (h : delete s ids = .ok s') : Uniq s' := by
  revert h
  fun_cases delete s ids <;> intro h <;> cases h
  -- recycled entries claim nothing
  refine uniq_update hu (fun _ => rfl) ((enforce_unique_exact _ _).2 ?_)
  have hdead : ∀ c ∈ (s.filter (fun e => e.isLive && ids.contains e.id)).map
      (fun e => { e with st := .recycled }), c.isLive = true → False := by
    intro c hc hl
    obtain ⟨e, _, rfl⟩ := List.mem_map.1 hc
    cases hl
  exact ⟨fun c1 h1 _ _ hl1 => (hdead c1 h1 hl1).elim, fun c hc hl => (hdead c hc hl).elim⟩

theorem revive_uniq {s s' : State} {ids : List Nat} (hu : Uniq s)
    (h : revive s ids = .ok s') : Uniq s' := by
  revert h
  fun_cases revive s ids <;> intro h <;> cases h
  -- the pre-modify hook passed the revived entries
  next hun =>
  exact uniq_update hu (fun _ => rfl)
    (by simpa [uniqueHook_eq, UniqueOps.reviveRunsPreModify] using hun)

/-- **Invariant step.** Whatever the operation — a create of several candidates, a modify of
several entries, a delete, a revive — and whether it succeeds or fails, uuids stay pairwise
distinct and live entries share no unique value. -/
theorem unique_inv_step (s : State) (op : Op) (hu : Uniq s) : Uniq (step s op) := by
  unfold step
  cases hres : stepRes s op with
  | err k => exact hu
  | ok s' =>
    simp only
    cases op with
    | create cands => exact create_uniq hu hres
    | modify ids sets => exact modify_uniq hu hres
    | delete ids => exact delete_uniq hu hres
    | revive ids => exact revive_uniq hu hres

/-- **Invariant over histories** (duplicates arriving in separate transactions). -/
theorem unique_inv_history (ops : List Op) (s : State) (hu : Uniq s) : Uniq (run s ops) :=
  List.foldlRecOn ops step hu fun s hs op _ => unique_inv_step s op hs

/-- **The property on one server.** After any history, two live entries with the same uuid, or
sharing a value of a unique attribute, are one and the same entry. -/
theorem unique_values_stay_unique (s : State) (ops : List Op) (hu : Uniq s) (e1 e2 : Entry)
    (h1 : e1 ∈ run s ops) (h2 : e2 ∈ run s ops) :
    (e1.id = e2.id → e1 = e2) ∧
    (e1.isLive = true → e2.isLive = true → (∃ k, k ∈ e1.keys ∧ k ∈ e2.keys) → e1 = e2) := by
  have hr := unique_inv_history ops s hu
  refine ⟨fun hid => eq_of_idsNodup hr.1 h1 h2 hid, ?_⟩
  rintro hl1 hl2 ⟨k, hk1, hk2⟩
  exact eq_of_idsNodup hr.1 h1 h2 (hr.2 e1 h1 e2 h2 hl1 hl2 k hk1 hk2)

/-! ## replicas: value clashes -/

/-- **After the conflict step live entries are unique again**, provided every clash involves an
entry that arrived (the consumer was consistent before the replication step). -/
theorem repl_conflict_restores_unique (db : List Entry) (candIds : List Nat) (hids : IdsNodup db)
    (hcov : Covered db candIds) : Uniq (conflictStep db candIds) := by
  refine ⟨?_, ?_⟩
  · unfold IdsNodup
    rw [conflictStep_ids]
    exact hids
  · intro e1 h1 e2 h2 hl1 hl2 k hk1 hk2
    obtain ⟨m1, n1⟩ := unmarked_of_live_mem_conflictStep h1 hl1
    obtain ⟨m2, _⟩ := unmarked_of_live_mem_conflictStep h2 hl2
    -- two live survivors with different uuids sharing `k` would be a clash, and both marked
    refine Decidable.byContradiction fun hid => n1 ?_
    exact (conflictSet_iff hcov _).mpr ⟨e1, e2, ⟨m1, m2, hl1, hl2, hid, k, hk1, hk2⟩, rfl⟩

/-- The hypothesis `Covered` is what a consistent consumer gives: if live entries were unique
before the step and `incremental_apply` rewrote or added only the arrived uuids, every clash of the
merged database involves an arrived entry. -/
theorem covered_of_consistent_consumer (pre db : List Entry) (candIds : List Nat)
    (hpre : KeysUnique pre) (hsame : ∀ e ∈ db, e.id ∉ candIds → e ∈ pre) : Covered db candIds := by
  intro e1 e2 ⟨h1, h2, l1, l2, hne, k, hk1, hk2⟩
  by_cases c1 : e1.id ∈ candIds
  · exact Or.inl c1
  · by_cases c2 : e2.id ∈ candIds
    · exact Or.inr c2
    · exact absurd (hpre e1 (hsame e1 h1 c1) e2 (hsame e2 h2 c2) l1 l2 k hk1 hk2) hne

/-- **A replication step preserves uniqueness** on a consumer that satisfied it before: whatever
`incremental_apply` wrote for the arrived uuids (any merge result, any number of new entries, uuids
still pairwise distinct), after `post_repl_incremental_conflict` no two live entries share a
unique value. -/
theorem repl_step_preserves_unique (pre db : List Entry) (candIds : List Nat) (hpre : Uniq pre)
    (hids : IdsNodup db) (hsame : ∀ e ∈ db, e.id ∉ candIds → e ∈ pre) :
    Uniq (conflictStep db candIds) :=
  repl_conflict_restores_unique db candIds hids
    (covered_of_consistent_consumer pre db candIds hpre.2 hsame)

/-- **Every entry involved in a clash becomes a conflict, and only those.** -/
theorem repl_conflict_exact (db : List Entry) (candIds : List Nat) (hids : IdsNodup db)
    (hcov : Covered db candIds) (e : Entry) (he : e ∈ db) (hl : e.isLive = true) :
    (∃ e' ∈ conflictStep db candIds, e'.id = e.id ∧ e'.st = .conflict) ↔ ∃ e2, Clash db e e2 := by
  -- with distinct uuids, `e` clashes with something iff its uuid is in the conflict set
  have key : (∃ e2, Clash db e e2) ↔ e.id ∈ conflictSet db candIds := by
    rw [conflictSet_iff hcov]
    exact ⟨fun ⟨e2, h⟩ => ⟨e, e2, h, rfl⟩, fun ⟨e1, e2, h, hid⟩ => by
      cases eq_of_idsNodup hids h.1 he hid.symm; exact ⟨e2, h⟩⟩
  rw [key, conflictStep_eq]
  constructor
  · rintro ⟨e', hmem, hid, hc⟩
    obtain ⟨y, hy, rfl⟩ := List.mem_map.1 hmem
    by_cases c : y.id ∈ conflictSet db candIds ∧ y.isLive = true
    · rw [if_pos c] at hid
      exact hid ▸ c.1
    · rw [if_neg c] at hid hc
      cases eq_of_idsNodup hids hy he hid
      rw [Entry.isLive, hc] at hl
      cases hl
  · exact fun hin => ⟨{ e with st := .conflict }, List.mem_map.2 ⟨e, he, if_pos ⟨hin, hl⟩⟩, rfl, rfl⟩

/-- **Identically on every replica.** The set of uuids that become conflicts is determined by the
merged live value set alone: two replicas holding the same entries (in any order) mark the same
uuids, whichever entries arrived on which of them. -/
theorem repl_conflict_symmetric (db1 db2 : List Entry) (c1 c2 : List Nat)
    (hsame : ∀ e, e ∈ db1 ↔ e ∈ db2) (h1 : Covered db1 c1) (h2 : Covered db2 c2) (u : Nat) :
    u ∈ conflictSet db1 c1 ↔ u ∈ conflictSet db2 c2 := by
  rw [conflictSet_iff h1, conflictSet_iff h2]
  constructor
  · rintro ⟨e1, e2, ⟨a, b, r⟩, hu⟩
    exact ⟨e1, e2, ⟨(hsame _).mp a, (hsame _).mp b, r⟩, hu⟩
  · rintro ⟨e1, e2, ⟨a, b, r⟩, hu⟩
    exact ⟨e1, e2, ⟨(hsame _).mpr a, (hsame _).mpr b, r⟩, hu⟩

/-- On one replica the outcome of the conflict step does not depend on which of the clashing entries
are reported as arrived. -/
theorem repl_conflict_step_indep (db : List Entry) (c1 c2 : List Nat)
    (h1 : Covered db c1) (h2 : Covered db c2) : conflictStep db c1 = conflictStep db c2 := by
  simp only [conflictStep_eq, repl_conflict_symmetric db db c1 c2 (fun _ => Iff.rfl) h1 h2]

/-! ## replicas: the same uuid created twice -/

/-- **One survivor, the same everywhere.** When two servers created the same uuid (distinct
creation ids), each of them — receiving the other's entry — keeps the entry with the smaller
creation id. -/
theorem resolve_add_symmetric (a b : Nat) (x y : AtEntry) (hne : x.cat ≠ y.cat) :
    (resolveAdd a x y).1 = (resolveAdd b y x).1 ∧
    (resolveAdd a x y).1 = (if x.cat < y.cat then x else y) := by
  rw [resolveAdd_eq, resolveAdd_eq]
  by_cases h : x.cat < y.cat
  · simp [h, Nat.lt_asymm h]
  · simp [h, Nat.lt_of_le_of_ne (Nat.le_of_not_gt h) (Ne.symm hne)]

/-- The conflict copy of the loser is written only by the server the loser was created on. -/
theorem resolve_add_copy_at_origin (self : Nat) (incoming db : AtEntry)
    (h : (resolveAdd self incoming db).2 = true) :
    db.origin = self ∧ incoming.cat < db.cat ∧ (resolveAdd self incoming db).1 = incoming := by
  rw [resolveAdd_eq] at h ⊢
  split at h
  · next hlt => exact ⟨by simpa using h, hlt, by rw [if_pos hlt]⟩
  · cases h

/-! ## the hypotheses are what the driver evaluates on the real servers' state -/

/-- The `uniq=` flag printed by the driver (`uniqB`) decides `Uniq`. -/
theorem driver_uniq_flag (s : State) : uniqB s = true ↔ Uniq s := by
  simp only [uniqB, Uniq, Bool.and_eq_true, idsNodupB, nodupB_iff, keysUniqueB_iff, IdsNodup]

/-! ## non-vacuity: concrete states and histories -/

/-- two groups and a recycled person; attribute 0 = name, 1 = spn, 2 = gidnumber -/
def exState : State :=
  [⟨1, .live, [(0, 10), (1, 10), (2, 2000)]⟩, ⟨2, .live, [(0, 11), (1, 11)]⟩,
   ⟨3, .recycled, [(0, 10), (1, 10)]⟩]

example : Uniq exState := (driver_uniq_flag _).mp (by decide +kernel)

/-- a fresh entry with a free name; a second one with the taken name 11 (refused); two
candidates with the same new name in one request (refused); a rename onto a taken name (refused);
a rename of two entries to one name (refused); revive of 3 while 1 holds its name (refused);
rename 1 away; revive 3 (now fine); re-use of a uuid already in the database (refused) -/
def exOps : List Op :=
  [ .create [⟨4, .live, [(0, 12), (1, 12)]⟩],
    .create [⟨5, .live, [(0, 11), (1, 11)]⟩],
    .create [⟨5, .live, [(0, 13), (1, 13)]⟩, ⟨6, .live, [(0, 13), (1, 13)]⟩],
    .modify [4] [(0, [11]), (1, [11])],
    .modify [2, 4] [(0, [14]), (1, [14])],
    .revive [3],
    .modify [1] [(0, [15]), (1, [15])],
    .revive [3],
    .create [⟨3, .live, [(0, 16), (1, 16)]⟩] ]

example : (exOps.foldl (fun (acc : State × List Bool) op =>
    (step acc.1 op, acc.2 ++ [match stepRes acc.1 op with | .ok _ => true | .err _ => false]))
    (exState, [])).2 = [true, false, false, false, false, false, true, true, false] := by decide +kernel

example : run exState exOps =
    [⟨1, .live, [(2, 2000), (0, 15), (1, 15)]⟩, ⟨2, .live, [(0, 11), (1, 11)]⟩,
     ⟨3, .live, [(0, 10), (1, 10)]⟩, ⟨4, .live, [(0, 12), (1, 12)]⟩] := by decide +kernel

/-- replication: entries 2 and 3 arrive; 3 clashes with the resident 1 on name 10, 2 and 4 are
unaffected — exactly 1 and 3 become conflicts, whichever of them is reported as arrived -/
def exDb : List Entry :=
  [⟨1, .live, [(0, 10)]⟩, ⟨2, .live, [(0, 11)]⟩, ⟨3, .live, [(0, 10)]⟩, ⟨4, .live, [(0, 12)]⟩]

example : conflictStep exDb [2, 3] =
    [⟨1, .conflict, [(0, 10)]⟩, ⟨2, .live, [(0, 11)]⟩, ⟨3, .conflict, [(0, 10)]⟩, ⟨4, .live, [(0, 12)]⟩] := by
  decide +kernel

example : conflictStep exDb [1] = conflictStep exDb [2, 3] := by decide +kernel

example : uniqB exDb = false ∧ uniqB (conflictStep exDb [2, 3]) = true := by decide +kernel

example : Covered exDb [2, 3] :=
  covered_of_consistent_consumer [⟨1, .live, [(0, 10)]⟩, ⟨4, .live, [(0, 12)]⟩] exDb [2, 3]
    ((keysUniqueB_iff _).1 (by decide +kernel)) (by decide +kernel)

example : (resolveAdd 1 ⟨⟨7, .live, [(0, 20)]⟩, 5, 2⟩ ⟨⟨7, .live, [(0, 21)]⟩, 9, 1⟩) =
    (⟨⟨7, .live, [(0, 20)]⟩, 5, 2⟩, true) := by decide +kernel

end Kanidm.Unique
