import KanidmProofs.Lemmas.PwFormat
import KanidmProofs.Lemmas.Keyed
/-!
# C30 — Password checks agree with independent implementations (format layer + verify wrapper)

Level `translation_validation`: whether a stored hash accepts a cleartext exactly when an independent
implementation does is decided differentially (harness `hcrypto/c30`, python/aws-lc oracles). The
theorems here are about the part that is logic rather than arithmetic:

* the import-format layer (`parse` = `impl TryFrom<&str> for Password`): for every well-formed format
  record, parsing what the producing system writes gives back exactly the record (`parse_render_*`),
  with the length / cost guards as the only refusals (the `if … then refused …` sides; for the strict
  salted variant the empty salt, which is refused too, is excluded by the hypothesis `hsalt` of
  `parse_render_dss`), and malformed strings are refused (`parse_no_prefix`, `parse_unlisted_tag`, `parse_unclosed_brace`,
  `parse_pbkdf2_two_fields`, `parseU32_natDigits_iff`);
* the codecs (adapted / standard base64, hex, decimal) and their round trips are in `Lemmas/PwFormat.lean`;
* the verify wrapper: every `Kdf` variant is checked with the primitive of its own format
  (`verify_dispatch_is_spec`, over the table regenerated from `verify_ctx`), the storage round trip
  keeps the variant (`db_round_trip`, D2), and `verify` agrees with the format's reference up to the
  length guard (`verify_agrees_partial`); beyond it the full statement is false (`verify_agrees_full_false`, D15).

Prefix chain, tag table, PBKDF2 table, crypt table, constants, the guard operator and the verify /
storage tables are regenerated from libs/crypto/src/lib.rs on every run (`Generated/PwFormatTables.lean`).
-/
namespace Kanidm.PwFormat
open Kanidm.Gen.PwFormat

/-- The tables regenerated from the source must be these, written by hand.  The syntax is the
producers' (RFC 2307 / 389-DS `{SHA}`…`{SSHA512}` = digest ‖ salt with the digest sizes of FIPS 180;
passlib `ldap_pbkdf2_*`: `{PBKDF2}` = `{PBKDF2-SHA1}`; crypt(3) ids 1 / 5 / 6; Django `pbkdf2_sha256$`;
FreeIPA `ipaNTHash`, Samba `sambaNTPassword`).  The acceptance rules in them are kanidm's own and are
pinned as they stand: only `ssha512` refuses an empty salt (`true`), `pbkdf2_sha256` in braces is
refused, the minimum key length is 19 for `pbkdf2` / `pbkdf2-sha1` and 32 for the others; with them the
constants 512 (the longest cleartext `verify` hashes) and 19 (the Argon2 version taken when none is
written). -/
theorem import_tables_are_spec :
    prefixTable.map (fun e => (String.ofList e.1, e.2)) =
      [("pbkdf2_sha256$", false, .parse_django_password), ("ipaNTHash: ", true, .parse_ipanthash),
       ("sambaNTPassword: ", true, .parse_sambantpassword), ("{", false, .braced)] ∧
    tagTable.map (fun e => (String.ofList e.1, e.2)) =
      [("pbkdf2", .pbkdf2), ("pbkdf2-sha1", .pbkdf2), ("pbkdf2-sha256", .pbkdf2), ("pbkdf2-sha512", .pbkdf2),
       ("pbkdf2_sha256", .invalidFormat), ("argon2", .argon), ("crypt", .crypt),
       ("sha", .ds 20 .SHA1), ("ssha", .dss 20 false .SSHA1),
       ("sha256", .ds 32 .SHA256), ("ssha256", .dss 32 false .SSHA256),
       ("sha512", .ds 64 .SHA512), ("ssha512", .dss 64 true .SSHA512)] ∧
    pbkdf2Table.map (fun e => (String.ofList e.1, e.2)) =
      [("pbkdf2", 19, .PBKDF2_SHA1), ("pbkdf2-sha1", 19, .PBKDF2_SHA1), ("pbkdf2-sha256", 32, .PBKDF2),
       ("pbkdf2-sha512", 32, .PBKDF2_SHA512)] ∧
    cryptTable.map (fun e => (String.ofList e.1, e.2)) =
      [("$1$", .CRYPT_MD5), ("$5$", .CRYPT_SHA256), ("$6$", .CRYPT_SHA512)] ∧
    (pwMaxLengthCheck, pbkdf2MinNistKeyLen, argon2Version) = (512, 32, 19) := by
  decide +kernel

theorem parse_braced (tag value : List Char) (hbr : '}' ∉ tag) :
    parse (renderBraced tag value) = parseTagged (lower tag) value := by
  have hs := splitOnce_field '}' ('{' :: tag) value (List.not_mem_cons_of_ne_of_not_mem (by decide) hbr)
  simp only [List.cons_append] at hs
  simp [parse, renderBraced, firstPrefix, prefixTable, stripPrefix, parseBraced, hs]

theorem parse_ipa (v : List Char) : parse (['i','p','a','N','T','H','a','s','h',':',' '] ++ v) = parseIpaNtHash v := by
  simp [parse, firstPrefix, prefixTable, stripPrefix]

theorem parse_crypt_tag (tag value : List Char) (hbr : '}' ∉ tag) (htag : lower tag = ['c','r','y','p','t']) :
    parse (renderBraced tag value) = parseCrypt value := by
  have hl : lookup ['c','r','y','p','t'] tagTable = some .crypt := by decide
  rw [parse_braced _ _ hbr, htag]
  simp only [parseTagged, hl]

/-- every tag `parse_pbkdf2` knows is routed to it by the outer match -/
theorem pbkdf2_tags_routed : ∀ e ∈ pbkdf2Table, lookup e.1 tagTable = some .pbkdf2 := by decide +kernel

theorem parse_render_django (cost : Nat) (salt : List Char) (hash : Bytes)
    (hc : cost < 2 ^ 32) (hs : '$' ∉ salt) (hb : ∀ b ∈ hash, b < 256) :
    parse (renderDjango cost salt hash) =
      if hash.length < pbkdf2MinNistKeyLen then refused .InvalidLength
      else stored { tag := .PBKDF2, cost := cost, salt := utf8 salt, hash := hash } := by
  have h1 := natDigits_no_sep cost '$' (by decide)
  have h2 : '$' ∉ b64Encode .standard true hash := b64Encode_not_mem (.inl rfl) (by decide) (by decide) hash hb
  have hp : firstPrefix prefixTable (renderDjango cost salt hash) = some (.parse_django_password, renderDjango cost salt hash) := by
    simp [renderDjango, dollar, firstPrefix, prefixTable, stripPrefix]
  rw [parse, hp]
  simp only [parseDjango, renderDjango]
  rw [splitChar_dollar _ _ (by simp [h1, hs, h2])]
  simp only [refused, stored, parseU32, parseUnsigned_natDigits, if_pos hc, decodeStd_b64Encode hash hb,
    djangoKeyTooShort]
  by_cases hl : hash.length < pbkdf2MinNistKeyLen <;> simp [hl]

theorem parse_render_pbkdf2 (tag : List Char) (minLen : Nat) (k : KdfTag) (cost : Nat) (salt hash : Bytes)
    (hbr : '}' ∉ tag) (hentry : lookup (lower tag) pbkdf2Table = some (minLen, k))
    (hc : cost < 2 ^ 32) (hsb : ∀ b ∈ salt, b < 256) (hb : ∀ b ∈ hash, b < 256) :
    parse (renderPbkdf2 tag cost salt hash) =
      if hash.length < minLen then refused .InvalidKeyLength
      else stored { tag := k, cost := cost, salt := salt, hash := hash } := by
  have hroute := pbkdf2_tags_routed _ (Kanidm.lookup_mem (lookup_eq _ _ ▸ hentry))
  simp only at hroute
  have h1 := natDigits_no_sep cost '$' (by decide)
  have h2 := ab64Encode_no_dollar salt hsb
  have h3 := ab64Encode_no_dollar hash hb
  have s0 := splitChar_dollar (natDigits cost) [ab64Encode salt, ab64Encode hash] (by simp [h1, h2, h3])
  unfold renderPbkdf2
  rw [parse_braced _ _ hbr]
  simp only [refused, stored, parseTagged, hroute, parsePbkdf2, s0, parseU32, parseUnsigned_natDigits, if_pos hc,
    decodeAb64_ab64Encode salt hsb, decodeAb64_ab64Encode hash hb, hentry]

theorem parse_render_ds (tag : List Char) (n : Nat) (k : KdfTag) (hash : Bytes)
    (hbr : '}' ∉ tag) (hentry : lookup (lower tag) tagTable = some (.ds n k)) (hb : ∀ b ∈ hash, b < 256) :
    parse (renderDs tag hash []) =
      if hash.length ≠ n then refused .InvalidSaltLength else stored { tag := k, hash := hash } := by
  unfold renderDs
  rw [parse_braced _ _ hbr]
  simp only [refused, stored, parseTagged, hentry, List.append_nil, decodeStd_b64Encode hash hb]

theorem parse_render_dss (tag : List Char) (n : Nat) (strict : Bool) (k : KdfTag) (hash salt : Bytes)
    (hbr : '}' ∉ tag) (hentry : lookup (lower tag) tagTable = some (.dss n strict k))
    (hb : ∀ b ∈ hash, b < 256) (hsb : ∀ b ∈ salt, b < 256) (hlen : hash.length = n)
    (hsalt : strict = true → salt ≠ []) :
    parse (renderDs tag hash salt) = stored { tag := k, salt := salt, hash := hash } := by
  have hd := decodeStd_b64Encode (hash ++ salt) fun b hm => (List.mem_append.mp hm).elim (hb b) (hsb b)
  unfold renderDs
  rw [parse_braced _ _ hbr]
  simp only [stored, parseTagged, hentry, hd]
  subst hlen
  -- the strict variants refuse an empty salt, and only that
  have h1 : ¬ ((strict && decide ((hash ++ salt).length ≤ hash.length)) = true) := by
    cases strict with
    | false => simp
    | true => simpa using List.length_pos_iff.mpr (hsalt rfl)
  rw [if_neg h1, if_neg (by simp)]
  simp

theorem parse_render_samba (upper : Bool) (hash : Bytes) (hb : ∀ b ∈ hash, b < 256) :
    parse (renderSambaNt upper hash) = stored { tag := .NT_MD4, hash := hash } := by
  simp [stored, parse, renderSambaNt, firstPrefix, prefixTable, stripPrefix, parseSambaNt, hexDecode_hexEncode upper hash hb]

theorem parse_render_ipa (pad : Bool) (hash : Bytes) (hb : ∀ b ∈ hash, b < 256) :
    parse (renderIpaNtHash pad hash) = stored { tag := .NT_MD4, hash := hash } := by
  rw [renderIpaNtHash, parse_ipa]
  simp only [stored, parseIpaNtHash]
  -- padded text is read by the first decoder only if there was nothing to pad, else by the second
  rw [b64Decode_b64Encode (Or.inr rfl) .requireNone pad false hash hb]
  by_cases hC : hash.length % 3 = 0 ∨ pad = (PadMode.requireNone == .requireCanonical)
  · rw [if_pos hC]
  · cases pad with
    | false => exact absurd (.inr rfl) hC
    | true => rw [if_neg hC]; simp only; rw [b64Decode_b64Encode_pad (Or.inr rfl) false hash hb]

theorem parse_render_crypt_md5 (tag salt hash : List Char) (hbr : '}' ∉ tag)
    (htag : lower tag = ['c','r','y','p','t']) (hs : '$' ∉ salt) :
    parse (renderCryptMd5 tag salt hash) = stored { tag := .CRYPT_MD5, salt := utf8 salt, hash := utf8 hash } := by
  rw [renderCryptMd5, parse_crypt_tag _ _ hbr htag]
  simp [stored, parseCrypt, cryptPrefix, cryptTable, stripPrefix, splitOnce_field '$' salt hash hs]

theorem parse_crypt_sha (tag rest : List Char) (id : Char) (k : KdfTag) (hbr : '}' ∉ tag)
    (htag : lower tag = ['c','r','y','p','t'])
    (hid : (id = '5' ∧ k = .CRYPT_SHA256) ∨ (id = '6' ∧ k = .CRYPT_SHA512)) :
    parse (renderBraced tag ('$' :: id :: '$' :: rest)) = stored { tag := k, text := '$' :: id :: '$' :: rest } := by
  rw [parse_crypt_tag _ _ hbr htag]
  rcases hid with ⟨rfl, rfl⟩ | ⟨rfl, rfl⟩ <;>
    simp [stored, parseCrypt, cryptPrefix, cryptTable, stripPrefix]

theorem parse_no_prefix (v : List Char) (h : ∀ e ∈ prefixTable, stripPrefix e.1 v = none) :
    parse v = refused .NoDecoderFound := by
  simp only [refused, parse, firstPrefix_none prefixTable v h]

theorem parse_unlisted_tag (tag value : List Char) (hbr : '}' ∉ tag) (h : lookup (lower tag) tagTable = none) :
    parse (renderBraced tag value) = refused .NoDecoderFound := by
  rw [parse_braced _ _ hbr]
  simp only [refused, parseTagged, h]

theorem parse_unclosed_brace (rest : List Char) (h : '}' ∉ rest) : parse ('{' :: rest) = refused .InvalidFormat := by
  have h' : '}' ∉ '{' :: rest := List.not_mem_cons_of_ne_of_not_mem (by decide) h
  simp [refused, parse, firstPrefix, prefixTable, stripPrefix, parseBraced, splitOnce_none _ _ h']

theorem parse_pbkdf2_two_fields (tag a b : List Char) (hbr : '}' ∉ tag)
    (hroute : lookup (lower tag) tagTable = some .pbkdf2) (ha : '$' ∉ a) (hb : '$' ∉ b) :
    parse (renderBraced tag (a ++ '$' :: b)) = refused .InvalidLength := by
  rw [parse_braced _ _ hbr]
  simp only [refused, parseTagged, hroute, parsePbkdf2, splitChar_eq,
    List.splitOn_append_cons_self_of_not_mem ha, List.splitOn_eq_singleton hb]

theorem parseU32_natDigits_iff (n : Nat) : parseU32 (natDigits n) = if n < 2 ^ 32 then some n else none :=
  parseUnsigned_natDigits (2 ^ 32) n

/-! ## alphabet selection: a character of another base64 dialect is refused -/

theorem parse_ds_bad_char (tag value : List Char) (n : Nat) (k : KdfTag) (c : Char) (hbr : '}' ∉ tag)
    (hentry : lookup (lower tag) tagTable = some (.ds n k)) (hm : c ∈ value)
    (hc : symVal .standard c = none) (hp : c ≠ '=') :
    parse (renderBraced tag value) = refused .Base64Decoding := by
  rw [parse_braced _ _ hbr]
  simp only [refused, parseTagged, hentry, decodeStd, b64Decode_bad_char _ _ _ c hc hp value hm]

theorem parse_dss_bad_char (tag value : List Char) (n : Nat) (strict : Bool) (k : KdfTag) (c : Char) (hbr : '}' ∉ tag)
    (hentry : lookup (lower tag) tagTable = some (.dss n strict k)) (hm : c ∈ value)
    (hc : symVal .standard c = none) (hp : c ≠ '=') :
    parse (renderBraced tag value) = refused .Base64Decoding := by
  rw [parse_braced _ _ hbr]
  simp only [refused, parseTagged, hentry, decodeStd, b64Decode_bad_char _ _ _ c hc hp value hm]

theorem parse_ipa_bad_char (value : List Char) (c : Char) (hm : c ∈ value)
    (hc : symVal .urlSafe c = none) (hp : c ≠ '=') :
    parse (['i','p','a','N','T','H','a','s','h',':',' '] ++ value) = refused .Base64Decoding := by
  simp only [refused, parse_ipa, parseIpaNtHash, b64Decode_bad_char _ _ _ c hc hp value hm]

/-! ## `$5$` / `$6$` strings as read at verify time (`sha_crypt::sha{256,512}_check`) -/

theorem shaCryptRead_rounds (id : Char) (rounds : Nat) (salt hash : List Char)
    (hid : id = '5' ∨ id = '6') (hs : '$' ∉ salt) (hh : '$' ∉ hash) (hr : rounds < 2 ^ 64) :
    shaCryptRead id ('$' :: id :: '$' :: (['r','o','u','n','d','s','='] ++ natDigits rounds) ++ '$' :: (salt ++ '$' :: hash)) =
      if shaCryptRoundsMin ≤ rounds ∧ rounds ≤ shaCryptRoundsMax then some ⟨rounds, salt.take 16, hash⟩ else none := by
  have hidd : id ≠ '$' := by rcases hid with rfl | rfl <;> decide
  show shaCryptRead id (dollar [[], [id], ['r','o','u','n','d','s','='] ++ natDigits rounds, salt, hash]) = _
  rw [shaCryptRead, splitChar_dollar _ _ (by simp [hidd.symm, hs, hh, natDigits_no_sep rounds '$' (by decide)])]
  simp only [startsWith_append, show (['r','o','u','n','d','s','='] ++ natDigits rounds).drop 7 = natDigits rounds from rfl,
    parseUnsigned_natDigits, hr, if_true, ne_eq, not_true_eq_false, if_false]

theorem shaCryptRead_default (id : Char) (salt hash : List Char)
    (hid : id = '5' ∨ id = '6') (hs : '$' ∉ salt) (hh : '$' ∉ hash)
    (hnr : startsWith ['r','o','u','n','d','s','='] salt = false) :
    shaCryptRead id ('$' :: id :: '$' :: salt ++ '$' :: hash) = some ⟨shaCryptRoundsDefault, salt.take 16, hash⟩ := by
  have hidd : id ≠ '$' := by rcases hid with rfl | rfl <;> decide
  show shaCryptRead id (dollar [[], [id], salt, hash]) = _
  rw [shaCryptRead, splitChar_dollar _ _ (by simp [hidd.symm, hs, hh])]
  simp [hnr, shaCryptRoundsDefault, shaCryptRoundsMin, shaCryptRoundsMax]

/-! ## `verify`: dispatch by variant, the length guard, the storage round trip of the variant -/

theorem verify_dispatch_is_spec (t : KdfTag) : lookupTag t verifyTable = some (specPrim t) := by
  cases t <;> rfl

theorem verify_eq (P : Prims) (k : Kdf) (ct : Bytes) :
    verify P k ct = if pwMaxLengthCheck < ct.length then .ok false else refAccepts P k ct := by
  simp [verify, tooLong, verify_dispatch_is_spec, refAccepts]

theorem verify_too_long_rejected (P : Prims) (k : Kdf) (ct : Bytes) (h : pwMaxLengthCheck < ct.length) :
    verify P k ct = .ok false :=
  (verify_eq P k ct).trans (if_pos h)

theorem verify_agrees_partial (P : Prims) (k : Kdf) (ct : Bytes) (h : ct.length ≤ pwMaxLengthCheck) :
    verify P k ct = refAccepts P k ct :=
  (verify_eq P k ct).trans (if_neg (Nat.not_lt.mpr h))

def verify_agrees_full : Prop := ∀ (P : Prims) (k : Kdf) (ct : Bytes), verify P k ct = refAccepts P k ct

/-- D15 witness: every digest is empty, so the reference accepts a record with `hash := []`. -/
def d15Prims : Prims where
  digest := fun _ _ => []
  pbkdf2 := fun _ _ _ _ _ => []
  md4 := fun _ => []
  utf16le := fun b => b
  md5Crypt := fun _ _ => []
  shaCryptCheck := fun _ _ _ => false
  argon2id := fun _ _ _ _ _ _ _ => none

theorem refAccepts_d15 {k : Kdf} {h : Hash} {feeds : List Feed} (hp : specPrim k.tag = .digest h feeds)
    (hh : k.hash = []) (ct : Bytes) : refAccepts d15Prims k ct = .ok true := by
  simp [refAccepts, hp, runPrim, d15Prims, hh]

theorem verify_agrees_full_false : ¬ verify_agrees_full := by
  intro h
  have hfull := h d15Prims { tag := .SHA1 } (List.replicate 513 0)
  rw [verify_too_long_rejected _ _ _ (by rw [List.length_replicate]; decide), refAccepts_d15 rfl rfl] at hfull
  cases hfull

theorem db_round_trip (t : KdfTag) : dbRoundTrip t = some t := by
  cases t <;> rfl

/-! ## non-vacuity: the hypotheses are satisfiable by concrete, non-trivial records -/

example : parse (renderDjango 36000 ['x','I','E','o'] (List.replicate 32 7)) =
    stored { tag := .PBKDF2, cost := 36000, salt := utf8 ['x','I','E','o'], hash := List.replicate 32 7 } :=
  (parse_render_django _ _ _ (by decide +kernel) (by decide +kernel) (by decide +kernel)).trans
    (by simp [pbkdf2MinNistKeyLen])

example : parse (renderDjango 1 [] (List.replicate 31 7)) = refused .InvalidLength :=
  (parse_render_django _ _ _ (by decide +kernel) (by decide +kernel) (by decide +kernel)).trans
    (by simp [pbkdf2MinNistKeyLen])

example : parse (renderPbkdf2 ['P','b','K','D','F','2','-','s','h','a','5','1','2'] 10000 [1, 2, 255] (List.replicate 64 200)) =
    stored { tag := .PBKDF2_SHA512, cost := 10000, salt := [1, 2, 255], hash := List.replicate 64 200 } :=
  (parse_render_pbkdf2 _ 32 .PBKDF2_SHA512 _ _ _ (by decide +kernel) (by decide +kernel) (by decide +kernel)
    (by decide +kernel) (by decide +kernel)).trans (by simp)

example : parse (renderPbkdf2 ['P','B','K','D','F','2'] 1 [9] (List.replicate 18 3)) = refused .InvalidKeyLength :=
  (parse_render_pbkdf2 _ 19 .PBKDF2_SHA1 _ _ _ (by decide +kernel) (by decide +kernel) (by decide +kernel)
    (by decide +kernel) (by decide +kernel)).trans (by simp)

example : parse (renderDs ['S','h','A'] (List.replicate 20 9) []) = stored { tag := .SHA1, hash := List.replicate 20 9 } :=
  (parse_render_ds _ 20 .SHA1 _ (by decide +kernel) (by decide +kernel) (by decide +kernel)).trans (by simp)

example : parse (renderDs ['S','S','H','A','5','1','2'] (List.replicate 64 9) [1, 2, 3]) =
    stored { tag := .SSHA512, salt := [1, 2, 3], hash := List.replicate 64 9 } :=
  parse_render_dss _ 64 true .SSHA512 _ _
    (by decide +kernel) (by decide +kernel) (by decide +kernel) (by decide +kernel) (by decide +kernel) (by decide +kernel)

example : parse (renderSambaNt true [0x88, 0x46, 0xF7, 0xEA]) = stored { tag := .NT_MD4, hash := [0x88, 0x46, 0xF7, 0xEA] } :=
  parse_render_samba true _ (by decide +kernel)

example : parse (renderIpaNtHash true (List.replicate 16 251)) = stored { tag := .NT_MD4, hash := List.replicate 16 251 } :=
  parse_render_ipa true _ (by decide +kernel)

example : parse (renderCryptMd5 ['C','r','y','p','t'] ['z','a','R','I'] ['7','8','8','7']) =
    stored { tag := .CRYPT_MD5, salt := utf8 ['z','a','R','I'], hash := utf8 ['7','8','8','7'] } :=
  parse_render_crypt_md5 _ _ _ (by decide +kernel) (by decide +kernel) (by decide +kernel)

example : parse (renderBraced ['c','r','y','p','t'] ['$','6','$','r','o','u','n','d','s','=','1','$','a','$','b']) =
    stored { tag := .CRYPT_SHA512, text := ['$','6','$','r','o','u','n','d','s','=','1','$','a','$','b'] } :=
  parse_crypt_sha _ _ '6' .CRYPT_SHA512 (by decide +kernel) (by decide +kernel) (Or.inr ⟨rfl, rfl⟩)

example : parse ['p','a','s','s','w','o','r','d'] = refused .NoDecoderFound :=
  parse_no_prefix _ (by decide +kernel)

example : parse (renderBraced ['M','D','5'] ['x']) = refused .NoDecoderFound :=
  parse_unlisted_tag _ _ (by decide +kernel) (by decide +kernel)

/-- D15 in the model: the reference accepts, the length guard refuses 513 bytes. -/
example : verify d15Prims { tag := .SHA1 } (List.replicate 513 0) = .ok false ∧
    refAccepts d15Prims { tag := .SHA1 } (List.replicate 513 0) = .ok true :=
  ⟨verify_too_long_rejected _ _ _ (by rw [List.length_replicate]; decide), refAccepts_d15 rfl rfl _⟩

/-- at the guard the hash is still computed -/
example : verify d15Prims { tag := .SSHA256, salt := [1] } (List.replicate 512 0) = .ok true := by
  rw [verify_agrees_partial _ _ _ (by rw [List.length_replicate]; decide), refAccepts_d15 rfl rfl]

example : parse (renderBraced ['S','S','H','A'] ['a','b','.','d']) = refused .Base64Decoding :=
  parse_dss_bad_char _ _ 20 false .SSHA1 '.' (by decide +kernel) (by decide +kernel) (by decide +kernel) (by decide +kernel) (by decide +kernel)

example : parse (['i','p','a','N','T','H','a','s','h',':',' '] ++ ['a','b','+','d']) = refused .Base64Decoding :=
  parse_ipa_bad_char _ '+' (by decide +kernel) (by decide +kernel) (by decide +kernel)

example : shaCryptRead '6' ('$' :: '6' :: '$' :: (['r','o','u','n','d','s','='] ++ natDigits 1000) ++ '$' :: (['a','b'] ++ '$' :: ['x','y'])) =
    some ⟨1000, ['a','b'], ['x','y']⟩ :=
  (shaCryptRead_rounds _ _ _ _ (Or.inr rfl) (by decide +kernel) (by decide +kernel) (by decide +kernel)).trans
    (by decide)

example : shaCryptRead '5' ('$' :: '5' :: '$' :: (['r','o','u','n','d','s','='] ++ natDigits 999) ++ '$' :: (['a','b'] ++ '$' :: ['x','y'])) = none :=
  (shaCryptRead_rounds _ _ _ _ (Or.inl rfl) (by decide +kernel) (by decide +kernel) (by decide +kernel)).trans
    (by decide)

end Kanidm.PwFormat
