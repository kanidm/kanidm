import KanidmProofs.Lemmas.AccessSearch
/-
C23 — Searches never disclose what the caller may not read.

Over the transcription in `KanidmModel/Access/{Types,Search}.lean` (tables regenerated from the
source in `KanidmModel/Generated/AccessSearchTables.lean`). `MayRead acps id e a` (Lemmas) is the
reference reading of the property's "covered by a read grant whose receiver and target both match":
an ACP of the set with `ReceiverMatches ∧ TargetMatches ∧ a ∈ attrs`, or one of the three built-in
visibility rules, for a user identity whose scope is not `Synchronise`.

Every statement holds for every database, ACP set and filter; each says for which identities and
which requested-attribute lists it speaks.
-/
namespace Kanidm.Access
open Kanidm.Filter
open Kanidm.Gen

/-- For a user identity (scope ≠ Synchronise) `apply_search_access` always answers `Allow`, and with
the unrestricted related set the allowed attributes are exactly those `MayRead` describes. -/
theorem allowed_iff_mayRead (id : Identity) (ue : DbEntry) (acps : List SearchAcp) (e : DbEntry)
    (ho : id.origin = .user ue) (hs : id.scope ≠ .synchronise) :
    ∃ al, applySearchAccess id (searchRelatedAcp id acps none) e = .allow al ∧
      ∀ a, a ∈ al ↔ MayRead acps id e a :=
  ⟨_, applySearchAccess_user id ue acps none e ho hs, fun _ => mem_userAllowed ho hs⟩

/-- With a requested-attribute list the related set is trimmed; what is then allowed is still
covered by a grant (soundness direction). -/
theorem allowed_requested_sound (id : Identity) (ue : DbEntry) (acps : List SearchAcp)
    (req : Option (List Nat)) (e : DbEntry) (ho : id.origin = .user ue)
    (hs : id.scope ≠ .synchronise) :
    ∃ al, applySearchAccess id (searchRelatedAcp id acps req) e = .allow al ∧
      ∀ a, a ∈ al → MayRead acps id e a :=
  ⟨_, applySearchAccess_user id ue acps req e ho hs, fun _ => mayRead_of_allowed ho hs⟩

/-- If any of the four modules answers `Deny`, the entry is denied — whatever the other modules
grant or allow. -/
theorem deny_dominates (id : Identity) (related : List SearchResolved) (e : DbEntry)
    (h : ∃ r, r ∈ moduleResults id related e ∧ r = .deny) :
    applySearchAccess id related e = .deny := by
  obtain ⟨r, hr, rfl⟩ := h
  unfold applySearchAccess Acc.finish
  rw [foldl_step_denied]
  have : (moduleResults id related e).any SrchResult.isDeny = true :=
    List.any_eq_true.mpr ⟨_, hr, rfl⟩
  simp [this]

/-- DESIGN §7 `entry_returned_needs_filter_attrs` (plain `search`, any non-internal identity): an
entry is only returned if it is stored, matches the filter that was run, and the caller may read
**every** attribute the original filter names on that entry. -/
theorem search_reveals_only_readable (db : List DbEntry) (acps : List SearchAcp) (id : Identity)
    (f fo : FC) (res : List DbEntry) (e : DbEntry) (hni : id.isInternal = false)
    (h : search db acps id f fo = some res) (he : e ∈ res) :
    e ∈ db ∧ f.matches ValSem.std id.uuid Attr.Uuid e.attrs = true ∧ FC.attrSet fo ≠ [] ∧
      ∀ a ∈ FC.attrSet fo, MayRead acps id e a :=
  (mem_search hni h).mp he

/-- No over-blocking: a stored entry that matches and whose filter attributes are all readable is
returned (so the statement on `search` above is not satisfied by an empty result). -/
theorem search_returns_readable (db : List DbEntry) (acps : List SearchAcp) (id : Identity)
    (ue : DbEntry) (f fo : FC) (e : DbEntry) (ho : id.origin = .user ue)
    (hs : id.scope ≠ .synchronise) (hin : e ∈ db)
    (hm : f.matches ValSem.std id.uuid Attr.Uuid e.attrs = true) (hne : FC.attrSet fo ≠ [])
    (hall : ∀ a ∈ FC.attrSet fo, MayRead acps id e a) :
    ∃ res, search db acps id f fo = some res ∧ e ∈ res :=
  ⟨_, search_eq db acps id f fo,
    (mem_search (by simp [Identity.isInternal, ho]) (search_eq db acps id f fo)).mpr
      ⟨hin, hm, hne, hall⟩⟩

/-- DESIGN §7 `released_attr_has_grant` + `entry_returned_needs_filter_attrs` for `search_ext`:
every returned (reduced) entry is the reduction of a stored entry that matches the filter and on
which every filter attribute is readable; every attribute it still carries has its stored values, is
covered by a read grant for this identity and this entry, and was requested (when a list was given).
-/
theorem searchExt_reveals_only_granted (db : List DbEntry) (acps : List SearchAcp) (id : Identity)
    (f fo : FC) (req : Option (List Nat)) (res : List DbEntry) (r : DbEntry)
    (h : searchExt db acps id f fo req = some res) (hr : r ∈ res) :
    ∃ e, e ∈ db ∧ e.uuid = r.uuid ∧
      f.matches ValSem.std id.uuid Attr.Uuid e.attrs = true ∧
      FC.attrSet fo ≠ [] ∧ (∀ a ∈ FC.attrSet fo, MayRead acps id e a) ∧
      ∀ a, r.attrs a ≠ [] →
        r.attrs a = e.attrs a ∧ MayRead acps id e a ∧ (∀ rq, req = some rq → a ∈ rq) := by
  obtain ⟨ue, ents, e, ho, hs, hsr, he, rfl⟩ := searchExt_mem h hr
  obtain ⟨h1, h2, h3, h4⟩ := (mem_search (by simp [Identity.isInternal, ho]) hsr).mp he
  refine ⟨e, h1, rfl, h2, h3, h4, fun a ha => ?_⟩
  have hmem := ((reduceAttributes_ne_nil _ _ a).mp ha).1
  obtain ⟨hal, hrq⟩ := (mem_reduceAttrs req _ a).mp hmem
  exact ⟨reduceAttributes_of_mem hmem, mayRead_of_allowed ho hs hal, hrq⟩

/-- `search_ext` refuses internal and Synch identities outright (`Err(InvalidState)`). -/
theorem searchExt_refuses_internal_and_synch (db : List DbEntry) (acps : List SearchAcp)
    (id : Identity) (f fo : FC) (req : Option (List Nat))
    (h : id.isInternal = true ∨ ∃ u, id.origin = .synch u) :
    searchExt db acps id f fo req = none := by
  unfold searchExt
  cases search db acps id f fo with
  | none => rfl
  | some ents =>
    show searchFilterEntryAttributes id acps req ents = none
    fun_cases searchFilterEntryAttributes id acps req ents
    · rfl  -- internal origin
    · rfl  -- Synch origin
    · simp_all [Identity.isInternal]  -- user origin: excluded by `h`

/-- For every non-internal identity `exists` is exactly "`search` returns something" — it can
confirm nothing a search would not reveal. -/
theorem exists_iff_search_nonempty (db : List DbEntry) (acps : List SearchAcp) (id : Identity)
    (f fo : FC) (hni : id.isInternal = false) :
    exists_ db acps id f fo = (search db acps id f fo).map (fun res => !res.isEmpty) := by
  unfold exists_ search
  cases resolveFilter id f <;> simp [hni]

/-- Hence a `true` from `exists` is witnessed by a stored, matching entry whose filter attributes
are all readable. -/
theorem exists_true_has_readable_witness (db : List DbEntry) (acps : List SearchAcp) (id : Identity)
    (f fo : FC) (hni : id.isInternal = false) (h : exists_ db acps id f fo = some true) :
    ∃ e, e ∈ db ∧ f.matches ValSem.std id.uuid Attr.Uuid e.attrs = true ∧ FC.attrSet fo ≠ [] ∧
      ∀ a ∈ FC.attrSet fo, MayRead acps id e a := by
  rw [exists_iff_search_nonempty db acps id f fo hni, search_eq] at h
  simp only [Option.map_some, Option.some.injEq, Bool.not_eq_true', List.isEmpty_eq_false_iff] at h
  obtain ⟨e, he⟩ := List.exists_mem_of_ne_nil _ h
  exact ⟨e, (mem_search hni (search_eq db acps id f fo)).mp he⟩

/-- Internal identities take the backend's answer for `exists` (no access filter): recorded as the
code has it — internal roles are trusted callers, not subjects of this property. -/
theorem exists_internal_is_backend (db : List DbEntry) (acps : List SearchAcp) (id : Identity)
    (f fo : FC) (vfr : F) (hi : id.isInternal = true) (hr : resolveFilter id f = some vfr) :
    exists_ db acps id f fo = some (!(backendSearch db vfr).isEmpty) := by
  unfold exists_
  simp [hr, hi]

/-- A Synch identity, and a user identity carrying `Synchronise` scope, get nothing from `search`,
`false` from `exists`, nothing from `search_ext`. -/
theorem sync_scope_reads_nothing (db : List DbEntry) (acps : List SearchAcp) (id : Identity)
    (f fo : FC) (req : Option (List Nat))
    (h : (∃ u, id.origin = .synch u) ∨ (∃ ue, id.origin = .user ue ∧ id.scope = .synchronise)) :
    (∀ res, search db acps id f fo = some res → res = []) ∧
    (∀ b, exists_ db acps id f fo = some b → b = false) ∧
    (∀ res, searchExt db acps id f fo req = some res → res = []) := by
  have hni : id.isInternal = false := by
    rcases h with ⟨u, hu⟩ | ⟨ue, hu, _⟩ <;> simp [Identity.isInternal, hu]
  refine ⟨fun res => search_of_sync h, ?_, ?_⟩
  · intro b hb
    rw [exists_iff_search_nonempty db acps id f fo hni, search_eq,
      filterEntries_of_sync id acps fo _ h] at hb
    exact (Option.some.inj hb).symm
  · intro res hres
    refine List.eq_nil_iff_forall_not_mem.mpr fun r hr => ?_
    obtain ⟨_, ents, e, _, _, hsr, he, _⟩ := searchExt_mem hres hr
    rw [search_of_sync h hsr] at he
    cases he

/-- System is granted every entry, MessageQueue none, AccountRequest exactly the entries of class
`account`, Migration exactly the entries whose classes (key-object classes aside) are all migration
classes — whatever the ACP set. -/
theorem internal_roles_table (scope : Scope) (related : List SearchResolved) (e : DbEntry) :
    applySearchAccess ⟨.internal .system, scope⟩ related e = .grant ∧
    applySearchAccess ⟨.internal .messageQueue, scope⟩ related e = .deny ∧
    applySearchAccess ⟨.internal .accountRequest, scope⟩ related e =
      (if e.classes.contains AccessSearch.accountRequestClass then .grant else .deny) ∧
    applySearchAccess ⟨.internal .migration, scope⟩ related e =
      (if validMigrationClass e then .grant else .deny) := by
  -- for an internal identity the three built-in modules reduce to `Ignore`
  refine ⟨rfl, rfl, ?_, ?_⟩
  · show Acc.finish (Acc.step ⟨false, false, []⟩
      (if e.classes.contains AccessSearch.accountRequestClass then .grant else .deny)) = _
    split <;> rfl
  · show Acc.finish (Acc.step ⟨false, false, []⟩
      (if validMigrationClass e then .grant else .deny)) = _
    split <;> rfl

/-- With the ignore-hidden wrapper every external event constructor puts around the filter
(`into_ignore_hidden`), no recycled or tombstoned entry is ever returned — by `search`, hence by
`search_ext` — to anyone, internal identities included. -/
theorem hidden_never_returned (db : List DbEntry) (acps : List SearchAcp) (id : Identity)
    (f fo : FC) (res : List DbEntry) (e : DbEntry)
    (h : search db acps id (AccessSearch.ignoreHidden f) fo = some res) (he : e ∈ res) :
    AccessSearch.clsRecycled ∉ e.classes ∧ AccessSearch.clsTombstone ∉ e.classes :=
  have ⟨ht, hr, _⟩ := (matches_ignoreHidden _ _ _ e f).mp (search_subset h he).2
  ⟨hr, ht⟩

/-- Recycle-bin searches (`into_recycled`) return recycled entries only. -/
theorem recycle_search_only_recycled (db : List DbEntry) (acps : List SearchAcp) (id : Identity)
    (f fo : FC) (res : List DbEntry) (e : DbEntry)
    (h : search db acps id (AccessSearch.recycledOnly f) fo = some res) (he : e ∈ res) :
    AccessSearch.clsRecycled ∈ e.classes :=
  ((matches_recycledOnly _ _ _ e f).mp (search_subset h he).2).1

/-- The same through `search_ext`: the entry behind every returned row is not hidden. -/
theorem searchExt_hidden_never_returned (db : List DbEntry) (acps : List SearchAcp) (id : Identity)
    (f fo : FC) (req : Option (List Nat)) (res : List DbEntry) (r : DbEntry)
    (h : searchExt db acps id (AccessSearch.ignoreHidden f) fo req = some res) (hr : r ∈ res) :
    ∃ e, e ∈ db ∧ e.uuid = r.uuid ∧
      AccessSearch.clsRecycled ∉ e.classes ∧ AccessSearch.clsTombstone ∉ e.classes := by
  obtain ⟨_, ents, e, _, _, hsr, he, rfl⟩ := searchExt_mem h hr
  exact ⟨e, (search_subset hsr he).1, rfl, hidden_never_returned db acps id f fo ents e hsr he⟩

/-- The built-in visibility rules release nothing beyond the public descriptive attributes the
property names for them (checked against the lists regenerated from `access/search.rs`). -/
theorem builtin_rules_release_bounded :
    (∀ a ∈ AccessSearch.oauth2Released,
        a ∈ [Attr.Class, Attr.DisplayName, Attr.Uuid, Attr.Name, Attr.OAuth2RsOriginLanding, Attr.Image]) ∧
    (∀ a ∈ AccessSearch.applicationReleased,
        a ∈ [Attr.Class, Attr.DisplayName, Attr.Uuid, Attr.Name, Attr.LinkedGroup]) ∧
    (∀ a ∈ AccessSearch.syncAccountReleased,
        a ∈ [Attr.Class, Attr.Uuid, Attr.SyncCredentialPortal]) := by
  decide

/-- The anonymous account gets nothing from the OAuth2 and application rules. -/
theorem anonymous_gets_no_builtin_visibility (id : Identity) (ue e : DbEntry)
    (ho : id.origin = .user ue) (ha : ue.uuid = AccessSearch.uuidAnonymous) :
    searchOauth2FilterEntry id e = .ignore ∧ searchApplicationsFilterEntry id e = .ignore := by
  unfold searchOauth2FilterEntry searchApplicationsFilterEntry
  rw [ho]
  simp [AccessSearch.oauth2ExcludesAnonymous, AccessSearch.applicationExcludesAnonymous, ha]

/-- The decisions `filter_entries` and the reduction take per result, as regenerated from the
source: Deny hides, Grant shows (internal roles only), Allow needs requested ⊆ allowed; the
reduction intersects with the request. -/
theorem generated_decisions :
    AccessSearch.filterEntriesDeny = false ∧ AccessSearch.filterEntriesGrant = true ∧
    (∀ req al, AccessSearch.filterEntriesAllow req al = true ↔ ∀ a ∈ req, a ∈ al) ∧
    (∀ rq al a, a ∈ AccessSearch.reduceAttrs (some rq) al ↔ a ∈ rq ∧ a ∈ al) ∧
    (∀ al, AccessSearch.reduceAttrs none al = al) := by
  refine ⟨rfl, rfl, ?_, ?_, ?_⟩
  · intro req al; exact subset_iff req al
  · intro rq al a; exact mem_inter rq al a
  · intro al; rfl

section Examples
/-- bytes of "person" / "group" -/
def exPerson : Val := .str [112, 101, 114, 115, 111, 110]
def exGroup : Val := .str [103, 114, 111, 117, 112]
/-- a user (uuid 9) who is a member of group 7 -/
def exUser : DbEntry := ⟨.num 9, Entry.ofList [(Attr.Uuid, [.num 9]), (Attr.MemberOf, [.num 7])]⟩
def exId : Identity := ⟨.user exUser, .readOnly⟩
/-- two persons (one managed by group 7), a recycled person and a group -/
def exDb : List DbEntry :=
  [⟨.num 1, Entry.ofList [(Attr.Class, [exPerson]), (Attr.Uuid, [.num 1]), (Attr.Name, [.str [97]]),
      (Attr.DisplayName, [.str [65]])]⟩,
   ⟨.num 2, Entry.ofList [(Attr.Class, [exPerson]), (Attr.Uuid, [.num 2]), (Attr.Name, [.str [98]]),
      (Attr.EntryManagedBy, [.num 7])]⟩,
   ⟨.num 3, Entry.ofList [(Attr.Class, [exPerson, AccessSearch.clsRecycled]), (Attr.Uuid, [.num 3]),
      (Attr.Name, [.str [99]])]⟩,
   ⟨.num 4, Entry.ofList [(Attr.Class, [exGroup]), (Attr.Uuid, [.num 4]), (Attr.Name, [.str [100]])]⟩]
/-- group 7 may read class+name of persons; entry managers may read displayname+uuid of what they manage -/
def exAcps : List SearchAcp :=
  [SearchAcp.ofRaw ⟨.group [.num 7], .scope (.eq Attr.Class exPerson)⟩ [Attr.Class, Attr.Name],
   SearchAcp.ofRaw ⟨.entryManager, .scope (.pres Attr.Class)⟩ [Attr.DisplayName, Attr.Uuid]]

def exShow (r : Option (List DbEntry)) : Option (List (Val × List Nat)) :=
  r.map (fun l => l.map (fun e =>
    (e.uuid, [Attr.Class, Attr.Uuid, Attr.Name, Attr.DisplayName, Attr.EntryManagedBy].filter
      (fun a => !(e.attrs a).isEmpty))))

/-- Two ACPs with different attribute sets apply; the recycled person is hidden; the group is not
readable through `class`; entry 2 additionally releases `uuid` through the entry-manager profile. -/
example : exShow (searchExt exDb exAcps exId (AccessSearch.ignoreHidden (.pres Attr.Class))
    (.pres Attr.Class) none) =
    some [(.num 1, [Attr.Class, Attr.Name]), (.num 2, [Attr.Class, Attr.Uuid, Attr.Name])] := by
  decide +kernel

/-- A filter on an attribute readable on some entries only (`uuid`: only where exId is the entry
manager) reveals just those entries. -/
example : exShow (searchExt exDb exAcps exId (AccessSearch.ignoreHidden (.pres Attr.Uuid))
    (.pres Attr.Uuid) none) = some [(.num 2, [Attr.Class, Attr.Uuid, Attr.Name])] := by
  decide +kernel

/-- Requested attributes intersect. -/
example : exShow (searchExt exDb exAcps exId (AccessSearch.ignoreHidden (.pres Attr.Class))
    (.pres Attr.Class) (some [Attr.Name, Attr.DisplayName])) =
    some [(.num 1, [Attr.Name]), (.num 2, [Attr.Name])] := by
  decide +kernel

example : exShow (searchExt exDb exAcps exId (AccessSearch.recycledOnly (.pres Attr.Name))
    (AccessSearch.recycledOnly (.pres Attr.Name)) none) = some [(.num 3, [Attr.Class, Attr.Name])] := by
  decide +kernel
example : exists_ exDb exAcps exId (AccessSearch.ignoreHidden (.eq Attr.Name (.str [100])))
    (.eq Attr.Name (.str [100])) = some false := by decide +kernel
example : exists_ exDb exAcps exId (AccessSearch.ignoreHidden (.eq Attr.Name (.str [98])))
    (.eq Attr.Name (.str [98])) = some true := by decide +kernel
example : exShow (search exDb exAcps ⟨.user exUser, .synchronise⟩
    (AccessSearch.ignoreHidden (.pres Attr.Class)) (.pres Attr.Class)) = some [] := by decide +kernel
end Examples

end Kanidm.Access
