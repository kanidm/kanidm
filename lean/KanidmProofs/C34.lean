import KanidmProofs.Lemmas.KeyObject
/-!
# C34 — Revoked keys never verify

The property theorems over `KanidmModel/KeyObject.lean` (a server = the stored key map of a key
object entry; its loaded key object is `loadObj` of that map, as `reload_key_material` makes it
after every commit, start-up and replication). Histories are lists of `Op` (write transactions
with any number of modifies carrying revoke / rotate actions at any times and cids, restarts,
incoming replication from an arbitrary partner state); sign / verify are observations.
-/
namespace Kanidm.KeyObject
open Kanidm.Gen.SessionOrd
open Kanidm.Gen.KeyObjectOps
open Kanidm.SessionMerge

/-! ## The generated tables say what the property needs -/

/-- `verify` / `decipher` hand a token to the stored verifier exactly for `Valid` and `Retained`
keys (the four token usages; `HkdfS256` has no verify entry point). -/
theorem verifyArm_spec (u : Usage) (hu : u ≠ .hkdfS256) (st : KeyStatus) :
    verifyArm u st = true ↔ st ≠ .revoked := by
  revert hu
  cases u <;> cases st <;> decide

/-- `load` puts exactly the `Valid` keys into `active` (all five usages). -/
theorem loadActivates_spec (u : Usage) (st : KeyStatus) :
    loadActivates u st = true ↔ st = .valid := by
  cases u <;> cases st <;> decide

/-- `new_active` creates `Valid` keys. -/
theorem newKeyStatus_spec (u : Usage) : newKeyStatus u = .valid := by
  cases u <;> rfl

/-- Both merges replace a record only by one of strictly higher status, `Revoked` highest. -/
theorem merge_order_spec (o n : KeyStatus) :
    (entryMergeReplace o n = true ↔ o.rank > n.rank) ∧ (keyReplace o n = true ↔ o.rank > n.rank) ∧
    (∀ s : KeyStatus, s.rank ≤ KeyStatus.revoked.rank) ∧
    (∀ s : KeyStatus, s.rank = KeyStatus.revoked.rank → s = .revoked) := by
  refine ⟨by simp [entryMergeReplace], by simp [keyReplace], ?_, ?_⟩
  · intro s; cases s <;> simp [KeyStatus.rank]
  · intro s; cases s <;> simp [KeyStatus.rank]

/-! ## A token is accepted iff its key is present with that usage and not revoked (four token usages) -/

theorem accepts_iff (s : Srv) (hs : KeysNodup s.map) (u : Usage) (k : Nat) :
    s.accepts u k = true ↔
      ∃ r, lookup s.map k = some r ∧ r.usage = u ∧ verifyArm u r.status = true := by
  unfold Srv.accepts Srv.loaded
  rw [verify_eq_recAt, recAt_loadObj s.map hs]
  cases lookup s.map k with
  | none => simp
  | some r =>
    by_cases hur : u = r.usage
    · subst hur; simp [Option.filter_some]
    · simp [Option.filter_some, hur, Ne.symm hur]

theorem accepts_iff_present_not_revoked (s : Srv) (hs : KeysNodup s.map) (u : Usage)
    (hu : u ≠ .hkdfS256) (k : Nat) : s.accepts u k = true ↔ Usable s.map u k :=
  (accepts_iff s hs u k).trans
    (exists_congr fun _ => and_congr_right fun _ => and_congr_right fun _ => verifyArm_spec u hu _)

example : (⟨[.jwsEs256], [(7, ⟨.jwsEs256, 0, .valid, 3⟩), (9, ⟨.jwsEs256, 5, .revoked, 4⟩)], 4⟩ : Srv).accepts .jwsEs256 7 = true
    ∧ (⟨[.jwsEs256], [(7, ⟨.jwsEs256, 0, .valid, 3⟩), (9, ⟨.jwsEs256, 5, .revoked, 4⟩)], 4⟩ : Srv).accepts .jwsEs256 9 = false := by
  decide +kernel

theorem dead_not_accepted (s : Srv) (hs : KeysNodup s.map) (u : Usage) (k : Nat)
    (hd : Dead s.map k) : s.accepts u k = false := by
  refine Bool.eq_false_iff.2 fun h => ?_
  obtain ⟨r, hr, _, hv⟩ := (accepts_iff s hs u k).1 h
  rw [dead_iff.1 hd r hr] at hv
  revert hv
  cases u <;> decide

/-! ## New signatures use the newest valid key that has started -/

/-- New signatures / encryptions / derivations at time `t` use a `Valid` key of that usage whose
`valid_from ≤ t` and is the greatest such; there is none iff no `Valid` key has started. Hence
`Retained` and `Revoked` keys never sign. No distinctness hypothesis on `valid_from` (H2) is
needed: the loaded object is rebuilt from the stored map. -/
theorem signer_is_newest_valid_started (s : Srv) (hs : KeysNodup s.map) (u : Usage) (t : Nat) :
    (∀ k, s.sign u t = some k →
      ∃ r, lookup s.map k = some r ∧ r.usage = u ∧ r.status = .valid ∧ r.validFrom ≤ t ∧
        ∀ k' r', lookup s.map k' = some r' → r'.usage = u → r'.status = .valid →
          r'.validFrom ≤ t → r'.validFrom ≤ r.validFrom) ∧
    (s.sign u t = none ↔
      ¬ ∃ k r, lookup s.map k = some r ∧ r.usage = u ∧ r.status = .valid ∧ r.validFrom ≤ t) := by
  have hinv := actInv_loadObj s.map hs u
  have hsg : s.sign u t = (pickSigner (activeOf (loadObj s.map) u) t).map (·.2) :=
    sign_eq_activeOf _ u t
  rw [hsg]
  cases hp : pickSigner (activeOf (loadObj s.map) u) t with
  | none =>
    refine ⟨fun k hk => (by cases hk), fun _ ⟨k, r, hr, hu, hst, ht⟩ => ?_, fun _ => rfl⟩
    obtain ⟨kid', hk'⟩ := hinv.complete k r hr hu ((loadActivates_spec u r.status).2 hst)
    exact pickSigner_none hp _ _ hk' ht
  | some e =>
    obtain ⟨h1, h2, h3⟩ := pickSigner_some (activeOf_nodup (wf_loadObj s.map) u) hp
    obtain ⟨r, hr, hu, ha, hv⟩ := hinv.sound e.1 e.2 h1
    have hst := (loadActivates_spec u r.status).1 ha
    refine ⟨fun k hk => ?_, fun h => (by cases h),
      fun hno => absurd ⟨e.2, r, hr, hu, hst, by omega⟩ hno⟩
    cases hk
    refine ⟨r, hr, hu, hst, by omega, fun k' r' hr' hu' hs' ht' => ?_⟩
    obtain ⟨kid', hk'⟩ := hinv.complete k' r' hr' hu' ((loadActivates_spec u r'.status).2 hs')
    have := h3 _ _ hk' ht'
    omega

example : (⟨[.jwsEs256], [(7, ⟨.jwsEs256, 0, .valid, 3⟩), (8, ⟨.jwsEs256, 5, .valid, 4⟩),
      (9, ⟨.jwsEs256, 5, .revoked, 4⟩), (6, ⟨.jwsEs256, 9, .retained, 4⟩)], 4⟩ : Srv).sign .jwsEs256 10 = some 8 := by
  decide +kernel

/-! ## A requested revocation takes effect -/

/-- Any modify of a transaction that names a key the loaded object holds leaves it `Revoked`,
whatever the modifies before it left in the entry. -/
theorem modify_revokes (m0 mi m' : KMap) (h0 : KeysNodup m0) (hi : KeysNodup mi)
    (classes : List Usage) (a : Action) (now cid trim : Nat) (f : Fresh) (k : Nat) (r : KRec)
    (hk : lookup m0 k = some r) (hc : CanRevoke a k) (hf : NotFresh f k)
    (hm : modifyEntry (loadObj m0) classes mi a now cid trim f = some m') : Revoked m' k := by
  rw [Revoked, (modifyEntry_lookup m0 mi m' h0 hi classes a now cid trim f hm).2 k hf]
  exact pickOpt_revoked entryRepl_spec
    (Or.inr (revokedIf_revoked ⟨r, hk, Or.inl ((names_iff a k).2 hc)⟩))

/-- The first modify of a transaction, if it names a present key in `KeyActionRevoke` and succeeds,
leaves it `Revoked` in the stored entry (whatever else the modify rotates or asserts). -/
theorem revoke_takes_effect (s : Srv) (hs : KeysNodup s.map) (k : Nat) (r : KRec)
    (hk : lookup s.map k = some r) (a : Action) (f : Fresh) (ks : List Nat)
    (ha : a.revoke = some ks) (hmem : k ∈ ks) (hf : NotFresh f k) (now cid trim : Nat) (m' : KMap)
    (hm : modifyEntry s.loaded s.classes s.map a now cid trim f = some m') : Revoked m' k :=
  modify_revokes s.map s.map m' hs hs s.classes a now cid trim f k r hk ⟨ks, ha, hmem⟩ hf hm

/-! ## Revocation is final -/

/-- A write transaction (any revoke / rotate actions, any times) keeps a revoked key
revoked — also when `invalidate` trimmed it from the entry: the plugin re-adds it from the
loaded object. -/
theorem txn_keeps_revoked (s : Srv) (hs : KeysNodup s.map) (k : Nat) (hr : Revoked s.map k)
    (acts : List (Action × Fresh)) (now cid trim : Nat)
    (hf : ∀ af ∈ acts, NotFresh af.2 k) :
    KeysNodup (s.txn acts now cid trim).map ∧ Revoked (s.txn acts now cid trim).map k :=
  txn_key_inv (fun x => ∃ r, x = some r ∧ r.status = .revoked) (fun _ => True) s hs k acts now cid
    trim (fun af h => ⟨hf af h, trivial⟩)
    -- whatever is left of the entry, the staged object lists `k` revoked and the merge keeps that
    (fun _ _ _ _ => pickOpt_revoked entryRepl_spec
      (Or.inr (revokedIf_revoked (hr.imp fun _ h => ⟨h.1, Or.inr h.2⟩)))) hr

/-- A write transaction never brings back an absent key id (key generation is fresh). -/
theorem txn_keeps_absent (s : Srv) (hs : KeysNodup s.map) (k : Nat) (hn : lookup s.map k = none)
    (acts : List (Action × Fresh)) (now cid trim : Nat)
    (hf : ∀ af ∈ acts, NotFresh af.2 k) :
    KeysNodup (s.txn acts now cid trim).map ∧ lookup (s.txn acts now cid trim).map k = none :=
  txn_key_inv (· = none) (fun _ => True) s hs k acts now cid trim (fun af h => ⟨hf af h, trivial⟩)
    (fun _ x _ hx => by rw [hx, hn, revokedIf_none]; rfl) hn

/-- `merge_state` takes either side as newer. -/
theorem replIn_map (c sup : Srv) (trim : Nat) :
    (c.replIn sup trim).map = replMergeMap sup.map c.map trim ∨
      (c.replIn sup trim).map = replMergeMap c.map sup.map trim := by
  unfold Srv.replIn
  cases takeLeft sup.attrCid c.attrCid
  · exact Or.inr rfl
  · exact Or.inl rfl

/-- What incoming replication leaves under one key: `z` is the record that survives the merge of
the server's and the partner's, a revoked one if there is one; the trim may then drop it. -/
structure ReplKey (c sup : Srv) (trim k : Nat) (z : Option KRec) : Prop where
  nodup : KeysNodup (c.replIn sup trim).map
  eq : lookup (c.replIn sup trim).map k = z.filter (keepRec trim)
  mem : z = lookup c.map k ∨ z = lookup sup.map k
  absent : z = none → lookup c.map k = none ∧ lookup sup.map k = none
  revoked : Revoked c.map k ∨ Revoked sup.map k → ∃ r, z = some r ∧ r.status = .revoked

theorem replIn_lookup (c sup : Srv) (hc : KeysNodup c.map) (hsup : KeysNodup sup.map)
    (trim k : Nat) : ∃ z, ReplKey c sup trim k z := by
  rcases replIn_map c sup trim with e | e
  · -- the partner is taken as newer
    exact ⟨_, e ▸ (replMergeMap_lookup _ _ hsup hc trim k).1,
      e ▸ (replMergeMap_lookup _ _ hsup hc trim k).2, (pickOpt_mem _ _ _).symm,
      fun h => (pickOpt_eq_none.1 h).symm, fun h => pickOpt_revoked replRepl_spec h.symm⟩
  · -- the server is
    exact ⟨_, e ▸ (replMergeMap_lookup _ _ hc hsup trim k).1,
      e ▸ (replMergeMap_lookup _ _ hc hsup trim k).2, pickOpt_mem _ _ _, pickOpt_eq_none.1,
      pickOpt_revoked replRepl_spec⟩

/-- Incoming replication: a key revoked on either side is revoked or (only past the trim window)
absent afterwards — whatever else the partner's state is. -/
theorem replIn_revoked_absorbing (c sup : Srv) (hc : KeysNodup c.map) (hsup : KeysNodup sup.map)
    (trim k : Nat) (h : Revoked c.map k ∨ Revoked sup.map k) :
    KeysNodup (c.replIn sup trim).map ∧ Dead (c.replIn sup trim).map k := by
  obtain ⟨z, hz⟩ := replIn_lookup c sup hc hsup trim k
  obtain ⟨r, rfl, hr⟩ := hz.revoked h
  refine ⟨hz.nodup, dead_iff.2 fun r' hr' => ?_⟩
  cases Option.eq_some_of_filter_eq_some (hz.eq ▸ hr')
  exact hr

theorem replIn_keeps_dead (c sup : Srv) (hc : KeysNodup c.map) (hsup : KeysNodup sup.map)
    (trim k : Nat) (h1 : Dead c.map k) (h2 : Dead sup.map k) :
    KeysNodup (c.replIn sup trim).map ∧ Dead (c.replIn sup trim).map k := by
  obtain ⟨z, hz⟩ := replIn_lookup c sup hc hsup trim k
  refine ⟨hz.nodup, dead_iff.2 fun r hr => ?_⟩
  have hr := Option.eq_some_of_filter_eq_some (hz.eq ▸ hr)
  rcases hz.mem with e | e
  · exact dead_iff.1 h1 r (e ▸ hr)  -- the server's record survives
  · exact dead_iff.1 h2 r (e ▸ hr)  -- the partner's

theorem revoked_final_step (s : Srv) (hs : KeysNodup s.map) (k : Nat) (hr : Revoked s.map k)
    (op : Op) (hop : OpFresh k op) :
    KeysNodup (s.step op).map ∧ Dead (s.step op).map k := by
  cases op with
  | txn acts now cid trim =>
    obtain ⟨h1, h2⟩ := txn_keeps_revoked s hs k hr acts now cid trim hop
    exact ⟨h1, Or.inr h2⟩
  | restart => exact ⟨hs, Or.inr hr⟩
  | replIn sup trim => exact replIn_revoked_absorbing s sup hs hop trim k (Or.inl hr)

/-- **Revoked keys never verify.** Once a key is revoked (or gone) on a server, no history of
transactions (revocations, rotations at any time, several per transaction), restarts and
replication from partners on which the key is absent or revoked makes any token made with it
acceptable again, for any usage. -/
theorem revoked_never_verifies (s : Srv) (hs : KeysNodup s.map) (k : Nat) (hd : Dead s.map k)
    (ops : List Op) (hops : ∀ op ∈ ops, OpDead k op) :
    KeysNodup (s.run ops).map ∧ Dead (s.run ops).map k ∧ ∀ u, (s.run ops).accepts u k = false := by
  have h := ops.foldlRecOn Srv.step (motive := fun s => KeysNodup s.map ∧ Dead s.map k) ⟨hs, hd⟩ ?_
  · exact ⟨h.1, h.2, fun u => dead_not_accepted _ h.1 u k h.2⟩
  intro s ⟨hs, hd⟩ op hmem
  have hop := hops op hmem
  cases op with
  | txn acts now cid trim =>
    rcases hd with hn | hr
    · obtain ⟨h1, h2⟩ := txn_keeps_absent s hs k hn acts now cid trim hop
      exact ⟨h1, Or.inl h2⟩
    · obtain ⟨h1, h2⟩ := txn_keeps_revoked s hs k hr acts now cid trim hop
      exact ⟨h1, Or.inr h2⟩
  | restart => exact ⟨hs, hd⟩
  | replIn sup trim => exact replIn_keeps_dead s sup hs hop.1 trim k hd hop.2

example : Revoked [(7, ⟨.jwsEs256, 0, .valid, 3⟩), (9, (⟨.jwsEs256, 5, .revoked, 4⟩ : KRec))] 9 :=
  ⟨_, rfl, rfl⟩

/-! ## Rotation keeps older keys usable -/

/-- `invalidate` trims only `Revoked` records, and the staged object lists `k` as found. -/
theorem txn_keeps_usable (s : Srv) (hs : KeysNodup s.map) (u : Usage) (k : Nat)
    (hu : Usable s.map u k) (acts : List (Action × Fresh)) (now cid trim : Nat)
    (hf : ∀ af ∈ acts, NotFresh af.2 k ∧ ¬ CanRevoke af.1 k) :
    KeysNodup (s.txn acts now cid trim).map ∧ Usable (s.txn acts now cid trim).map u k := by
  refine txn_key_inv (fun x => ∃ r, x = some r ∧ r.usage = u ∧ r.status ≠ .revoked)
    (fun a => ¬ CanRevoke a k) s hs k acts now cid trim hf ?_ hu
  rintro a x hq ⟨ri, rfl, hui, hni⟩
  obtain ⟨r0, hr0, hu0, hn0⟩ := hu
  rw [revokedIf_names_of_not hq, hr0]
  simp only [Option.filter, keepRec_of_not_revoked trim ri hni, if_true, pickOpt, Option.merge_some_some]
  rcases pick_cases entryRepl ri r0 with e | e <;> rw [e]
  · exact ⟨ri, rfl, hui, hni⟩  -- the entry's record is kept
  · exact ⟨r0, rfl, hu0, hn0⟩  -- the staged one replaces it

/-- A key that is present and not revoked stays so — hence its tokens stay acceptable — through
any history in which nobody revokes it: rotations at any times (also several in the same
second), revocations of *other* keys, restarts, trims, replication with partners that
do not have it revoked. -/
theorem rotation_keeps_unrevoked_verifiable (s : Srv) (hs : KeysNodup s.map) (u : Usage)
    (k : Nat) (hu : Usable s.map u k) (ops : List Op) (hops : ∀ op ∈ ops, OpKeeps u k op) :
    KeysNodup (s.run ops).map ∧ Usable (s.run ops).map u k ∧
      (u ≠ .hkdfS256 → (s.run ops).accepts u k = true) := by
  have h := ops.foldlRecOn Srv.step (motive := fun s => KeysNodup s.map ∧ Usable s.map u k) ⟨hs, hu⟩ ?_
  · exact ⟨h.1, h.2, fun hne => (accepts_iff_present_not_revoked _ h.1 u hne k).2 h.2⟩
  intro s ⟨hs, hu⟩ op hmem
  have hop := hops op hmem
  cases op with
  | restart => exact ⟨hs, hu⟩
  | txn acts now cid trim => exact txn_keeps_usable s hs u k hu acts now cid trim hop
  | replIn sup trim =>
    obtain ⟨hsup, hnr, hus⟩ := hop
    obtain ⟨r0, hr0, hu0, hn0⟩ := hu
    obtain ⟨z, hz⟩ := replIn_lookup s sup hs hsup trim k
    refine ⟨hz.nodup, ?_⟩
    simp only [Srv.step, Usable, hz.eq]
    cases hz' : z with
    | none => rw [(hz.absent hz').1] at hr0; cases hr0
    | some r =>
      -- the surviving record is the server's or the partner's; neither is revoked, so it is kept
      have hr : r.usage = u ∧ r.status ≠ .revoked := by
        rcases hz.mem with e | e
        · cases hr0.symm.trans (e.symm.trans hz'); exact ⟨hu0, hn0⟩  -- the server's
        · exact ⟨hus r (e ▸ hz'), fun hc => hnr ⟨r, e ▸ hz', hc⟩⟩  -- the partner's
      exact ⟨r, by rw [Option.filter_some, keepRec_of_not_revoked trim r hr.2]; rfl, hr⟩

example : Usable [(7, ⟨.jwsEs256, 0, .valid, 3⟩), (9, (⟨.jwsEs256, 5, .revoked, 4⟩ : KRec))] .jwsEs256 7 :=
  ⟨_, rfl, rfl, by simp⟩

/-! ## Propagation between replicas -/

/-- The attribute is offered exactly when the consumer lacks the change that *stamped* it:
the consumer's knowledge of the stamp's origin server is older than the stamp. After a merge the
stamp is the greater of the two cids (`merge_state`), whichever side the content came from. -/
theorem offered_iff (sup c : Node) :
    offered sup c = true ↔
      c.seenOf (cidOrigin sup.srv.attrCid) < cidTs sup.srv.attrCid ∧
      cidTs sup.srv.attrCid ≤ sup.seenOf (cidOrigin sup.srv.attrCid) := by
  unfold offered attrWithin
  by_cases h : c.seenOf (cidOrigin sup.srv.attrCid) < sup.seenOf (cidOrigin sup.srv.attrCid)
  · simp only [h, if_true, Bool.and_eq_true, decide_eq_true_eq]
    constructor
    · rintro ⟨h1, h2⟩; exact ⟨h2, h1⟩
    · rintro ⟨h1, h2⟩; exact ⟨h2, h1⟩
  · simp only [h, if_false]
    constructor
    · intro hh; cases hh
    · rintro ⟨h1, h2⟩; omega

theorem pull_srv_of_offered (c sup : Node) (trim : Nat) (hoff : offered sup c = true) :
    (c.pull sup sup.srv.map trim).srv = c.srv.replIn sup.srv trim := by
  unfold Node.pull
  simp only [hoff, if_true]

/-- When the supplier offers the attribute, a key it has revoked is revoked or (past the trim
window) absent on the consumer afterwards. -/
theorem revocation_propagates_when_offered (c sup : Node) (hc : KeysNodup c.srv.map)
    (hs : KeysNodup sup.srv.map) (trim k : Nat) (hoff : offered sup c = true)
    (hr : Revoked sup.srv.map k) : Dead (c.pull sup sup.srv.map trim).srv.map k := by
  rw [pull_srv_of_offered c sup trim hoff]
  exact (replIn_revoked_absorbing c.srv sup.srv hc hs trim k (Or.inr hr)).2

theorem not_offered_unchanged (c sup : Node) (supMap : KMap) (trim : Nat)
    (h : offered sup c = false) : (c.pull sup supMap trim).srv = c.srv := by
  unfold Node.pull
  simp [h]

/-- A revocation that did arrive is final on the consumer too: after an offered pull from a
partner that has the key revoked, no later history (partners on which the key is dead) makes a
token of that key acceptable. -/
theorem propagated_revocation_is_final (c sup : Node) (hc : KeysNodup c.srv.map)
    (hs : KeysNodup sup.srv.map) (trim k : Nat) (hoff : offered sup c = true)
    (hr : Revoked sup.srv.map k) (ops : List Op) (hops : ∀ op ∈ ops, OpDead k op) (u : Usage) :
    ((c.pull sup sup.srv.map trim).srv.run ops).accepts u k = false := by
  have hd := revocation_propagates_when_offered c sup hc hs trim k hoff hr
  have hn : KeysNodup (c.pull sup sup.srv.map trim).srv.map := by
    rw [pull_srv_of_offered c sup trim hoff]
    exact (replIn_revoked_absorbing c.srv sup.srv hc hs trim k (Or.inr hr)).1
  exact (revoked_never_verifies _ hn k hd ops hops).2.2 u

/-- The full reading of "…including after the key set is replicated": in every reachable state of
two replicas, when `b` pulls from `a` and `a` has the key revoked, `b` has it revoked or absent. -/
def revocation_propagates_full : Prop :=
  ∀ (classes : List Usage) (m : KMap) (cid : Nat) (ops : List NetOp) (trim k : Nat),
    Revoked (netRun (netInit classes m cid) ops).1.srv.map k →
    Dead ((netRun (netInit classes m cid) ops).2.pull (netRun (netInit classes m cid) ops).1
      (netRun (netInit classes m cid) ops).1.srv.map trim).srv.map k

/-- It is false of the code (replayed on the real servers, class
`lost-revocation:merged-attr-keeps-later-cid`): `a` revokes key 11 (cid of `a`); `b`, not having
pulled, rotates later (cid of `b`); `a` pulls from `b` — the merged attribute on `a` holds the
revocation but is stamped with `b`'s later cid; `b` pulls from `a` — the attribute is not offered
(`b` has its own change), so `b` keeps key 11 `Valid`. -/
theorem revocation_propagates_full_false : ¬ revocation_propagates_full := by
  intro h
  refine Usable.not_dead (u := .jwsEs256) ⟨⟨.jwsEs256, 0, .valid, 5⟩, by decide +kernel, rfl, by decide⟩
    (h [.jwsEs256] [(11, ⟨.jwsEs256, 0, .valid, 5⟩)] 5
      [ .txnA [({ revoke := some [11] }, fun _ _ => 12)] 10 41 0,
        .txnB [({ rotate := some 11 }, fun _ _ => 13)] 11 46 0,
        .pullA 0 ] 0 11 ⟨⟨.jwsEs256, 0, .revoked, 41⟩, by decide +kernel, rfl⟩)

end Kanidm.KeyObject
