import KanidmProofs.Lemmas.Validity
import KanidmModel.Bearer
import KanidmModel.AuthSession
/-!
# C49 — Accounts outside their validity window cannot authenticate anywhere

Property theorems only (helpers: `Lemmas/Validity.lean`). The two gate functions and the surface
table (`Kanidm.Gen.Validity.rows`: which function contains which gate, reading which entry, and
through which gated functions its successes flow) are regenerated from the source on every run; the
right-hand sides below (`InWindow`, `StrictlyInWindow`) are written from the property text.

Every entry point is gated, `token_auth_ldap` included: it runs the identity builder of the token kind,
which checks the account's window (D41 is a token bind answered from the token's own signature and
expiry alone; its witness is a regression case of the harness).
-/
namespace Kanidm.Validity
open Kanidm.Gen.Validity

/-- `Account::check_within_valid_time` accepts exactly `valid_from ≤ ct ≤ expire` (absent = unbounded). -/
theorem account_gate_is_spec (w : Window) (ct : Nat) :
    accountGate w ct = true ↔
      (∀ v, w.vf = some v → v ≤ ct) ∧ (∀ e, w.ex = some e → ct ≤ e) :=
  accountGate_iff w ct

example : accountGate ⟨some 10, some 20⟩ 10 = true ∧ accountGate ⟨some 10, some 20⟩ 20 = true ∧
    accountGate ⟨some 10, some 20⟩ 9 = false ∧ accountGate ⟨some 10, some 20⟩ 21 = false ∧
    accountGate ⟨none, none⟩ 0 = true := by decide +kernel

/-- `RadiusAccount::is_within_valid_time` accepts exactly `valid_from < ct < expire`. -/
theorem radius_gate_is_spec (w : Window) (ct : Nat) :
    radiusGate w ct = true ↔
      (∀ v, w.vf = some v → v < ct) ∧ (∀ e, w.ex = some e → ct < e) :=
  radiusGate_iff w ct

example : radiusGate ⟨some 10, some 20⟩ 10 = false ∧ radiusGate ⟨some 10, some 20⟩ 20 = false ∧
    radiusGate ⟨some 10, some 20⟩ 11 = true ∧ radiusGate ⟨some 10, some 20⟩ 19 = true := by decide +kernel

/-- Either gate refuses every instant before valid-from and every instant after expiry. -/
theorem gates_refuse_outside (g : GateKind) (w : Window) (ct : Nat)
    (hout : (∃ v, w.vf = some v ∧ ct < v) ∨ (∃ e, w.ex = some e ∧ e < ct)) :
    gateOf g w ct = false :=
  Bool.eq_false_iff.mpr fun hg => not_inWindow_of_outside hout (gateOf_inWindow g w ct hg)

example : gateOf .radius ⟨none, some 10⟩ 11 = false ∧ gateOf .account ⟨some 12, none⟩ 11 = false := by
  decide +kernel

/-- The bearer-token model (C32) uses the same gate function: `Kanidm.Bearer.outside_window_rejected`
speaks about this window test. -/
theorem gate_agrees_with_bearer_model (acc : Kanidm.Bearer.Account) (ct : Nat) :
    Kanidm.Bearer.withinWindow acc ct = accountGate ⟨acc.validFrom, acc.expire⟩ ct :=
  -- both are the optional-bounds test with `≤`: the generated definitions of either model unfold to it
  Bool.eq_iff_iff.mpr ((optBounds_iff acc.validFrom acc.expire ct).trans (accountGate_iff ⟨_, _⟩ ct).symm)

/-- So does the login-session model (C27): `Kanidm.AuthSession.outside_validity_never_succeeds`. -/
theorem gate_agrees_with_login_model (a : Kanidm.AuthSession.Acct) (ct : Nat) :
    Kanidm.AuthSession.withinValidTime a ct = accountGate ⟨a.validFrom, a.expire⟩ ct :=
  Bool.eq_iff_iff.mpr ((optBounds_iff a.validFrom a.expire ct).trans (accountGate_iff ⟨_, _⟩ ct).symm)

/-- Every gate in the table judges the *stored* entry, never the access-reduced one (D3 is
`to_radiusauthtoken` reading the reduced entry). -/
theorem gate_sees_stored_validity : ∀ r ∈ rows, r.gate.isSome = true → r.view = .stored := by
  decide +kernel

/-- Why the view matters: a gate applied to the reduced entry of an identity that may read neither
attribute lets an expired account through. -/
theorem reduced_view_is_unsound :
    ∃ (g : GateKind) (a : Acl) (w : Window) (ct : Nat),
      gateOf g (viewOf .reduced a w) ct = true ∧ ¬ InWindow w ct :=
  ⟨.radius, ⟨false, false⟩, ⟨none, some 10⟩, 250, by decide, by decide⟩

/-- Every row a call refers to exists (the walk never falls off the table). -/
theorem table_closed : ∀ r ∈ rows, ∀ c ∈ r.calls, (rowOf c).isSome = true := by
  decide +kernel

/-- Every public entry point that authenticates an account or releases a credential contains the
validity gate or reaches success only through functions that do. -/
theorem every_entry_point_gated : ∀ s ∈ entryPoints, gated depth s = true := by
  decide +kernel

example : Sid.get_radiusauthtoken ∈ entryPoints ∧ Sid.oauth2_token_exchange ∈ entryPoints ∧
    Sid.auth ∈ entryPoints ∧ entryPoints.length = 26 := by decide +kernel

/-- **C49.** A success at any entry point implies the stored window contains the request time — for
every asking identity and every state of the other preconditions. -/
theorem success_implies_in_window (s : Sid) (hs : s ∈ entryPoints)
    (a : Acl) (w : Window) (ct : Nat) (pre : Bool) (hok : attempt s a w ct pre = .ok) :
    (∀ v, w.vf = some v → v ≤ ct) ∧ (∀ e, w.ex = some e → ct ≤ e) := by
  unfold attempt at hok
  by_cases hp : (pre && passes depth s a w ct) = true
  · simp only [Bool.and_eq_true] at hp
    exact passes_sound depth s (every_entry_point_gated s hs) depth a w ct hp.2
  · simp [hp] at hok

/-- **C49, as a refusal.** Before valid-from or after expiry every entry point refuses — whoever asks. -/
theorem outside_window_refused (s : Sid) (hs : s ∈ entryPoints)
    (a : Acl) (w : Window) (ct : Nat) (pre : Bool)
    (hout : (∃ v, w.vf = some v ∧ ct < v) ∨ (∃ e, w.ex = some e ∧ e < ct)) :
    attempt s a w ct pre = .refused := by
  cases h : attempt s a w ct pre with
  | refused => rfl
  | ok => exact absurd (success_implies_in_window s hs a w ct pre h) (not_inWindow_of_outside hout)

example : attempt .get_radiusauthtoken ⟨false, false⟩ ⟨none, some 10⟩ 250 true = .refused ∧
    attempt .get_radiusauthtoken ⟨false, false⟩ ⟨none, some 300⟩ 250 true = .ok ∧
    attempt .oauth2_token_exchange ⟨true, true⟩ ⟨some 5, some 10⟩ 11 true = .refused ∧
    attempt .oauth2_token_exchange ⟨true, true⟩ ⟨some 5, some 10⟩ 10 true = .ok ∧
    attempt .auth ⟨true, true⟩ ⟨some 5, none⟩ 4 true = .refused ∧
    attempt .auth ⟨true, true⟩ ⟨some 5, none⟩ 5 true = .ok ∧
    attempt .token_auth_ldap ⟨true, true⟩ ⟨none, some 10⟩ 11 true = .refused ∧
    attempt .token_auth_ldap ⟨true, true⟩ ⟨none, some 10⟩ 10 true = .ok := by decide +kernel

/-- **Whatever identity asks.** The read rights of the asking identity enter no decision. -/
theorem asking_identity_irrelevant (s : Sid) (a a' : Acl) (w : Window) (ct : Nat) (pre : Bool) :
    attempt s a w ct pre = attempt s a' w ct pre := by
  unfold attempt
  rw [passes_eq_walk gate_sees_stored_validity a, passes_eq_walk gate_sees_stored_validity a']

/-- The RADIUS secret is released only strictly inside the window (the gate of `radius.rs`). -/
theorem radius_release_strict (a : Acl) (w : Window) (ct : Nat) (pre : Bool)
    (hok : attempt .get_radiusauthtoken a w ct pre = .ok) :
    (∀ v, w.vf = some v → v < ct) ∧ (∀ e, w.ex = some e → ct < e) := by
  -- on the table: `get_radiusauthtoken` has no gate of its own and forwards to `to_radiusauthtoken`,
  -- which holds the radius gate
  have hr : ∀ ga gr, walk ga gr depth .get_radiusauthtoken = gr := by decide +kernel
  unfold attempt at hok
  by_cases h : (pre && passes depth .get_radiusauthtoken a w ct) = true
  · rw [passes_eq_walk gate_sees_stored_validity, hr, Bool.and_eq_true] at h
    exact (radius_gate_is_spec w ct).mp h.2
  · simp [h] at hok

/-- Strictly inside the window (so that the RADIUS gate agrees) the gates refuse nothing: an `ok`
is then decided by the other preconditions alone, whoever asks. -/
theorem strictly_inside_gate_transparent (s : Sid) (hs : s ∈ entryPoints) (a : Acl) (w : Window)
    (ct : Nat) (pre : Bool) (hw : StrictlyInWindow w ct) :
    attempt s a w ct pre = (if pre then .ok else .refused) := by
  have h0 : ∀ s ∈ entryPoints, walk true true depth s = true := by decide +kernel
  unfold attempt
  rw [passes_eq_walk gate_sees_stored_validity, (accountGate_iff w ct).mpr (strict_imp w ct hw),
    (radiusGate_iff w ct).mpr hw, h0 s hs]
  cases pre <;> rfl

/-- The unbounded window, at any time: non-vacuity of the refusals above. -/
theorem inside_window_gate_transparent (s : Sid) (hs : s ∈ entryPoints) (a : Acl) (ct : Nat)
    (pre : Bool) : attempt s a ⟨none, none⟩ ct pre = (if pre then .ok else .refused) :=
  strictly_inside_gate_transparent s hs a _ ct pre ⟨nofun, nofun⟩

end Kanidm.Validity
