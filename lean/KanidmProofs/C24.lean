import KanidmProofs.Lemmas.AccessWrite
/-
C24 — Writes need matching grants; protected objects stay protected.

All theorems are about the definitions of `KanidmModel/Access/Write.lean` that the driver `km_c24`
executes, instantiated at the tables `Kanidm.Gen.Access.*` regenerated from the Rust source on
every run. They hold for every identity, every list of profiles, every entry, every sync
agreement map and every modification list.

`specProtected` below is written by hand from the property statement ("protected classes") and the
documentation of `access/protected.rs`. The theorems about adding, removing, creating and deleting
protected classes speak about it, not about the generated tables — a class dropped from one of
those tables in the source makes `spec_subset_*` (and with it these theorems) fail to build.
`protected_entry_constrained` is stated over the generated modify gate and constraint table, and
`tombstone_locked` uses the membership of `tombstone` in the generated gate and locked tables.
-/
namespace Kanidm.Access.Write
open Kanidm.Filter
open Kanidm.Gen.Access

/-- The protected classes of the property statement. -/
def specProtected : List Nat :=
  [C.System, C.DomainInfo, C.SystemInfo, C.SystemConfig, C.DynGroup, C.SyncObject, C.Tombstone,
   C.Recycled]

theorem spec_subset_strip_pres : ∀ c, c ∈ specProtected → c ∈ modifyStripPres := by decide
theorem spec_subset_strip_rem : ∀ c, c ∈ specProtected → c ≠ C.Recycled → c ∈ modifyStripRem := by
  decide
theorem spec_subset_create_gate : ∀ c, c ∈ specProtected → c ∈ createGateClasses := by decide
theorem spec_subset_delete_gate : ∀ c, c ∈ specProtected → c ∈ deleteGateClasses := by decide
/-- A check of the regenerated table on its own: `recycled` is not a locked class (a recycled entry
can still be modified, which is how `revive` removes the class). -/
theorem recycled_not_locked : C.Recycled ∉ lockedEntryClasses := by decide

/-- The attribute a modification adds values to (`Present`, `Set`). -/
def Mod.addsAttr : Mod → Option Nat
  | .present a _ | .set a _ => some a
  | _ => none

/-- The attribute a modification removes values from (`Removed`, `Purged`, `Set`). -/
def Mod.removesAttr : Mod → Option Nat
  | .removed a _ | .purged a | .set a _ => some a
  | _ => none

def AddsClass (e : Ent) (ml : List Mod) (c : Nat) : Prop :=
  Mod.present A.Class c ∈ ml ∨
    ∃ vs, Mod.set A.Class vs ∈ ml ∧ c ∈ vs ∧ ∀ cur, e.classes = some cur → c ∉ cur

def RemovesClass (e : Ent) (ml : List Mod) (c : Nat) : Prop :=
  Mod.removed A.Class c ∈ ml ∨
    ∃ vs, Mod.set A.Class vs ∈ ml ∧ c ∉ vs ∧ ∃ cur, e.classes = some cur ∧ c ∈ cur

theorem addsAttr_mem_requestedPres {ml : List Mod} {m : Mod} {a : Nat} (hm : m ∈ ml)
    (ha : m.addsAttr = some a) : a ∈ requestedPres ml := by
  unfold requestedPres
  rw [List.mem_filterMap]
  refine ⟨m, hm, ?_⟩
  cases m <;> simp_all [Mod.addsAttr]

theorem removesAttr_mem_requestedRem {ml : List Mod} {m : Mod} {a : Nat} (hm : m ∈ ml)
    (ha : m.removesAttr = some a) : a ∈ requestedRem ml := by
  unfold requestedRem
  rw [List.mem_filterMap]
  refine ⟨m, hm, ?_⟩
  cases m <;> simp_all [Mod.removesAttr]

def Mod.addedClasses (e : Ent) : Mod → List Nat
  | .present a v => if a == A.Class then [v] else []
  | .set a vs => if a == A.Class then minus vs (e.classes.getD []) else []
  | _ => []

def Mod.removedClasses (e : Ent) : Mod → List Nat
  | .removed a v => if a == A.Class then [v] else []
  | .set a vs => if a == A.Class then minus (e.classes.getD []) vs else []
  | _ => []

theorem requestedClasses_eq (e : Ent) : ∀ (ml : List Mod) (p r : List Nat),
    requestedClasses e ml = some (p, r) →
      p = ml.flatMap (Mod.addedClasses e) ∧ r = ml.flatMap (Mod.removedClasses e)
  | [], p, r, h => by cases h; exact ⟨rfl, rfl⟩
  | m :: rest, p, r, h => by
    unfold requestedClasses at h
    cases hrest : requestedClasses e rest with
    | none => simp [hrest] at h
    | some pr =>
      obtain ⟨p0, r0⟩ := pr
      obtain ⟨rfl, rfl⟩ := requestedClasses_eq e rest p0 r0 hrest
      simp only [hrest, List.flatMap_cons] at h ⊢
      cases m with
      | set a vs =>
        by_cases ha : a = A.Class
        · cases hcls : e.classes <;> simp_all [Mod.addedClasses, Mod.removedClasses]
        · simp_all [Mod.addedClasses, Mod.removedClasses]
      | present a v | removed a v =>
        by_cases ha : a = A.Class <;> simp_all [Mod.addedClasses, Mod.removedClasses]
      | purged a | assert a v => simp_all [Mod.addedClasses, Mod.removedClasses]

theorem requestedClasses_spec (e : Ent) (ml : List Mod) (p r : List Nat)
    (h : requestedClasses e ml = some (p, r)) :
    (∀ c, AddsClass e ml c → c ∈ p) ∧ (∀ c, RemovesClass e ml c → c ∈ r) := by
  obtain ⟨rfl, rfl⟩ := requestedClasses_eq e ml p r h
  simp only [List.mem_flatMap]
  constructor
  · rintro c (hm | ⟨vs, hm, hc, hn⟩)
    · exact ⟨_, hm, by simp [Mod.addedClasses]⟩
    · refine ⟨_, hm, ?_⟩
      cases hcls : e.classes with
      | none => simpa [Mod.addedClasses, hcls, mem_minus] using hc
      | some cur => simpa [Mod.addedClasses, hcls, mem_minus] using ⟨hc, hn cur hcls⟩
  · rintro c (hm | ⟨vs, hm, hc, cur, hcls, hin⟩)
    · exact ⟨_, hm, by simp [Mod.removedClasses]⟩
    · exact ⟨_, hm, by simpa [Mod.removedClasses, hcls, mem_minus] using ⟨hin, hc⟩⟩

theorem scopedModify_matches {id : Ident} {acps : List AcpModify} {e : Ent} {p : AcpModify}
    (h : p ∈ scopedModify id (modifyRelatedAcp id acps) e) :
    p ∈ acps ∧ ProfileMatches id p.acp e.managedBy e.fe := by
  obtain ⟨r, hr, rfl⟩ := List.mem_map.mp h
  rw [List.mem_filter, modifyScoped_eq] at hr
  exact applies_matches (prof := AcpModify.acp) hr.1 hr.2

/-- The `Allow` answer `a` covers everything the request `ml` adds to or removes from `e`. -/
structure Covers (a : ModAllow) (e : Ent) (ml : List Mod) : Prop where
  adds : ∀ m, m ∈ ml → ∀ x, m.addsAttr = some x → x ∈ a.pres
  removes : ∀ m, m ∈ ml → ∀ x, m.removesAttr = some x → x ∈ a.rem
  addsClass : ∀ c, AddsClass e ml c → c ∈ a.presCls
  removesClass : ∀ c, RemovesClass e ml c → c ∈ a.remCls

/-- A user's allowed request: the answer was an `Allow` (never `Grant`), with what holds of it on
the side of the profiles and modules (`UserAllow`) and on the side of the request (`Covers`). -/
theorem modifyAllow_user {id : Ident} (hu : IsUser id) {rel : List (Resolved AcpModify)}
    {ag : List (Nat × List Nat)} {e : Ent} {ml : List Mod}
    (h : modifyAllowPerEntry id rel ag e ml = true) :
    ∃ a, UserAllow id rel ag e a ∧ Covers a e ml := by
  obtain ⟨_, p, r, hrc, hg | ⟨a, ha, h1, h2, h3, h4⟩⟩ := modifyAllow_unfold h
  · rcases applyModify_user hu rel ag e with hd | ⟨a, ha, _⟩
    · rw [hd] at hg; cases hg
    · rw [ha] at hg; cases hg
  · obtain ⟨hadd, hrem⟩ := requestedClasses_spec e ml p r hrc
    exact ⟨a, applyModify_user_allow hu ha,
      fun m hm x hx => (subset_iff _ _).mp h1 x (addsAttr_mem_requestedPres hm hx),
      fun m hm x hx => (subset_iff _ _).mp h2 x (removesAttr_mem_requestedRem hm hx),
      fun c hc => (subset_iff _ _).mp h3 c (hadd c hc),
      fun c hc => (subset_iff _ _).mp h4 c (hrem c hc)⟩

/-- **Writes need matching grants (modify).** If a user's modification of an entry is allowed,
the user holds a read-write session and every attribute it adds or removes, and every class it
adds or removes, is granted by one of the configured profiles whose receiver matches the user and
whose target matches that entry. -/
theorem modify_allowed_has_grant (id : Ident) (hu : IsUser id) (acps : List AcpModify)
    (ag : List (Nat × List Nat)) (e : Ent) (ml : List Mod)
    (h : modifyAllowPerEntry id (modifyRelatedAcp id acps) ag e ml = true) :
    id.scope = .readWrite ∧
    (∀ m, m ∈ ml → ∀ a, m.addsAttr = some a →
      ∃ p, p ∈ acps ∧ ProfileMatches id p.acp e.managedBy e.fe ∧ a ∈ p.presAttrs) ∧
    (∀ m, m ∈ ml → ∀ a, m.removesAttr = some a →
      ∃ p, p ∈ acps ∧ ProfileMatches id p.acp e.managedBy e.fe ∧ a ∈ p.remAttrs) ∧
    (∀ c, AddsClass e ml c →
      ∃ p, p ∈ acps ∧ ProfileMatches id p.acp e.managedBy e.fe ∧ c ∈ p.presClasses) ∧
    (∀ c, RemovesClass e ml c →
      ∃ p, p ∈ acps ∧ ProfileMatches id p.acp e.managedBy e.fe ∧ c ∈ p.remClasses) := by
  obtain ⟨a, hU, hC⟩ := modifyAllow_user hu h
  have lift : ∀ {x : Nat} {g : AcpModify → List Nat},
      (∃ q, q ∈ scopedModify id (modifyRelatedAcp id acps) e ∧ x ∈ g q) →
      ∃ q, q ∈ acps ∧ ProfileMatches id q.acp e.managedBy e.fe ∧ x ∈ g q :=
    fun ⟨q, hq, hx⟩ => ⟨q, (scopedModify_matches hq).1, (scopedModify_matches hq).2, hx⟩
  exact ⟨hU.scope,
    fun m hm x hx => lift (hU.pres x (hC.adds m hm x hx)),
    fun m hm x hx => lift (hU.rem x (hC.removes m hm x hx)),
    fun c hc => lift (hU.presCls c (hC.addsClass c hc)).2,
    fun c hc => lift (hU.remCls c (hC.removesClass c hc)).2⟩

/-- **No user can add a protected class** by modifying an entry, whatever the profiles grant. -/
theorem protected_class_never_added (id : Ident) (hu : IsUser id) (acps : List AcpModify)
    (ag : List (Nat × List Nat)) (e : Ent) (ml : List Mod)
    (h : modifyAllowPerEntry id (modifyRelatedAcp id acps) ag e ml = true) :
    ∀ c, c ∈ specProtected → ¬ AddsClass e ml c := by
  obtain ⟨a, hU, hC⟩ := modifyAllow_user hu h
  exact fun c hc hadd => (hU.presCls c (hC.addsClass c hadd)).1 (spec_subset_strip_pres c hc)

/-- **No user can remove a protected class** — other than `recycled` (which is what a revive
removes). -/
theorem protected_class_never_removed_except_recycled (id : Ident) (hu : IsUser id)
    (acps : List AcpModify) (ag : List (Nat × List Nat)) (e : Ent) (ml : List Mod)
    (h : modifyAllowPerEntry id (modifyRelatedAcp id acps) ag e ml = true) :
    ∀ c, c ∈ specProtected → c ≠ C.Recycled → ¬ RemovesClass e ml c := by
  obtain ⟨a, hU, hC⟩ := modifyAllow_user hu h
  exact fun c hc hne hrm =>
    (hU.remCls c (hC.removesClass c hrm)).1 (spec_subset_strip_rem c hc hne)

/-- **Purging `class` is refused** for every identity (also the internal ones). -/
theorem purge_class_denied (id : Ident) (rel : List (Resolved AcpModify))
    (ag : List (Nat × List Nat)) (e : Ent) (ml : List Mod) (h : Mod.purged A.Class ∈ ml) :
    modifyAllowPerEntry id rel ag e ml = false :=
  Bool.eq_false_iff.mpr fun h' => (modifyAllow_unfold h').1 h

/-- **Tombstones are locked**: nobody but the internal System role can modify one. -/
theorem tombstone_locked (id : Ident) (hns : id.origin ≠ .internal .system)
    (rel : List (Resolved AcpModify)) (ag : List (Nat × List Nat)) (e : Ent) (ml : List Mod)
    (cs : List Nat) (hcs : e.classes = some cs) (ht : C.Tombstone ∈ cs) :
    modifyAllowPerEntry id rel ag e ml = false := by
  refine modifyAllow_of_deny ?_ ml
  by_cases hsy : ∃ u, id.origin = .synch u
  · exact applyModify_deny_of_synch hsy rel ag e
  · -- a tombstone is in the gate classes and in the locked classes
    refine applyModify_deny_of_protected ?_ rel ag
    rw [modifyProtected_eq hns (fun u hu => hsy ⟨u, hu⟩) hcs,
      not_disjoint_of_mem ht (by decide : C.Tombstone ∈ modifyGateClasses), Bool.and_false,
      modifyProtectedEntryAttrs,
      not_disjoint_of_mem ht (by decide : C.Tombstone ∈ lockedEntryClasses)]
    rfl

theorem readonly_never_modifies (id : Ident) (hu : IsUser id) (hs : id.scope ≠ .readWrite)
    (rel : List (Resolved AcpModify)) (ag : List (Nat × List Nat)) (e : Ent) (ml : List Mod) :
    modifyAllowPerEntry id rel ag e ml = false :=
  Bool.eq_false_iff.mpr fun h => let ⟨_, hU, _⟩ := modifyAllow_user hu h; hs hU.scope

theorem sync_ident_cannot_modify (id : Ident) (hs : IsSynch id)
    (rel : List (Resolved AcpModify)) (ag : List (Nat × List Nat)) (e : Ent) (ml : List Mod) :
    modifyAllowPerEntry id rel ag e ml = false :=
  modifyAllow_of_deny (applyModify_deny_of_synch hs rel ag e) ml

/-- **Protected objects stay protected (modify).** On a builtin entry (uuid in the system range)
or an entry carrying a class of the modify gate, a user may only touch the attributes the
per-class constraint table leaves open (plus, on a synced entry, what the sync rule leaves
open) — whatever the profiles grant. -/
theorem protected_entry_constrained (id : Ident) (hu : IsUser id) (acps : List AcpModify)
    (ag : List (Nat × List Nat)) (e : Ent) (ml : List Mod) (cs : List Nat)
    (hcs : e.classes = some cs)
    (hprot : e.uuid ≤ uuidAnonymous ∨ ∃ c, c ∈ cs ∧ c ∈ modifyGateClasses)
    (h : modifyAllowPerEntry id (modifyRelatedAcp id acps) ag e ml = true) :
    ∀ m, m ∈ ml → ∀ a, (m.addsAttr = some a ∨ m.removesAttr = some a) →
      a ∈ protectedOpenAttrs cs ∨ a ∈ conOf (modifySyncConstrain id e ag) := by
  have hgate : (modifyAnonCmp e.uuid uuidAnonymous && disjoint cs modifyGateClasses) = false := by
    rcases hprot with hle | ⟨c, hc1, hc2⟩
    · have : modifyAnonCmp e.uuid uuidAnonymous = false := by
        simp [modifyAnonCmp]; omega
      simp [this]
    · simp [not_disjoint_of_mem hc1 hc2]
  have hp : modifyProtectedAttrs id e = modifyProtectedEntryAttrs cs := by
    rw [modifyProtected_user hu hcs, hgate]
    rfl
  obtain ⟨a, hU, hC⟩ := modifyAllow_user hu h
  rcases protectedEntry_shape cs with hd | ⟨hne, hc⟩
  · exact absurd (hp ▸ hd) hU.prot
  · -- the protected module constrains by `protectedOpenAttrs cs`, which is not empty
    have hcon := hU.constrained
    simp only [hp, hc, conOf] at hcon
    exact fun m hm x hx => List.mem_append.mp (hcon x
      (hx.imp (hC.adds m hm x) (hC.removes m hm x))
      fun h => hne (List.append_eq_nil_iff.mp h).1)

theorem sync_ident_cannot_create (id : Ident) (hs : IsSynch id)
    (rel : List (Resolved AcpCreate)) (e : NewEnt) :
    createAllowPerEntry id rel e = false := by
  obtain ⟨u, ho⟩ := hs
  exact createAllow_of_deny (.inr (by simp [createFilterEntry, ho]))

theorem readonly_never_creates (id : Ident) (hu : IsUser id) (hs : id.scope ≠ .readWrite)
    (rel : List (Resolved AcpCreate)) (e : NewEnt) :
    createAllowPerEntry id rel e = false :=
  Bool.eq_false_iff.mpr fun h => hs (createAllow_user hu h).1

/-- **Writes need matching grants (create): one single profile covers the whole entry.** If a
user's create of an entry is allowed, the session is read-write and there is one configured
profile whose receiver group matches the user, whose target matches the new entry, and which
grants *every* attribute and *every* class of the entry (not a union over profiles). -/
theorem create_single_profile (id : Ident) (hu : IsUser id) (acps : List AcpCreate) (e : NewEnt)
    (hwf : A.Class ∈ e.attrs)
    (h : createAllowPerEntry id (createRelatedAcp id acps) e = true) :
    id.scope = .readWrite ∧
    ∃ cls, e.classes = some cls ∧ ∃ p, p ∈ acps ∧ ProfileMatches id p.acp none e.fe ∧
      (∀ a, a ∈ e.attrs → a ∈ p.attrs) ∧ (∀ c, c ∈ cls → c ∈ p.classes) := by
  obtain ⟨hsc, _, cls, hcls, hcov⟩ := createAllow_user hu h
  obtain ⟨r, hr, hcov⟩ := hcov hwf
  refine ⟨hsc, cls, hcls, r.acp, ?_⟩
  rw [createProfileCovers_eq id, Bool.and_eq_true, Bool.and_eq_true] at hcov
  obtain ⟨hmem, hpm⟩ := applies_matches (prof := AcpCreate.acp) hr hcov.1.1
  exact ⟨hmem, hpm, (subset_iff _ _).mp hcov.1.2, (subset_iff _ _).mp hcov.2⟩

/-- **No user can create an entry carrying a protected class, nor one in the builtin uuid
range.** -/
theorem protected_class_never_created (id : Ident) (hu : IsUser id) (acps : List AcpCreate)
    (e : NewEnt) (hwf : A.Class ∈ e.attrs)
    (h : createAllowPerEntry id (createRelatedAcp id acps) e = true) :
    (∀ cls, e.classes = some cls → ∀ c, c ∈ specProtected → c ∉ cls) ∧
    (∀ u, e.uuid = some u → uuidAnonymous < u) := by
  have _ := hwf -- not needed: the protected gate comes before the attribute keys are looked at
  obtain ⟨_, hnp, _⟩ := createAllow_user hu h
  exact ⟨fun cls hcls c hc hmem => hnp (createProtected_deny (.inl hu)
      (.inr ⟨cls, c, hcls, hmem, spec_subset_create_gate c hc⟩)),
    fun u' hu' => Nat.lt_of_not_le fun hle =>
      hnp (createProtected_deny (.inl hu) (.inl ⟨u', hu', hle⟩))⟩

theorem sync_ident_cannot_delete (id : Ident) (hs : IsSynch id)
    (rel : List (Resolved AcpDelete)) (e : Ent) : applyDeleteAccess id rel e = false := by
  obtain ⟨u, ho⟩ := hs
  have : deleteFilterEntry id rel e = .deny := by simp [deleteFilterEntry, ho]
  simp [applyDeleteAccess, this]

theorem readonly_never_deletes (id : Ident) (hu : IsUser id) (hs : id.scope ≠ .readWrite)
    (rel : List (Resolved AcpDelete)) (e : Ent) : applyDeleteAccess id rel e = false :=
  Bool.eq_false_iff.mpr fun h => hs (deleteAllow_user hu h).1

/-- **Writes need matching grants (delete).** -/
theorem delete_allowed_has_grant (id : Ident) (hu : IsUser id) (acps : List AcpDelete) (e : Ent)
    (h : applyDeleteAccess id (deleteRelatedAcp id acps) e = true) :
    id.scope = .readWrite ∧ ∃ p, p ∈ acps ∧ ProfileMatches id p.acp e.managedBy e.fe := by
  obtain ⟨hsc, r, hr, hsco⟩ := deleteAllow_user hu h
  rw [deleteScoped_eq] at hsco
  obtain ⟨hmem, hpm⟩ := applies_matches (prof := AcpDelete.acp) hr hsco
  exact ⟨hsc, r.acp, hmem, hpm⟩

/-- **Builtin and protected entries cannot be deleted** by anyone but the internal System role,
whatever the profiles grant. -/
theorem builtin_and_protected_delete_denied (id : Ident) (hns : id.origin ≠ .internal .system)
    (rel : List (Resolved AcpDelete)) (e : Ent)
    (hprot : e.uuid ≤ uuidAnonymous ∨
      ∃ cs c, e.classes = some cs ∧ c ∈ cs ∧ c ∈ specProtected) :
    applyDeleteAccess id rel e = false :=
  applyDelete_deny_of_protected (deleteProtected_deny hns (hprot.imp_right
    fun ⟨cs, c, hcs, hc1, hc2⟩ => ⟨cs, c, hcs, hc1, spec_subset_delete_gate c hc2⟩)) rel

/-! ## the operations (result observed by the caller) -/

/-- **Revive needs the grants of a modify that removes `recycled`**: for a user, a revive that
proceeds means a read-write session and, for every candidate, matching profiles that grant
removal of the `class` attribute and removal of the class `recycled`. -/
theorem revive_only_recycled (id : Ident) (hu : IsUser id) (acps : List AcpModify)
    (ag : List (Nat × List Nat)) (cands : List Ent) (h : reviveOp id acps ag cands = .proceed) :
    id.scope = .readWrite ∧ (∃ e, e ∈ cands ∧ isRecycled e.classes = true) ∧
    ∀ e, e ∈ cands →
      (∃ p, p ∈ acps ∧ ProfileMatches id p.acp e.managedBy e.fe ∧ A.Class ∈ p.remAttrs) ∧
      (∃ p, p ∈ acps ∧ ProfileMatches id p.acp e.managedBy e.fe ∧ C.Recycled ∈ p.remClasses) := by
  obtain ⟨_, hall, hrec⟩ := reviveOp_proceed id acps ag cands h
  have ⟨e0, he0, _⟩ := hrec
  obtain ⟨hscope, _⟩ := modify_allowed_has_grant id hu acps ag e0 reviveModlist (hall e0 he0)
  refine ⟨hscope, hrec, fun e he => ?_⟩
  -- of the five parts: the grants for removed attributes and for removed classes
  obtain ⟨-, -, hremoves, -, hremovesClass⟩ :=
    modify_allowed_has_grant id hu acps ag e reviveModlist (hall e he)
  exact ⟨hremoves (.removed A.Class C.Recycled) (by simp [reviveModlist]) A.Class rfl,
    hremovesClass C.Recycled (Or.inl (by simp [reviveModlist]))⟩

theorem no_op_proceeds_of_all_refused (id : Ident)
    (hm : ∀ rel ag e ml, modifyAllowPerEntry id rel ag e ml = false)
    (hc : ∀ rel e, createAllowPerEntry id rel e = false)
    (hd : ∀ rel e, applyDeleteAccess id rel e = false)
    (am : List AcpModify) (ac : List AcpCreate) (ad : List AcpDelete)
    (ag : List (Nat × List Nat)) (cands : List Ent) (ents : List NewEnt) (ml : List Mod) :
    modifyOp id am ag cands ml ≠ .proceed ∧ createOp id ac ents ≠ .proceed ∧
      deleteOp id ad cands ≠ .proceed ∧ reviveOp id am ag cands ≠ .proceed := by
  -- an operation that proceeds has a candidate, and that candidate is allowed
  have none_allowed : ∀ {α : Type} {l : List α} {f : α → Bool}, l ≠ [] →
      (∀ x, x ∈ l → f x = true) → (∀ x, f x = false) → False := by
    intro α l f hne hall hf
    obtain ⟨x, hx⟩ := List.exists_mem_of_ne_nil l hne
    exact Bool.false_ne_true ((hf x).symm.trans (hall x hx))
  refine ⟨fun h => ?_, fun h => ?_, fun h => ?_, fun h => ?_⟩
  · obtain ⟨hne, _, hall, _⟩ := modifyOp_proceed id am ag cands ml h
    exact none_allowed hne hall fun e => hm _ ag e ml
  · obtain ⟨hne, hall, _⟩ := createOp_proceed id ac ents h
    exact none_allowed hne hall (hc _)
  · obtain ⟨hne, hall, _⟩ := deleteOp_proceed id ad cands h
    exact none_allowed hne hall (hd _)
  · obtain ⟨hne, hall, _⟩ := reviveOp_proceed id am ag cands h
    exact none_allowed hne hall fun e => hm _ ag e reviveModlist

/-- **Read-only identities can never create, modify, delete or revive** (and neither can a user
whose session has the synchronise scope): none of the four operations gets past the access
decision. -/
theorem readonly_never_writes (id : Ident) (hu : IsUser id) (hs : id.scope ≠ .readWrite)
    (am : List AcpModify) (ac : List AcpCreate) (ad : List AcpDelete)
    (ag : List (Nat × List Nat)) (cands : List Ent) (ents : List NewEnt) (ml : List Mod) :
    modifyOp id am ag cands ml ≠ .proceed ∧ createOp id ac ents ≠ .proceed ∧
      deleteOp id ad cands ≠ .proceed ∧ reviveOp id am ag cands ≠ .proceed :=
  no_op_proceeds_of_all_refused id (readonly_never_modifies id hu hs) (readonly_never_creates id hu hs)
    (readonly_never_deletes id hu hs) am ac ad ag cands ents ml

/-- **Synchronisation identities cannot use these operations at all.** -/
theorem sync_ident_cannot_use_ops (id : Ident) (hs : IsSynch id)
    (am : List AcpModify) (ac : List AcpCreate) (ad : List AcpDelete)
    (ag : List (Nat × List Nat)) (cands : List Ent) (ents : List NewEnt) (ml : List Mod) :
    modifyOp id am ag cands ml ≠ .proceed ∧ createOp id ac ents ≠ .proceed ∧
      deleteOp id ad cands ≠ .proceed ∧ reviveOp id am ag cands ≠ .proceed :=
  no_op_proceeds_of_all_refused id (sync_ident_cannot_modify id hs) (sync_ident_cannot_create id hs)
    (sync_ident_cannot_delete id hs) am ac ad ag cands ents ml

/-- **A plain modify can neither revive nor recycle nor tombstone**: whoever asks (System
included), a modify that proceeds leaves every candidate on its side of the recycled/tombstone
boundary — removing `recycled` only takes effect through `revive`. -/
theorem modify_keeps_lifecycle (id : Ident) (acps : List AcpModify) (ag : List (Nat × List Nat))
    (cands : List Ent) (ml : List Mod) (h : modifyOp id acps ag cands ml = .proceed) :
    ∀ e, e ∈ cands → maskedTs e.classes = maskedTs (applyClassMods e.classes ml) :=
  let ⟨_, _, _, hmask⟩ := modifyOp_proceed id acps ag cands ml h
  hmask


/-- **Batch modify is judged entry by entry**: an allowed batch has a modification list for every
entry and each (entry, list) pair passes the per-entry decision — so all per-entry theorems above
apply to every pair of an allowed batch. -/
theorem batch_modify_each_entry_allowed (id : Ident) (acps : List AcpModify)
    (ag : List (Nat × List Nat)) (entries : List (Ent × Option (List Mod)))
    (h : batchModifyAllowOperation id acps ag entries = true) :
    ∀ p, p ∈ entries → ∃ ml, p.2 = some ml ∧
      modifyAllowPerEntry id (modifyRelatedAcp id acps) ag p.1 ml = true := by
  intro p hp
  unfold batchModifyAllowOperation at h
  have := (List.all_eq_true.mp h) p hp
  cases hml : p.2 with
  | none => simp [hml] at this
  | some ml => exact ⟨ml, rfl, by simpa [hml] using this⟩

/-! ## Non-vacuity: concrete states in which the hypotheses hold and the decisions differ -/
namespace Example

def g1 : Nat := 0x10000000000040008000000000000100
def alice : Ident := ⟨.user 0x10000000000040008000000000000200 (some [g1]), .readWrite⟩
def aliceRo : Ident := { alice with scope := .readOnly }
def syncId : Ident := ⟨.synch 0x10000000000040008000000000000500, .readWrite⟩

/-- grants a lot, including protected classes -/
def acp : AcpModify :=
  ⟨⟨.group [g1], some (.pres A.Class)⟩, [A.Description, A.Class, A.Member], [A.Class],
   [C.PosixAccount, C.Recycled, C.System], [C.Recycled, C.System, C.Person]⟩

def fe (cs : List Nat) : Filter.Entry := Entry.ofList [(A.Class, cs.map fun c => .str [c])]
def person : Ent := ⟨0x10000000000040008000000000000300, some [C.Object, C.Person], none, none,
  fe [C.Object, C.Person]⟩
def recycledPerson : Ent := ⟨0x10000000000040008000000000000301,
  some [C.Object, C.Person, C.Recycled], none, none, fe [C.Object, C.Person, C.Recycled]⟩
def tombstone : Ent := ⟨0x10000000000040008000000000000302, some [C.Object, C.Tombstone], none,
  none, fe [C.Object, C.Tombstone]⟩
def builtinGroup : Ent := ⟨1, some [C.Object, C.Group], none, none, fe [C.Object, C.Group]⟩

-- `modify_allowed_has_grant`: an allowed request exists (attribute and class)
example : modifyAllowPerEntry alice (modifyRelatedAcp alice [acp]) [] person
    [.present A.Description 0, .present A.Class C.PosixAccount] = true := by decide +kernel
-- … and an ungranted attribute is refused
example : modifyAllowPerEntry alice (modifyRelatedAcp alice [acp]) [] person
    [.present A.DisplayName 0] = false := by decide +kernel
-- `protected_class_never_added` / `…_removed_except_recycled`: granted by the profile, still refused
example : modifyAllowPerEntry alice (modifyRelatedAcp alice [acp]) [] person
    [.present A.Class C.System] = false := by decide +kernel
example : modifyAllowPerEntry alice (modifyRelatedAcp alice [acp]) [] person
    [.set A.Class [C.Object, C.Person, C.Recycled]] = false := by decide +kernel
example : modifyAllowPerEntry alice (modifyRelatedAcp alice [acp]) [] person
    [.removed A.Class C.Person] = true := by decide +kernel
-- `readonly_never_writes`, `sync_ident_cannot_use_ops`: the same request with another identity
example : modifyAllowPerEntry aliceRo (modifyRelatedAcp aliceRo [acp]) [] person
    [.present A.Description 0] = false := by decide +kernel
example : modifyOp syncId [acp] [] [person] [.present A.Description 0] = .accessDenied := by decide +kernel
example : modifyOp alice [acp] [] [person] [.present A.Description 0] = .proceed := by decide +kernel
-- `tombstone_locked`, `purge_class_denied`
example : modifyAllowPerEntry alice (modifyRelatedAcp alice [acp]) [] tombstone
    [.present A.Description 0] = false := by decide +kernel
example : modifyAllowPerEntry ⟨.internal .system, .readWrite⟩ [] [] person [.purged A.Class] = false := by
  decide +kernel
-- `revive_only_recycled` / `modify_keeps_lifecycle`: removing `recycled` proceeds through revive
-- only, and only on a recycled entry
example : reviveOp alice [acp] [] [recycledPerson] = .proceed := by decide +kernel
example : modifyOp alice [acp] [] [recycledPerson] reviveModlist = .accessDenied := by decide +kernel
example : reviveOp alice [acp] [] [person] = .accessDenied := by decide +kernel
-- `protected_entry_constrained`: on a builtin group only `member` is open
example : modifyAllowPerEntry alice (modifyRelatedAcp alice [acp]) [] builtinGroup
    [.present A.Member 0] = true := by decide +kernel
example : modifyAllowPerEntry alice (modifyRelatedAcp alice [acp]) [] builtinGroup
    [.present A.Description 0] = false := by decide +kernel

def cAttrs : AcpCreate := ⟨⟨.group [g1], some (.pres A.Class)⟩, [A.Class, A.Name], [C.Object]⟩
def cClasses : AcpCreate := ⟨⟨.group [g1], some (.pres A.Class)⟩, [A.Class], [C.Object, C.Person]⟩
def cBoth : AcpCreate :=
  ⟨⟨.group [g1], some (.pres A.Class)⟩, [A.Class, A.Name], [C.Object, C.Person, C.System]⟩
def newPerson : NewEnt := ⟨some 0x10000000000040008000000000000600, some [C.Object, C.Person],
  [A.Class, A.Name], fe [C.Object, C.Person]⟩
def newSystem : NewEnt := { newPerson with classes := some [C.Object, C.System] }
def newBuiltin : NewEnt := { newPerson with uuid := some 5 }

-- `create_single_profile`: one covering profile allows; two profiles covering it only together do not
example : createAllowPerEntry alice (createRelatedAcp alice [cBoth]) newPerson = true := by decide +kernel
example : createAllowPerEntry alice (createRelatedAcp alice [cAttrs, cClasses]) newPerson = false := by
  decide +kernel
-- `protected_class_never_created`
example : createAllowPerEntry alice (createRelatedAcp alice [cBoth]) newSystem = false := by decide +kernel
example : createAllowPerEntry alice (createRelatedAcp alice [cBoth]) newBuiltin = false := by decide +kernel

def dAcp : AcpDelete := ⟨⟨.group [g1], some (.pres A.Class)⟩⟩
-- `delete_allowed_has_grant`, `builtin_and_protected_delete_denied`
example : deleteOp alice [dAcp] [person] = .proceed := by decide +kernel
example : deleteOp alice [] [person] = .accessDenied := by decide +kernel
example : deleteOp alice [dAcp] [builtinGroup] = .accessDenied := by decide +kernel
example : deleteOp alice [dAcp] [recycledPerson] = .accessDenied := by decide +kernel
example : deleteOp aliceRo [dAcp] [person] = .accessDenied := by decide +kernel

end Example

end Kanidm.Access.Write
