import KanidmProofs.Lemmas.OAuth2Authorise
/-!
C38 — OAuth2 authorisation happens only on registered terms.

`authorise` is `check_oauth2_authorisation`, `permit` is `check_oauth2_authorise_permit`,
`Client.ofConf` is the client-building part of `reload` (`KanidmModel/OAuth2/Authorise.lean`);
every operator in them is regenerated from `server/lib/src/idm/oauth2.rs` on each run.
-/
namespace Kanidm.OAuth2
open Kanidm.Gen.OAuth2Authz

/-- The property's terms for a grant that carries PKCE challenge `chal`, redirect URI `uri` and
scopes `scopes`, issued for request `req` by identity `ident` against the loaded clients `reg`. -/
def Terms (scopeOk : Nat → Bool) (reg : Registry) (ident : Option Ident) (req : Request)
    (c : Client) (i : Ident) (chal : Option Nat) (uri : Nat) (scopes : List Nat) : Prop :=
  rsSetGet reg req.clientId = some c ∧ (req.clientId.map Char.toLower, c) ∈ reg ∧
  req.responseType = .code ∧
  -- the redirect URI is one of the client's redirect URIs, or one of its opaque (app) URIs, or a
  -- loopback URI while the client is public with localhost redirects allowed
  (req.redirectUri.atom ∈ c.redirectUris ∨ req.redirectUri.atom ∈ c.opaqueOrigins ∨
    (checkIsLoopback req.redirectUri = true ∧ c.ctype = .pub true)) ∧
  -- a client with an https URI accepts only https, loopback or its opaque URIs
  (c.originSecureRequired = true →
    req.redirectUri.atom ∈ c.opaqueOrigins ∨ checkIsLoopback req.redirectUri = true ∨
      req.redirectUri.https = true) ∧
  ident = some i ∧ i.kind = .user ∧ i.uuid ≠ uuidAnonymous ∧
  -- every requested scope is well-formed and held through a scope map of a group of the user
  req.scope ≠ [] ∧
  (∀ s ∈ req.scope, scopeOk s = true ∧ ∃ g m, (g, m) ∈ c.scopeMaps ∧ g ∈ i.memberOf ∧ s ∈ m) ∧
  -- a supplied PKCE request is S256; none is supplied only to a basic client with PKCE disabled
  (∀ pk, req.pkce = some pk → pk.isS256 = true) ∧
  (req.pkce = none → ∃ q, c.ctype = .basic false q) ∧
  chal = req.pkce.map (·.challenge) ∧ uri = req.redirectUri.atom ∧
  (∀ s, s ∈ scopes ↔
    s ∈ req.scope ∨ ∃ g m, (g, m) ∈ c.supScopeMaps ∧ g ∈ i.memberOf ∧ s ∈ m)

/-- `Terms`, spelled out (so that the audited statement hash covers its content). -/
theorem terms_def (scopeOk : Nat → Bool) (reg : Registry) (ident : Option Ident) (req : Request)
    (c : Client) (i : Ident) (chal : Option Nat) (uri : Nat) (scopes : List Nat) :
    Terms scopeOk reg ident req c i chal uri scopes ↔
      (rsSetGet reg req.clientId = some c ∧ (req.clientId.map Char.toLower, c) ∈ reg ∧
      req.responseType = .code ∧
      (req.redirectUri.atom ∈ c.redirectUris ∨ req.redirectUri.atom ∈ c.opaqueOrigins ∨
        (checkIsLoopback req.redirectUri = true ∧ c.ctype = .pub true)) ∧
      (c.originSecureRequired = true →
        req.redirectUri.atom ∈ c.opaqueOrigins ∨ checkIsLoopback req.redirectUri = true ∨
          req.redirectUri.https = true) ∧
      ident = some i ∧ i.kind = .user ∧ i.uuid ≠ uuidAnonymous ∧
      req.scope ≠ [] ∧
      (∀ s ∈ req.scope, scopeOk s = true ∧ ∃ g m, (g, m) ∈ c.scopeMaps ∧ g ∈ i.memberOf ∧ s ∈ m) ∧
      (∀ pk, req.pkce = some pk → pk.isS256 = true) ∧
      (req.pkce = none → ∃ q, c.ctype = .basic false q) ∧
      chal = req.pkce.map (·.challenge) ∧ uri = req.redirectUri.atom ∧
      (∀ s, s ∈ scopes ↔
        s ∈ req.scope ∨ ∃ g m, (g, m) ∈ c.supScopeMaps ∧ g ∈ i.memberOf ∧ s ∈ m)) :=
  Iff.rfl

/-- `authorise_grant_inv` read in the words of `Terms`: any grant satisfies the terms for what
`finishStage` was given. `code_implies_terms`, `consent_implies_terms` and the two `no_grant_…` theorems
are its corollaries. -/
theorem grant_terms {scopeOk : Nat → Bool} {reg : Registry} {ident : Option Ident}
    {req : Request} {resumed : Bool} {ct : Nat} {o : Outcome}
    (h : authorise scopeOk reg ident req resumed ct = o) (hg : o.isGrant = true) :
    ∃ mode c lb ch i g,
      o = finishStage c i req mode lb ch req.scope g ct ∧
      Terms scopeOk reg ident req c i ch req.redirectUri.atom g := by
  obtain ⟨mode, c, lb, ch, i, g, hshape, hc, hred, hpk, hid, _, han, hps, ho⟩ :=
    authorise_grant_inv h hg
  refine ⟨mode, c, lb, ch, i, g, ho, ?_⟩
  have hs := shapeStage_ok hshape
  have hr := redirectStage_ok hred
  obtain ⟨hchal, hs256, hnopkce⟩ := pkceStage_ok hpk
  obtain ⟨_, hne, hwf, havail, hgranted⟩ := processRequestedScopes_ok hps
  -- the identity is a user because it holds at least one scope
  have hheld : ∀ s ∈ req.scope, ∃ g m, (g, m) ∈ c.scopeMaps ∧ i.kind = .user ∧ g ∈ i.memberOf ∧ s ∈ m :=
    fun s hs => heldScopes_mem.mp (havail s hs)
  have huser : i.kind = .user := by
    cases hsc : req.scope with
    | nil => exact absurd hsc hne
    | cons s _ =>
      obtain ⟨_, _, _, hk, _, _⟩ := hheld s (by simp [hsc])
      exact hk
  refine ⟨hc, rsSetGet_mem hc, hs.1, hr.1, hr.2, hid, huser, ?_, hne, ?_, hs256,
    fun hnone => requirePkce_false_iff.mp (hnopkce hnone), hchal, rfl, ?_⟩
  · simpa [isAnonymous] using han
  · intro s hs'
    obtain ⟨g', m, hm, _, hg', hsm⟩ := hheld s hs'
    exact ⟨hwf s hs', g', m, hm, hg', hsm⟩
  · intro s
    rw [hgranted, List.mem_append, heldScopes_mem]
    constructor
    · rintro (⟨g', m, hm, _, hg', hsm⟩ | hreq)
      · exact Or.inr ⟨g', m, hm, hg', hsm⟩
      · exact Or.inl hreq
    · rintro (hreq | ⟨g', m, hm, hg', hsm⟩)
      · exact Or.inr hreq
      · exact Or.inl ⟨g', m, hm, huser, hg', hsm⟩

/-- **C38 (code)**: a code issued directly by the authorisation request satisfies the registered
terms, is bound to the requesting account and session, and lives `codeExpirySecs`. -/
theorem code_implies_terms {scopeOk : Nat → Bool} {reg : Registry} {ident : Option Ident}
    {req : Request} {resumed : Bool} {ct : Nat} {code : ExchangeCode} {st : Option Nat}
    {mode : SupportedResponseMode}
    (h : authorise scopeOk reg ident req resumed ct = .permitted code st mode) :
    ∃ c i, Terms scopeOk reg ident req c i code.codeChallenge code.redirectUri code.scopes ∧
      code.accountUuid = i.uuid ∧ code.sessionId = i.sessionId ∧
      code.expiry = asSecs ct + codeExpirySecs ∧ st = req.state := by
  obtain ⟨m, c, lb, ch, i, g, ho, ht⟩ := grant_terms h rfl
  rcases finishStage_cases c i req m lb ch req.scope g ct with h' | h' | h' <;> rw [h'] at ho <;> cases ho
  exact ⟨c, i, ht, rfl, rfl, rfl, rfl⟩

/-- **C38 (consent request)**: a consent token is produced only on the same terms, and it records
the request's client id, the requester's identity and session. -/
theorem consent_implies_terms {scopeOk : Nat → Bool} {reg : Registry} {ident : Option Ident}
    {req : Request} {resumed : Bool} {ct : Nat} {tok : ConsentToken} {pii : List Nat}
    (h : authorise scopeOk reg ident req resumed ct = .consentRequested tok pii) :
    ∃ c i, Terms scopeOk reg ident req c i tok.codeChallenge tok.redirectUri tok.scopes ∧
      tok.clientId = req.clientId ∧ tok.identId = i.originId ∧ tok.sessionId = i.sessionId ∧
      tok.expiry = asSecs ct + consentExpirySecs := by
  obtain ⟨m, c, lb, ch, i, g, ho, ht⟩ := grant_terms h rfl
  rcases finishStage_cases c i req m lb ch req.scope g ct with h' | h' | h' <;> rw [h'] at ho <;> cases ho
  exact ⟨c, i, ht, rfl, rfl, rfl, rfl⟩

/-- `permit` copies the token: the code carries the token's challenge, URI and scopes, is bound to
the presenter, who must be the identity and session the token was issued to, before its expiry;
the recorded consent is the token's scopes. -/
theorem permit_copies_token {reg : Registry} {tok : ConsentToken} {i : Ident} {ct : Nat} {p : Permit}
    (h : permit reg tok i ct = .ok p) :
    p.code.codeChallenge = tok.codeChallenge ∧ p.code.redirectUri = tok.redirectUri ∧
    p.code.scopes = tok.scopes ∧ p.code.accountUuid = i.uuid ∧ p.code.sessionId = i.sessionId ∧
    p.code.expiry = asSecs ct + permitCodeExpirySecs ∧
    tok.identId = i.originId ∧ tok.sessionId = i.sessionId ∧ asSecs ct < tok.expiry ∧
    p.redirectUri = tok.redirectUri ∧ p.state = tok.state ∧ p.responseMode = tok.responseMode ∧
    p.consentScopes = tok.scopes ∧ (∃ c, rsSetGet reg tok.clientId = some c ∧ p.consentClient = c.uuid) := by
  revert h
  fun_cases permit reg tok i ct <;> intro h <;> cases h
  -- the guards passed: same identity, same session, token not expired, client still registered
  rename_i hident hsess hexp c hc
  exact ⟨rfl, rfl, rfl, rfl, rfl, rfl, Decidable.of_not_not hident, Decidable.of_not_not hsess,
    by simpa [consentTokenExpired] using hexp, rfl, rfl, rfl, rfl, c, hc, rfl⟩

/-- **C38 (code after consent)**: a code obtained by permitting a consent token that `authorise`
issued satisfies the terms of the original request (against the clients registered at request
time), belongs to the account that made the request, and was permitted within
`consentExpirySecs` of the request. -/
theorem permit_code_implies_terms {scopeOk : Nat → Bool} {reg reg' : Registry} {ident : Option Ident}
    {req : Request} {resumed : Bool} {ct ct' : Nat} {tok : ConsentToken} {pii : List Nat}
    {i' : Ident} {p : Permit}
    (ha : authorise scopeOk reg ident req resumed ct = .consentRequested tok pii)
    (hp : permit reg' tok i' ct' = .ok p) :
    ∃ c i, Terms scopeOk reg ident req c i p.code.codeChallenge p.code.redirectUri p.code.scopes ∧
      p.code.accountUuid = i.uuid ∧ i'.kind = i.kind ∧ i'.sessionId = i.sessionId ∧
      p.code.sessionId = i.sessionId ∧ asSecs ct' < asSecs ct + consentExpirySecs ∧
      p.consentScopes = p.code.scopes := by
  obtain ⟨c, i, ht, _, hid, hsess, hexp⟩ := consent_implies_terms ha
  obtain ⟨hchal, huri, hscopes, hacct, hcsess, _, htident, htsess, htexp, _, _, _, hconsent, _⟩ :=
    permit_copies_token hp
  have hident : i'.originId = i.originId := by rw [← htident, hid]
  simp only [Ident.originId, Prod.mk.injEq] at hident
  refine ⟨c, i, ?_, ?_, hident.1, ?_, ?_, ?_, ?_⟩
  · rw [hchal, huri, hscopes]; exact ht
  · rw [hacct]; exact hident.2
  · rw [← htsess, hsess]
  · rw [hcsess, ← htsess, hsess]
  · rw [← hexp]; exact htexp
  · rw [hconsent, hscopes]

/-- **C38 (who never gets a grant)**: without an identity, or as anonymous, or as a non-user
identity, no code and no consent token is produced, whatever the client and request. -/
theorem no_grant_without_user {scopeOk : Nat → Bool} {reg : Registry} {ident : Option Ident}
    {req : Request} {resumed : Bool} {ct : Nat}
    (h : ident = none ∨ ∃ i, ident = some i ∧ (i.uuid = uuidAnonymous ∨ i.kind ≠ .user)) :
    (authorise scopeOk reg ident req resumed ct).isGrant = false := by
  cases hg : (authorise scopeOk reg ident req resumed ct).isGrant with
  | false => rfl
  | true =>
    obtain ⟨_, c, _, ch, i, g, _, ht⟩ := grant_terms rfl hg
    -- of `Terms`: the identity clause (there is one, a user, not anonymous)
    obtain ⟨_, _, _, _, _, hid, huser, hanon, _⟩ := ht
    rcases h with hn | ⟨j, hj, hbad⟩
    · rw [hn] at hid; simp at hid
    · rw [hj] at hid
      simp only [Option.some.injEq] at hid
      subst hid
      rcases hbad with hb | hb
      · exact absurd hb hanon
      · exact absurd huser hb

/-- **C38 (requested scope not held)**: a request that names a scope the user holds through none of the
client's scope maps yields neither a code nor a consent token. -/
theorem no_grant_for_unheld_scope {scopeOk : Nat → Bool} {reg : Registry} {i : Ident} {c : Client}
    {req : Request} {resumed : Bool} {ct : Nat} {s : Nat}
    (hc : rsSetGet reg req.clientId = some c) (hs : s ∈ req.scope)
    (hun : ∀ g m, (g, m) ∈ c.scopeMaps → g ∈ i.memberOf → s ∉ m) :
    (authorise scopeOk reg (some i) req resumed ct).isGrant = false := by
  cases hg : (authorise scopeOk reg (some i) req resumed ct).isGrant with
  | false => rfl
  | true =>
    obtain ⟨_, c', _, ch, i', g, _, ht⟩ := grant_terms rfl hg
    -- of `Terms`: the client found (first part), the identity (sixth), every requested scope held (tenth)
    obtain ⟨hc', _, _, _, _, hid, _, _, _, hheld, _⟩ := ht
    rw [hc] at hc'
    simp only [Option.some.injEq] at hc' hid
    subst hc'; subst hid
    obtain ⟨_, g', m, hm, hg', hsm⟩ := hheld s hs
    exact absurd hsm (hun g' m hm hg')

/-- **Response type / mode**: a request passes the shape checks only with `response_type=code` and
a response mode absent, `query`, `fragment` or `form_post` (remapped to query). -/
theorem shape_allows {req : Request} {mode : SupportedResponseMode}
    (h : shapeStage req = .ok mode) :
    req.responseType = .code ∧
    (req.responseMode, mode) ∈
      [(none, SupportedResponseMode.query), (some .query, .query), (some .fragment, .fragment),
       (some .formPost, .query)] := by
  obtain ⟨hrt, ⟨rm, hrm, hm⟩, _⟩ := shapeStage_ok h
  refine ⟨hrt, ?_⟩
  rw [hrt] at hrm
  -- the two generated tables, row by row
  rcases hmode : req.responseMode with _ | (_ | _ | _ | _) <;> rw [hmode] at hrm <;> cases hrm <;>
    cases hm <;> simp

/-! ## What "registered" means: the loaded client against its configuration (`reload`) -/

/-- A URI atom is in one of the loaded client's two sets iff it is one of the configured URLs
(landing or extra, fragment removed); it is opaque iff that URL is neither http nor https. -/
theorem registered_iff_configured (cf : ClientConf) (a : Nat) :
    ((a ∈ (Client.ofConf cf).redirectUris ∨ a ∈ (Client.ofConf cf).opaqueOrigins) ↔
      ∃ u ∈ cf.urls, u.atom = a) ∧
    (a ∈ (Client.ofConf cf).opaqueOrigins ↔ ∃ u ∈ cf.urls, u.atom = a ∧ u.scheme = .other) ∧
    (a ∈ (Client.ofConf cf).redirectUris ↔
      ∃ u ∈ cf.urls, u.atom = a ∧ (u.scheme = .https ∨ u.scheme = .http)) := by
  simp only [Client.ofConf, List.mem_map, List.mem_filter]
  refine ⟨⟨?_, ?_⟩, ⟨?_, ?_⟩, ⟨?_, ?_⟩⟩
  · rintro (⟨u, ⟨hu, _⟩, ha⟩ | ⟨u, ⟨hu, _⟩, ha⟩) <;> exact ⟨u, hu, ha⟩
  · rintro ⟨u, hu, ha⟩
    cases hs : u.scheme
    · exact Or.inl ⟨u, ⟨hu, by simp [hs]⟩, ha⟩
    · exact Or.inl ⟨u, ⟨hu, by simp [hs]⟩, ha⟩
    · exact Or.inr ⟨u, ⟨hu, by simp [hs]⟩, ha⟩
  · rintro ⟨u, ⟨hu, hsch⟩, ha⟩
    refine ⟨u, hu, ha, ?_⟩
    cases hs : u.scheme <;> simp [hs] at hsch ⊢
  · rintro ⟨u, hu, ha, hs⟩
    exact ⟨u, ⟨hu, by simp [hs]⟩, ha⟩
  · rintro ⟨u, ⟨hu, hsch⟩, ha⟩
    refine ⟨u, hu, ha, ?_⟩
    cases hs : u.scheme <;> simp [hs] at hsch ⊢
  · rintro ⟨u, hu, ha, hs | hs⟩ <;> exact ⟨u, ⟨hu, by simp [hs]⟩, ha⟩

/-- Secure origins are required iff some configured URL is https; PKCE is off only for a basic
client whose disable-PKCE flag is set to true; localhost redirects are on only for a public client
whose flag is set to true. -/
theorem configured_flags (cf : ClientConf) :
    ((Client.ofConf cf).originSecureRequired = true ↔ ∃ u ∈ cf.urls, u.scheme = .https) ∧
    ((Client.ofConf cf).requirePkce = false ↔ ∃ p, cf.ctype = .basic (some true) p) ∧
    ((Client.ofConf cf).ctype = .pub true ↔ cf.ctype = .pub (some true)) := by
  refine ⟨?_, ?_, ?_⟩
  · simp [Client.ofConf]
  · rw [requirePkce_false_iff]
    simp only [Client.ofConf]
    cases hct : cf.ctype with
    | basic d p =>
      cases d with
      | none => simp [enablePkceOfFlag]
      | some b => cases b <;> simp [enablePkceOfFlag]
    | pub l => simp
  · simp only [Client.ofConf]
    cases hct : cf.ctype with
    | basic d p => simp
    | pub l =>
      cases l with
      | none => simp [allowLocalhostRedirectOfFlag]
      | some b => cases b <;> simp [allowLocalhostRedirectOfFlag]

/-- The loopback test: `127.0.0.0/8`, `::1`, or the name `localhost`. -/
theorem loopback_iff (u : Uri) :
    checkIsLoopback u = true ↔
      (∃ b c d, u.host = some (.ipv4 127 b c d)) ∨ u.host = some (.ipv6 [0, 0, 0, 0, 0, 0, 0, 1]) ∨
      u.host = some (.domain ['l', 'o', 'c', 'a', 'l', 'h', 'o', 's', 't']) := by
  unfold checkIsLoopback
  cases hh : u.host with
  | none => simp
  | some h =>
    cases h with
    | ipv4 a b c d => simp [hostIsLocal]
    | ipv6 segs => simp [hostIsLocal]
    | domain name => simp [hostIsLocal, localhostName]

/-! ## Non-vacuity: concrete worlds in which the hypotheses hold -/

section Examples

def Outcome.code? : Outcome → Option ExchangeCode
  | .permitted code _ _ => some code
  | _ => none

def exClient : Client :=
  Client.ofConf
    { uuid := 70, ctype := .pub (some true)
      landing := ⟨10, .https⟩, extra := [⟨11, .https⟩, ⟨12, .other⟩]
      scopeMaps := [(5, [0, 1]), (6, [7])], supScopeMaps := [(5, [9]), (6, [8])] }

def exBasic : Client :=
  Client.ofConf
    { uuid := 71, ctype := .basic (some true) (some false)
      landing := ⟨20, .http⟩, extra := []
      scopeMaps := [(5, [0])], supScopeMaps := [] }

def exReg : Registry := [(['a', 'p', 'p'], exClient), (['r', 's'], exBasic)]

def exUser : Ident :=
  { kind := .user, uuid := 40, sessionId := 41, lastVerifiedAt := some 1000, memberOf := [5], consent := [] }

def exReq : Request :=
  { responseType := .code, responseMode := none, clientId := ['A', 'p', 'p'], state := some 3,
    pkce := some ⟨77, true⟩, redirectUri := ⟨11, true, some (.domain ['x'])⟩, scope := [0, 1],
    nonce := none, maxAge := none, prompt := [] }

/-- A consent request is produced (first contact), carrying requested + supplementary scopes. -/
example :
    authorise (fun _ => true) exReg (some exUser) exReq false 5000000000 =
      .consentRequested
        { clientId := ['A', 'p', 'p'], sessionId := 41, expiry := 305, identId := (.user, 40),
          state := some 3, codeChallenge := some 77, redirectUri := 11, scopes := [9, 0, 1],
          nonce := none, responseMode := .query } [1, 3] := by decide

/-- …and permitting it yields a code with the same content. -/
example :
    (permit exReg
        { clientId := ['A', 'p', 'p'], sessionId := 41, expiry := 305, identId := (.user, 40),
          state := some 3, codeChallenge := some 77, redirectUri := 11, scopes := [9, 0, 1],
          nonce := none, responseMode := .query } exUser 304999999999).toOption.map (·.code.scopes) =
      some [9, 0, 1] := by decide

/-- With the consent recorded, the same request is permitted directly. -/
example :
    ((authorise (fun _ => true) exReg (some { exUser with consent := [(70, [0, 1, 9])] }) exReq false
        5000000000).code?.map (fun c => (c.scopes, c.codeChallenge, c.redirectUri, c.expiry))) =
      some ([9, 0, 1], some 77, 11, 65) := by
  decide

/-- A basic client with PKCE disabled and the consent prompt off: code without a challenge. -/
example :
    ((authorise (fun _ => true) exReg (some exUser)
        { exReq with clientId := ['r', 's'], pkce := none, redirectUri := ⟨20, false, none⟩, scope := [0] }
        false 5000000000).code?.map (fun c => (c.scopes, c.codeChallenge))) = some ([0], none) := by
  decide

/-- Loopback redirect for the public client that allows it (not registered, http). -/
example :
    (authorise (fun _ => true) exReg (some exUser)
        { exReq with redirectUri := ⟨99, false, some (.ipv4 127 0 0 1)⟩ } false 5000000000).isGrant = true := by
  decide

/-- Near misses are refused: unregistered URI, anonymous, unheld scope, missing PKCE, no
identity. -/
example :
    authorise (fun _ => true) exReg (some exUser) { exReq with redirectUri := ⟨13, true, none⟩ } false 0
      = .err .invalidOrigin ∧
    authorise (fun _ => true) exReg (some { exUser with uuid := 0 }) exReq false 0 = .err .accessDenied ∧
    authorise (fun _ => true) exReg (some exUser) { exReq with scope := [0, 7] } false 0 = .err .accessDenied ∧
    authorise (fun _ => true) exReg (some exUser) { exReq with pkce := none } false 0 = .err .invalidRequest ∧
    authorise (fun _ => true) exReg none exReq false 0 = .authenticationRequired := by
  decide

end Examples

end Kanidm.OAuth2
