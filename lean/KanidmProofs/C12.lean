import KanidmProofs.Lemmas.StoreCodec
/-!
# C12 — Stored and replicated values read back unchanged

All theorems are about the tables `vtranslate storecodec-tables` regenerates from kanidm's
source on every run (`Kanidm.Gen.StoreCodec`) and about the very functions the driver
`km_c12` executes (`Kanidm.StoreCodec`): enum-coded fields, passwords, timestamps, valuesets and
whole entries, replication, and the fields a decoder rebuilds. Re-introducing D2 (`DbPasswordV1::CRYPT_SHA512 ⇒
Kdf::CRYPT_SHA256`) changes `password.dec` / `passwordRec.dec` and breaks
`password_variants_roundtrip`, `password_roundtrip_fields`, `password_verify_preserved`;
re-introducing D20 (`DbValueSetV2::JwsKeyRs256 ⇒ ValueSetJwsKeyEs256::from_dbvs2`) changes
`valuesetDispatch.dec` and breaks `valueset_dispatch_roundtrip` and everything below it.
-/
namespace Kanidm.StoreCodec
open Kanidm.Gen.StoreCodec

theorem gen_pairs_ok : pairs.all TagPair.ok = true := by decide +kernel
theorem gen_dispatch_ok : valuesetDispatch.ok = true := by decide +kernel
theorem gen_serde_ok : (valuesetDispatch :: pairs).all TagPair.serdeOk = true := by
  have h : (valuesetDispatch :: pairs).all
      (fun p => p.dbSerdeIds.length == p.nDb && decide p.dbSerdeIds.Nodup) = true := by decide +kernel
  rw [List.all_eq_true] at h ⊢
  intro p hp
  have hp := h p hp
  rw [Bool.and_eq_true, beq_iff_eq, decide_eq_true_eq] at hp
  exact TagPair.serdeOk_of_nodup hp.1 hp.2
theorem gen_passwordRec_ok : passwordRec.ok = true := by decide +kernel
theorem gen_intentRec_ok : intentTokenStateRec.ok = true := by decide +kernel

theorem gen_decodeCtors_ok : decodeCtors.all DecodeCtor.ok = true := by decide +kernel
theorem gen_decodeCtors_cover :
    (List.range valuesetDispatch.nMem).all (fun s => decodeCtors.any (·.struct == s)) = true := by
  decide +kernel
theorem gen_decodeCtors_via_no_literals :
    (decodeCtors.all fun c => !c.via.isSome || c.literals.isEmpty) = true := by decide +kernel

/-! ## Enum-coded fields -/

/-- Every variant of every enum-coded field (password Kdf, credential type, TOTP algorithm,
session state / issuer / scope / auth type / ext metadata, OAuth2-session state, API-token
issuer / scope, intent-token state, key usage / status, claim-map join, entry change state,
replication state, and the session record versions written) is stored as a variant that loads
back as the same variant. -/
theorem tag_tables_roundtrip :
    ∀ p ∈ pairs, ∀ a, a < p.nMem → p.roundtrip a = some a := by
  intro p hp a ha
  exact TagPair.ok_sound ((List.all_eq_true.mp gen_pairs_ok) p hp) ha

/-- D2 regression: every `Kdf` variant reloads as itself. -/
theorem password_variants_roundtrip :
    ∀ a, a < password.nMem → password.roundtrip a = some a :=
  tag_tables_roundtrip password (by simp [pairs])

example : password.nMem = 15 ∧ password.roundtrip 14 = some 14 := by decide

/-- D20 regression: the stored constructor every `ValueSetX::to_db_valueset_v2` builds is
dispatched by `from_db_valueset_v2` to `ValueSetX::from_dbvs2` — the same struct. -/
theorem valueset_dispatch_roundtrip :
    ∀ s, s < valuesetDispatch.nMem → valuesetDispatch.roundtrip s = some s :=
  fun _ hs => TagPair.ok_sound gen_dispatch_ok hs

example : valuesetDispatch.nMem = 49 ∧ valuesetDispatch.roundtrip 25 = some 25 := by decide

/-- …hence `syntax()` is the same before and after. -/
theorem valueset_syntax_preserved (s : Nat) (hs : s < valuesetDispatch.nMem) :
    (valuesetDispatch.roundtrip s).bind (structSyntax[·]?) = structSyntax[s]? := by
  rw [valueset_dispatch_roundtrip s hs]; rfl

/-- No two stored constructors of an enum share a serde (JSON) name, so the decoder sees the
constructor the encoder wrote. -/
theorem serde_names_distinct :
    ∀ p ∈ valuesetDispatch :: pairs, ∀ i j, i < p.nDb → j < p.nDb → i ≠ j →
      p.dbSerdeIds[i]? ≠ p.dbSerdeIds[j]? := by
  intro p hp i j hi hj hne
  exact TagPair.serdeOk_sound ((List.all_eq_true.mp gen_serde_ok) p hp) hi hj hne

/-! ## Passwords: variant *and* parameters, and behaviour -/

/-- A password of any `Kdf` variant with any parameter values, stored with
`to_dbpasswordv1` and reloaded with `TryFrom<DbPasswordV1>`, is the identical `Kdf` value:
same variant, every field in its own slot. -/
theorem password_roundtrip_fields :
    ∀ v, passwordRec.wf v → passwordRec.roundtrip v = some v :=
  fun v hv => RecPair.roundtrip_of_ok gen_passwordRec_ok v hv

/-- non-vacuity: a PBKDF2 value (variant 2: cost, salt, hash) and an ARGON2ID value -/
example : passwordRec.wf ⟨2, [10000, 77, 99]⟩ ∧
    passwordRec.roundtrip ⟨2, [10000, 77, 99]⟩ = some ⟨2, [10000, 77, 99]⟩ := by decide
example : passwordRec.wf ⟨1, [4096, 3, 1, 19, 500, 600]⟩ ∧
    passwordRec.encode ⟨1, [4096, 3, 1, 19, 500, 600]⟩ = some ⟨1, [4096, 3, 1, 19, 500, 600]⟩ := by
  decide

/-- "Identical behaviour": whatever the hash primitives are, the reloaded password accepts
exactly the cleartexts the original accepted. -/
theorem password_verify_preserved (prim : Nat → List Nat → Nat → Bool) (v : RVal)
    (hv : passwordRec.wf v) (cleartext : Nat) :
    (passwordRec.roundtrip v).map (verify prim · cleartext) = some (verify prim v cleartext) := by
  rw [password_roundtrip_fields v hv]; rfl

/-- Sensitivity (D2 as it was): with the decoder arm of `CRYPT_SHA512` (14) yielding
`CRYPT_SHA256` (13) the check fails, and there are primitives and a cleartext for which the
reloaded password behaves differently. -/
def d2Dec : List (Nat × Option Nat) :=
  password.dec.map fun (d, a) => if d = 14 then (d, some 13) else (d, a)
example : ({ password with dec := d2Dec } : TagPair).ok = false := by decide +kernel
def d2Rec : RecPair :=
  { passwordRec with dec := passwordRec.dec.map fun a => if a.src = 14 then { a with dst := 13 } else a }
example : d2Rec.ok = false := by decide +kernel
example : ∃ prim v c, d2Rec.wf v ∧
    (d2Rec.roundtrip v).map (verify prim · c) ≠ some (verify prim v c) :=
  ⟨fun tag _ _ => tag == 14, ⟨14, [7]⟩, 0, by decide, by decide⟩

/-- Intent-token states (with their permission flags) also read back field by field. -/
theorem intent_token_roundtrip_fields :
    ∀ v, intentTokenStateRec.wf v → intentTokenStateRec.roundtrip v = some v :=
  fun v hv => RecPair.roundtrip_of_ok gen_intentRec_ok v hv

example : intentTokenStateRec.wf ⟨1, [3600, 11, 22, 1, 0, 1, 0, 1, 0]⟩ ∧
    intentTokenStateRec.roundtrip ⟨1, [3600, 11, 22, 1, 0, 1, 0, 1, 0]⟩ =
      some ⟨1, [3600, 11, 22, 1, 0, 1, 0, 1, 0]⟩ := by decide

/-! ## Timestamps (known finding D24) -/

/-- A stored-integer time codec reads a time back unchanged exactly when the time is a whole
number of its units. -/
theorem time_codec_roundtrip_iff (c : TimeCodec) (hpos : 0 < c.unitNs) (t : Nat) :
    c.load (c.store t) = t ↔ t % c.unitNs = 0 := by
  unfold TimeCodec.load TimeCodec.store
  constructor
  · intro h
    rw [← h]
    exact Nat.mul_mod_left _ _
  · intro h
    have := Nat.div_add_mod t c.unitNs
    rw [h, Nat.add_zero, Nat.mul_comm] at this
    exact this

/-- The full statement for the queued message's `expiry_time` (nanoseconds since the epoch):
every expiry time reads back unchanged. -/
def message_expiry_roundtrip_full : Prop :=
  ∀ t : Nat, messageExpiryCodec.load (messageExpiryCodec.store t) = t

/-- D24: it is false of the code as it is — `time::serde::timestamp` keeps whole seconds, the
server computes the expiry from a nanosecond clock. Witness: 1.5 s after the epoch reads back
as 1 s (replayed on the real code by the harness, class `message-expiry-subsecond-lost`). -/
theorem message_expiry_roundtrip_full_false : ¬ message_expiry_roundtrip_full :=
  fun h => absurd (h 1500000000) (by decide)

/-- What does hold: an expiry that is a whole number of stored units (whole seconds) reads back
unchanged. -/
theorem message_expiry_roundtrip_partial (t : Nat) (h : t % messageExpiryCodec.unitNs = 0) :
    messageExpiryCodec.load (messageExpiryCodec.store t) = t :=
  (time_codec_roundtrip_iff messageExpiryCodec (by decide) t).mpr h

example : messageExpiryCodec.load (messageExpiryCodec.store 1700000000000000000) = 1700000000000000000 := by
  decide

/-! ## Valuesets and whole entries -/

/-- A valueset of any struct (= any syntax) with any elements reads back from its stored form
as the same struct with the same elements. -/
theorem valueset_roundtrip (v : VS) (hk : v.kind < valuesetDispatch.nMem) :
    (toDbVS valuesetDispatch v).bind (fromDbVS valuesetDispatch) = some v :=
  vs_roundtrip gen_dispatch_ok v hk

example : (toDbVS valuesetDispatch ⟨25, [5, 6]⟩).bind (fromDbVS valuesetDispatch) = some ⟨25, [5, 6]⟩ := by
  decide

/-- Sensitivity (D20 as it was): `JwsKeyRs256` (stored constructor 35) dispatched to
`ValueSetJwsKeyEs256` (struct 24) fails the check. -/
def d20Dec : List (Nat × Option Nat) :=
  valuesetDispatch.dec.map fun (d, a) => if d = 35 then (d, some 24) else (d, a)
example : ({ valuesetDispatch with dec := d20Dec } : TagPair).ok = false := by decide +kernel

/-- An entry is well-formed when its change state is live or tombstone and every valueset is
one of the structs. -/
def Entry.wf (e : Entry) : Prop :=
  e.cs.tag < changestate.nMem ∧ ∀ kv ∈ e.attrs, kv.2.kind < valuesetDispatch.nMem

instance (e : Entry) : Decidable e.wf := by unfold Entry.wf; infer_instance

/-- `Entry::to_dbentry` then `Entry::from_dbentry`: the change state and every non-empty
valueset read back identically (an empty valueset is dropped — see
`entry_empty_set_dropped`), provided the uuid attribute is still there. -/
theorem entry_storage_roundtrip (single : VS → Option Nat) (uuidKey : Nat) (e : Entry)
    (hwf : e.wf)
    (huuid : ((e.attrs.filter nonEmptyVS).lookup uuidKey).bind single = some e.uuid) :
    (toDbEntry valuesetDispatch changestate e).bind
        (fun d => fromDbEntry valuesetDispatch changestate single uuidKey d e.id)
      = some { e with attrs := e.attrs.filter nonEmptyVS } :=
  entry_roundtrip gen_dispatch_ok single uuidKey e
    (tag_tables_roundtrip changestate (by simp [pairs]) _ hwf.1) hwf.2 huuid

/-- The full statement: every well-formed entry reads back as itself. -/
def entry_storage_roundtrip_full : Prop :=
  ∀ (single : VS → Option Nat) (uuidKey : Nat) (e : Entry), e.wf →
    (e.attrs.lookup uuidKey).bind single = some e.uuid →
    (toDbEntry valuesetDispatch changestate e).bind
        (fun d => fromDbEntry valuesetDispatch changestate single uuidKey d e.id) = some e

/-- The strongest part that holds: an entry without empty valuesets reads back as itself. -/
theorem entry_storage_roundtrip_partial (single : VS → Option Nat) (uuidKey : Nat) (e : Entry)
    (hwf : e.wf) (hne : ∀ kv ∈ e.attrs, kv.2.elems ≠ [])
    (huuid : (e.attrs.lookup uuidKey).bind single = some e.uuid) :
    (toDbEntry valuesetDispatch changestate e).bind
        (fun d => fromDbEntry valuesetDispatch changestate single uuidKey d e.id) = some e := by
  have hf : e.attrs.filter nonEmptyVS = e.attrs := by
    apply List.filter_eq_self.mpr
    intro kv hkv
    have := hne kv hkv
    simp [nonEmptyVS, this]
  have := entry_storage_roundtrip single uuidKey e hwf (by rw [hf]; exact huuid)
  rw [this, hf]

/-- non-vacuity: a live entry with a uuid (attr 0, struct 47 = `ValueSetUuid`), a name and a
JWS RS256 key set -/
def sampleEntry : Entry :=
  ⟨900, 7, ⟨0, 5, [(0, 5), (1, 5), (2, 6)]⟩, [(0, ⟨47, [900]⟩), (1, ⟨18, [41]⟩), (2, ⟨25, [81, 82]⟩)]⟩
def sampleSingle (v : VS) : Option Nat := if v.kind = 47 then v.elems.head? else none
example : (toDbEntry valuesetDispatch changestate sampleEntry).bind
    (fun d => fromDbEntry valuesetDispatch changestate sampleSingle 0 d 7) = some sampleEntry := by
  decide

/-- What the code does with an in-memory *empty* valueset: it is stored, but not loaded
(finding `empty-valueset-dropped`; the harness replays it on a recycled person whose sessions
were purged). -/
def emptySetEntry : Entry := ⟨900, 7, ⟨0, 5, []⟩, [(0, ⟨47, [900]⟩), (1, ⟨46, []⟩)]⟩

theorem entry_empty_set_dropped :
    ∃ e : Entry, e.wf ∧
      (toDbEntry valuesetDispatch changestate e).bind
        (fun d => fromDbEntry valuesetDispatch changestate sampleSingle 0 d e.id) ≠ some e :=
  ⟨emptySetEntry, by decide, by decide⟩

/-- …so the full statement is false of the code as it is. -/
theorem entry_storage_roundtrip_full_false : ¬ entry_storage_roundtrip_full := fun h =>
  absurd (h sampleSingle 0 emptySetEntry (by decide) (by decide)) (by decide)

/-! ## Replication -/

theorem replState_roundtrip {rst : TagPair} (hrst : rst = replState ∨ rst = replIncrState) {a : Nat}
    (ha : a < 2) : rst.roundtrip a = some a := by
  rcases hrst with rfl | rfl <;> exact tag_tables_roundtrip _ (by simp [pairs]) a ha

/-- `ReplEntryV1::new … rehydrate` (`within k _ = is_replicated k`) and
`ReplIncrementalEntryV1::new … rehydrate` (`within k cid` = replicated ∧ cid in the requested
range): the consumer obtains the entry's uuid, its change state restricted to the supplied
attributes, and for each supplied attribute exactly the supplier's valueset (nothing for an
absent or empty one). -/
theorem repl_roundtrip (rst : TagPair) (hrst : rst = replState ∨ rst = replIncrState)
    (within : Nat → Nat → Bool) (e : Entry)
    (hlive : e.cs.tag = 0)
    (hattrs : ∀ kv ∈ e.attrs, kv.2.kind < valuesetDispatch.nMem)
    (hnodup : (e.cs.changes.map (·.1)).Nodup) :
    (replNew valuesetDispatch rst within e).bind (replRehydrate valuesetDispatch rst)
      = some (e.uuid, (replExpected within e).1, (replExpected within e).2) :=
  repl_live_roundtrip gen_dispatch_ok (replState_roundtrip hrst (by decide)) within e hlive hattrs hnodup

/-- A tombstone replicates as a tombstone with the same cid. -/
theorem repl_tombstone_roundtrip (rst : TagPair) (hrst : rst = replState ∨ rst = replIncrState)
    (within : Nat → Nat → Bool) (e : Entry) (htomb : e.cs.tag = 1) :
    (replNew valuesetDispatch rst within e).bind (replRehydrate valuesetDispatch rst)
      = some (e.uuid, ⟨1, e.cs.atCid, []⟩, []) :=
  repl_tomb_roundtrip (replState_roundtrip hrst (by decide)) within e htomb

/-- non-vacuity: attribute 1 is replicated and non-empty, 2 is replicated but empty in memory,
3 is not replicated, 4 is replicated but absent -/
example :
    (replNew valuesetDispatch replState (fun k _ => k != 3)
      ⟨900, 7, ⟨0, 5, [(1, 5), (2, 6), (3, 6), (4, 7)]⟩,
        [(1, ⟨18, [41]⟩), (2, ⟨46, []⟩), (3, ⟨25, [81]⟩)]⟩).bind
      (replRehydrate valuesetDispatch replState)
    = some (900, ⟨0, 5, [(1, 5), (2, 6), (4, 7)]⟩, [(1, ⟨18, [41]⟩)]) := by decide

/-- the numbering the model relies on: variant 0 of the change state is `Live` -/
example : changestate.memNames = ["Live", "Tombstone"] ∧ replState.memNames = ["Live", "Tombstone"]
    ∧ replIncrState.memNames = ["Live", "Tombstone"] := ⟨rfl, rfl, rfl⟩

/-! ## Derived fields: what a struct keeps but its encoder does not write

`equal`, the stored form and the index keys cannot see such a field (`ValueSetOauth2Session.rs_filter`,
the bit-mask pre-filter behind `contains(Refer(rs_uuid))` / `remove(Refer(rs_uuid))`); only the
decoder can get it wrong. `decodeCtors` is re-read from every `from_dbvs2` on every run. -/

/-- Every struct of the dispatch has a decoder in the table, and every decoder reached from
`from_db_valueset_v2` either goes through the struct's canonical in-memory constructor or
builds the struct by literals each of which assigns EVERY field of `pub struct ValueSetX { … }`
from a source that follows the stored data on every path: never a constant, and an accumulator
only if it is updated in the loop body itself or in every arm (stored record version) that
yields an element. -/
theorem decoders_rebuild_every_field :
    (∀ s, s < valuesetDispatch.nMem → ∃ c ∈ decodeCtors, c.struct = s) ∧
    ∀ c ∈ decodeCtors, c.via.isSome = true ∨
      (c.literals ≠ [] ∧ ∀ l ∈ c.literals,
        (∀ f ∈ l, f.ok = true) ∧ ∀ i, i < c.nFields → ∃ f ∈ l, f.field = i) := by
  refine ⟨fun s hs => ?_, fun c hc => ?_⟩
  · simpa using (List.all_eq_true.mp gen_decodeCtors_cover) s (List.mem_range.mpr hs)
  · simpa only [literalOk_iff] using
      DecodeCtor.ok_iff.mp ((List.all_eq_true.mp gen_decodeCtors_ok) c hc)

/-- The table is not trivially satisfied: `ValueSetOauth2Session::from_dbvs2` builds the struct by
a literal whose second field `rs_filter` is an accumulator updated in the arms of the `match`
over the three stored record versions. -/
example : ∃ c ∈ decodeCtors, c.structName = "ValueSetOauth2Session" ∧ c.via = none ∧
    ∃ l ∈ c.literals, ∃ f ∈ l, f.kind = 1 ∧ f.uniform = 0 ∧ f.arms.length = 3 := by decide +kernel

/-- For ALL stored contents: whatever the stored elements are (`(arm, bits)`: which record
version converts the element, which bits it contributes — `rs_uuid.as_u128()`), the mask an
accumulator field of any decoder ends up with admits every element the decoder keeps:
`bits &&& mask = bits`, the test `contains` / `remove` make before they look at the map. A reloaded
value set therefore never answers "not here" for a member because of its pre-filter. -/
theorem decoded_mask_admits_members :
    ∀ c ∈ decodeCtors, ∀ l ∈ c.literals, ∀ f ∈ l, f.kind = 1 →
      ∀ (els : List (Nat × Nat)), ∀ e ∈ f.kept els, maskAdmits (f.accumulate els) e.2 = true := by
  intro c hc l hl f hf hk els e he
  exact DecodeCtor.mask_admits ((List.all_eq_true.mp gen_decodeCtors_ok) c hc)
    ((List.all_eq_true.mp gen_decodeCtors_via_no_literals) c hc) hl hf hk els he

/-- Sensitivity: drop the update from the arm of the record version the encoder writes
(`rs_filter |= rs_uuid.as_u128()` missing in `V3`) and a stored session is no longer admitted. -/
def rsFilterWithoutV3Update : DecodeField :=
  { field := 1, name := "rs_filter", kind := 1, uniform := 0, remark := "sensitivity witness",
    arms := [⟨"V1", true, true⟩, ⟨"V2", true, true⟩, ⟨"V3", true, false⟩] }

example : rsFilterWithoutV3Update.ok = false ∧
    (2, 5) ∈ rsFilterWithoutV3Update.kept [(2, 5)] ∧
    maskAdmits (rsFilterWithoutV3Update.accumulate [(2, 5)]) 5 = false := by decide

/-- Non-vacuity of the general statement: with the table as generated, a kept element exists and
is admitted. -/
example : ∃ c ∈ decodeCtors, ∃ l ∈ c.literals, ∃ f ∈ l, f.kind = 1 ∧
    (2, 5) ∈ f.kept [(0, 2), (2, 5)] ∧ f.accumulate [(0, 2), (2, 5)] = 7 := by decide

end Kanidm.StoreCodec
