import KanidmProofs.Lemmas.Intent
/-!
# C37 — Credential reset links are single use

The model (`KanidmModel/Intent.lean`) transcribes the reset-link ("intent token") state machine of `idm/credupdatesession.rs`; its
constants, comparisons, `match`-arm tables and written states are regenerated from the source on
every run (`KanidmModel/Generated/IntentOps.lean`), so every theorem below is re-proved about the
current source.

All theorems quantify over **every** well-formed server state (any number of accounts, links and
open sessions) and **every** finite sequence of operations with arbitrary arguments — forged
session tokens, unknown link ids and non-monotone clocks included. `trace s ops` is the list of
`(operation, result)` pairs of running `ops` from `s`; a committed credential change *through link
`L`* is an event `(_, .committed (some L) acct cred)`.
-/
namespace Kanidm.Intent
open Kanidm.Gen.Intent

/-- The tables the translator regenerates from the four functions say what the
property needs of them: exchange is refused from `Consumed` and goes on from `Valid`/`InProgress`;
commit and cancel go on only from `InProgress` and only past the session-id test, which is
inequality; exchange writes `InProgress`, commit and revoke write `Consumed`, cancel writes `Valid`;
a link counts as expired from `max_ttl` on, a session token from its `max_ttl` on; the session id
and the token expiry are the instant plus `MAXIMUM_CRED_UPDATE_TTL`. -/
theorem tables_are_spec :
    (∀ t, (∃ e, exchangeArm t = .reject e) ↔ (t = .consumed ∨ t = .absent)) ∧
    (∀ t, exchangeArm t = .proceed ↔ (t = .valid ∨ t = .inProgress)) ∧
    (∀ t, (∃ e, commitArm t = .checkSession e) ↔ t = .inProgress) ∧
    (∀ t, (∃ e, commitArm t = .reject e) ↔ t ≠ .inProgress) ∧
    (∀ t, (∃ e, cancelArm t = .checkSession e) ↔ t = .inProgress) ∧
    (∀ t, (∃ e, cancelArm t = .reject e) ↔ t ≠ .inProgress) ∧
    (∀ a b, commitConflict a b = true ↔ a ≠ b) ∧ (∀ a b, cancelConflict a b = true ↔ a ≠ b) ∧
    (∀ t, revokeArm t = .proceed ↔ (t = .valid ∨ t = .inProgress)) ∧
    (∀ t, revokeArm t = .skip ↔ (t = .consumed ∨ t = .absent)) ∧
    exchangeWrites = .inProgress ∧ commitWrites = .consumed ∧ cancelWrites = .valid ∧
    revokeWrites = .consumed ∧
    (∀ ct m, intentExpired ct m = true ↔ m ≤ ct) ∧ (∀ ct m, tokenExpired ct m = true ↔ m ≤ ct) ∧
    (∀ ct m, tokenExpiredRead ct m = true ↔ m ≤ ct) ∧ (∀ ct m, purgeOld ct m = true ↔ m ≤ ct) ∧
    (∀ ct ttl, exchangeSessTime ct ttl = ct + ttl ∧ exchangeSessTtl ct ttl = ct + ttl ∧
      directSessTime ct ttl = ct + ttl ∧ tokenMaxTtl ct ttl = ct + ttl) ∧
    (∀ ct, expireSplitTime ct = ct) ∧ (∀ ct c, intentMaxTtl ct c = ct + c) ∧
    minIntentTtlSecs ≤ defaultIntentTtlSecs ∧ defaultIntentTtlSecs ≤ maxIntentTtlSecs ∧
    0 < credUpdateTtlSecs := by
  refine ⟨?_, ?_, ?_, ?_, ?_, ?_, ?_, ?_, ?_, ?_, rfl, rfl, rfl, rfl, ?_, ?_, ?_, ?_, ?_, ?_, ?_,
    by decide, by decide, by decide⟩
  · intro t; cases t <;> simp [exchangeArm]
  · intro t; cases t <;> simp [exchangeArm]
  · intro t; cases t <;> simp [commitArm]
  · intro t; cases t <;> simp [commitArm]
  · intro t; cases t <;> simp [cancelArm]
  · intro t; cases t <;> simp [cancelArm]
  · intro a b; simp [commitConflict]
  · intro a b; simp [cancelConflict]
  · intro t; cases t <;> simp [revokeArm]
  · intro t; cases t <;> simp [revokeArm]
  · intro ct m; simp [intentExpired]
  · intro ct m; simp [tokenExpired]
  · intro ct m; simp [tokenExpiredRead]
  · intro ct m; simp [purgeOld]
  · intro ct ttl; simp [exchangeSessTime, exchangeSessTtl, directSessTime, tokenMaxTtl]
  · intro ct; rfl
  · intro ct c; rfl

/-- Every state reachable from the empty server is well formed (link ids
unique and below the allocation counter), so the theorems apply to every reachable state. -/
theorem wf_reachable (ops : List Op) : WF (run State.empty ops) :=
  wf_run wf_empty ops

/-- Once a change has been committed through link `L`, no later event of the
history is a successful exchange of `L` or another commit through `L`. -/
theorem consumed_is_final (s : State) (hwf : WF s) (ops : List Op) (L : Nat) :
    (trace s ops).Pairwise (fun a b =>
      isCommitFor L a = true → isExchangeOk L b = false ∧ isCommitFor L b = false) :=
  trace_pairwise (I := (Dead · L)) (fun hst hwf hc => hst.dead_after hwf (.inl hc))
    Step.dead hwf ops

/-- The exchange after the commit is refused with `SessionExpired`. -/
example : (trace State.empty
    [.init 1 none 1000, .exchange 0 2000 7, .setpw ⟨⟨900000002000, 7⟩, 900000002000⟩ 5 3000,
     .commit ⟨⟨900000002000, 7⟩, 900000002000⟩ 4000, .exchange 0 5000 9]).map (·.2) =
    [.link 0 3600000001000, .token ⟨⟨900000002000, 7⟩, 900000002000⟩, .pwset,
     .committed (some 0) 1 (some 5), .err .sessionExpired] := by
  decide

/-- After a successful `revoke` of link `L`, no later event is a successful
exchange of `L` or a commit through `L` (a session in progress at the time of the revocation is
refused at commit). -/
theorem revoked_is_final (s : State) (hwf : WF s) (ops : List Op) (L : Nat) :
    (trace s ops).Pairwise (fun a b =>
      isRevokeOk L a = true → isExchangeOk L b = false ∧ isCommitFor L b = false) :=
  trace_pairwise (I := (Dead · L)) (fun hst hwf hc => hst.dead_after hwf (.inr hc))
    Step.dead hwf ops

example : (trace State.empty
    [.init 1 none 1000, .exchange 0 2000 7, .setpw ⟨⟨900000002000, 7⟩, 900000002000⟩ 5 2500,
     .revoke 0 3000, .commit ⟨⟨900000002000, 7⟩, 900000002000⟩ 4000, .exchange 0 5000 8,
     .revoke 0 6000]).map (·.2) =
    [.link 0 3600000001000, .token ⟨⟨900000002000, 7⟩, 900000002000⟩, .pwset, .revoked,
     .err .cu0006IntentTokenInvalidated, .err .sessionExpired, .err .emptyRequest] := by
  decide

/-- In any history from any well-formed state, at most one event is a
committed credential change through link `L`. -/
theorem at_most_one_commit (s : State) (hwf : WF s) (ops : List Op) (L : Nat) :
    ((trace s ops).filter (isCommitFor L)).length ≤ 1 := by
  have h := (consumed_is_final s hwf ops L).imp fun h hc => (h hc).2
  generalize trace s ops = evs at h
  induction h with
  | nil => exact Nat.zero_le _
  | @cons a l ha _ ih =>
    rw [List.filter_cons]
    split
    · rw [List.filter_eq_nil_iff.mpr fun b hb => by simp [ha b hb ‹_›]]
      exact Nat.le_refl _
    · exact ih

example : ((trace State.empty
    [.init 1 none 1000, .exchange 0 2000 7, .setpw ⟨⟨900000002000, 7⟩, 900000002000⟩ 5 3000,
     .commit ⟨⟨900000002000, 7⟩, 900000002000⟩ 4000,
     .commit ⟨⟨900000002000, 7⟩, 900000002000⟩ 5000]).filter (isCommitFor 0)).length = 1 := by
  decide

/-- When `init` has announced link `L` with expiry `M`, every later
successful exchange of `L` happens at an instant strictly before `M` — whatever happened to the
link in between (exchanges, cancels, revocations, other links, clock steps backwards). -/
theorem no_exchange_after_expiry (s : State) (hwf : WF s) (ops : List Op) :
    (trace s ops).Pairwise (fun a b => ∀ L M, a.2 = .link L M →
      ∀ ct sid k, b = (.exchange L ct sid, .token k) → ct < M) :=
  -- `trace_pairwise` for each `L`, `M`; the quantifiers go inside `Pairwise` pair by pair
  List.pairwise_of_forall_sublist fun hab L M => (trace_pairwise (I := (TtlIs · L M))
    (A := (·.2 = .link L M)) (E := fun b => ∀ ct sid k, b = (.exchange L ct sid, .token k) → ct < M)
    (fun {_ _ _ r} hst hwf (hr : r = _) => (hr ▸ hst).init_ttl hwf) (fun hst h => hst.ttl h)
    hwf ops).forall_sublist hab

/-- The same for a link already stored in the starting state: it is
never exchanged at or after its stored `max_ttl`. -/
theorem stored_link_expiry_final (s : State) (hwf : WF s) (l : Link) (hl : l ∈ s.links)
    (ops : List Op) :
    ∀ ev ∈ trace s ops, ∀ ct sid k, ev = (.exchange l.id ct sid, .token k) → ct < l.st.maxTtl := by
  have h : TtlIs s l.id l.st.maxTtl :=
    ⟨hwf.2 l hl, fun l' hl' hid => by rw [Keyed.eq_of_key_eq Link.id hwf.1 hl' hl hid]⟩
  exact (ttl_trace h ops).2

/-- The announced expiry is the instant of `init` plus the requested
lifetime clamped to [`MINIMUM_INTENT_TTL`, `MAXIMUM_INTENT_TTL`] (`DEFAULT_INTENT_TTL` if none). -/
theorem expiry_is_clamped (s : State) (a : Nat) (ttl : Option Nat) (ct : Nat) :
    ∃ L M, (step s (.init a ttl ct)).2 = .link L M ∧ M = ct + clampTtl ttl ∧
      minIntentTtlSecs * NS ≤ clampTtl ttl ∧ clampTtl ttl ≤ maxIntentTtlSecs * NS ∧
      (ttl = none → clampTtl ttl = defaultIntentTtlSecs * NS) := by
  have hmm : minIntentTtlSecs * NS ≤ maxIntentTtlSecs * NS := Nat.mul_le_mul_right _ (by decide)
  have bounds : minIntentTtlSecs * NS ≤ clampTtl ttl ∧ clampTtl ttl ≤ maxIntentTtlSecs * NS := by
    fun_cases clampTtl ttl
    · exact ⟨Nat.le_refl _, hmm⟩ -- below the minimum
    · exact ⟨hmm, Nat.le_refl _⟩ -- above the maximum
    · omega -- in range
  exact ⟨s.nextLink, ct + clampTtl ttl, rfl, rfl, bounds.1, bounds.2, fun h => by subst h; decide⟩

/-- Exchange one nanosecond before the expiry succeeds, at the expiry it is refused. -/
example : (trace State.empty
    [.init 1 (some (300 * NS)) 1000, .exchange 0 (300 * NS + 999) 7, .exchange 0 (300 * NS + 1000) 8]).map (·.2) =
    [.link 0 (300 * NS + 1000), .token ⟨⟨1200 * NS + 999, 7⟩, 1200 * NS + 999⟩, .err .sessionExpired] := by
  decide

/-- Under H3: let link `L` be exchanged (token `k1`), then, after
any operations, exchanged again (token `k2`). If no operation after the first exchange hands out a
token with `k1`'s session id again (H3: session ids — instant ‖ per-transaction random `sid` — of
distinct session starts are distinct), then every later commit *and* cancel presented with `k1`'s
session id is refused. -/
theorem superseded_cannot_commit (s : State) (L t1 sid1 t2 sid2 : Nat) (k1 k2 : Token)
    (ops2 ops3 : List Op)
    (h1 : (step s (.exchange L t1 sid1)).2 = .token k1)
    (h2 : (step (run (step s (.exchange L t1 sid1)).1 ops2) (.exchange L t2 sid2)).2 = .token k2)
    (H3 : ∀ ev ∈ trace (step s (.exchange L t1 sid1)).1 (ops2 ++ .exchange L t2 sid2 :: ops3),
      mintsSess k1.sess ev = false) :
    ∀ ev ∈ trace (step (run (step s (.exchange L t1 sid1)).1 ops2) (.exchange L t2 sid2)).1 ops3,
      ∀ k ct, k.sess = k1.sess → (ev.1 = .commit k ct ∨ ev.1 = .cancel k ct) →
        ∃ e, ev.2 = .err e := by
  rw [trace_append] at H3
  simp only [trace, List.mem_append, List.mem_cons] at H3
  have hst1 := step_spec s (.exchange L t1 sid1)
  rw [h1] at hst1
  have hown := owned_run hst1.owned_after_exchange ops2 (fun ev hev => H3 ev (Or.inl hev))
  have hk2 : k2.sess ≠ k1.sess := by
    have := H3 _ (Or.inr (Or.inl rfl))
    rw [h2] at this
    simpa [mintsSess] using this
  have hst2 := step_spec (run (step s (.exchange L t1 sid1)).1 ops2) (.exchange L t2 sid2)
  rw [h2] at hst2
  have hb := hst2.blocked_after_exchange hown hk2
  exact blocked_trace hb ops3 (fun ev hev => H3 ev (Or.inr (Or.inr hev)))

/-- H3 holds in particular when every
session-creating operation after the first exchange happens at an instant different from the
first exchange's (the form of H3 in DESIGN §6). -/
theorem superseded_cannot_commit_distinct_instants (s : State) (L t1 sid1 t2 sid2 : Nat)
    (k1 k2 : Token) (ops2 ops3 : List Op)
    (h1 : (step s (.exchange L t1 sid1)).2 = .token k1)
    (h2 : (step (run (step s (.exchange L t1 sid1)).1 ops2) (.exchange L t2 sid2)).2 = .token k2)
    (hd : ∀ op ∈ ops2 ++ .exchange L t2 sid2 :: ops3, mintInstant op ≠ some t1) :
    ∀ ev ∈ trace (step (run (step s (.exchange L t1 sid1)).1 ops2) (.exchange L t2 sid2)).1 ops3,
      ∀ k ct, k.sess = k1.sess → (ev.1 = .commit k ct ∨ ev.1 = .cancel k ct) →
        ∃ e, ev.2 = .err e := by
  have hst1 := step_spec s (.exchange L t1 sid1)
  rw [h1] at hst1
  obtain ⟨ct, hct, hk⟩ := hst1.mint_time
  simp only [mintInstant, Option.some.injEq] at hct
  subst hct
  exact superseded_cannot_commit s L t1 sid1 t2 sid2 k1 k2 ops2 ops3 h1 h2
    (no_mint_of_distinct_instants _ _ k1.sess t1 hk hd)

/-- The hypotheses are satisfiable, and the refusal is `CU0005IntentTokenConflict`: exchange at
2000, set a password, exchange again at 3000, commit with the first token. -/
example : (trace State.empty
    [.init 1 none 1000, .exchange 0 2000 7, .setpw ⟨⟨900000002000, 7⟩, 900000002000⟩ 5 2500,
     .exchange 0 3000 8, .commit ⟨⟨900000002000, 7⟩, 900000002000⟩ 4000]).map (·.2) =
    [.link 0 3600000001000, .token ⟨⟨900000002000, 7⟩, 900000002000⟩, .pwset,
     .token ⟨⟨900000003000, 8⟩, 900000003000⟩, .err .cu0005IntentTokenConflict] := by
  decide

/-- The unhypothesised statement: after a second successful exchange of the same link every commit
with the first token's session id is refused. -/
def superseded_cannot_commit_full : Prop :=
  ∀ (s : State) (L t1 sid1 t2 sid2 : Nat) (k1 k2 : Token) (ct : Nat),
    WF s → (step s (.exchange L t1 sid1)).2 = .token k1 →
    (step (step s (.exchange L t1 sid1)).1 (.exchange L t2 sid2)).2 = .token k2 →
    ∃ e, (step (step (step s (.exchange L t1 sid1)).1 (.exchange L t2 sid2)).1 (.commit k1 ct)).2 = .err e

/-- H3 is necessary *in the model*: two exchanges of one
link at the same instant in transactions that drew the same `sid` share one session id, the second
session replaces the first in the session map, and the first token commits. (On the real server the
`sid` is 4 random bytes per transaction: the harness exercises the same-instant point and counts
how the implementation answers; see notes/C37.md.) -/
theorem superseded_cannot_commit_full_false : ¬ superseded_cannot_commit_full := by
  intro h
  have := h ⟨[⟨0, 1, .valid 3600000001000⟩], [], [(1, 4)], 1⟩ 0 2000 7 2000 7
    ⟨⟨900000002000, 7⟩, 900000002000⟩ ⟨⟨900000002000, 7⟩, 900000002000⟩ 4000
    (by unfold WF; decide) (by decide) (by decide)
  obtain ⟨e, he⟩ := this
  have hc : (step (step (step ⟨[⟨0, 1, .valid 3600000001000⟩], [], [(1, 4)], 1⟩
      (.exchange 0 2000 7)).1 (.exchange 0 2000 7)).1
      (.commit ⟨⟨900000002000, 7⟩, 900000002000⟩ 4000)).2 = .committed (some 0) 1 (some 4) := by
    decide
  rw [hc] at he
  cases he

/-- A successful cancel of a session that originated from link `L`
was presented with the session id the link was in progress under, leaves `L` `Valid` with its
expiry unchanged, and `L` can then be exchanged again at any instant before that expiry. -/
theorem cancel_returns_to_valid (s : State) (hwf : WF s) (k : Token) (ct L : Nat)
    (h : (step s (.cancel k ct)).2 = .cancelled (some L)) :
    ∃ l ∈ s.links, l.id = L ∧ (∃ t, l.st = .inProgress l.st.maxTtl k.sess t) ∧
      (⟨L, l.acct, .valid l.st.maxTtl⟩ : Link) ∈ (step s (.cancel k ct)).1.links ∧
      ∀ ct' sid, ct' < l.st.maxTtl →
        ∃ k', (step (step s (.cancel k ct)).1 (.exchange L ct' sid)).2 = .token k' := by
  have hwf' := wf_step hwf (.cancel k ct)
  have hst := step_spec s (.cancel k ct)
  rw [h] at hst
  generalize (step s (.cancel k ct)).1 = s' at hst hwf' ⊢
  cases hst with
  | @cancelLink _ _ se l m t _ _ hl hlm hacct hst =>
    have hm : l.st.maxTtl = m := by rw [hst]; rfl
    have hmem : (⟨l.id, l.acct, .valid l.st.maxTtl⟩ : Link) ∈
        s.links.map (rewrite (fun x => x.id == l.id && x.acct == se.acct) .valid) :=
      mem_map_rewrite.mpr (.inr ⟨l, hlm, by simp [hacct], rfl⟩)
    refine ⟨l, hlm, rfl, ⟨t, by rw [hm]; exact hst⟩, hmem, ?_⟩
    -- after the cancel the only link under `L` is `Valid`
    exact fun ct' sid hct => exchange_ok_of_unique_valid (Keyed.filter_of_mem Link.id hwf'.1 hmem) rfl hct sid

example : (trace State.empty
    [.init 1 none 1000, .exchange 0 2000 7, .cancel ⟨⟨900000002000, 7⟩, 900000002000⟩ 3000,
     .exchange 0 4000 8]).map (·.2) =
    [.link 0 3600000001000, .token ⟨⟨900000002000, 7⟩, 900000002000⟩, .cancelled (some 0),
     .token ⟨⟨900000004000, 8⟩, 900000004000⟩] := by
  decide

/-- A step changes the stored credentials only if it is a
successful commit, and then the committing session's account holds exactly the session's
credential. Together with `at_most_one_commit`: a link leads to at most one stored change. -/
theorem credential_changes_only_by_commit (s : State) (op : Op) :
    (step s op).1.creds = s.creds ∨
      ∃ l a c, (step s op).2 = .committed l a c ∧ getCred a (step s op).1.creds = c := by
  rcases (step_spec s op).creds with h | ⟨l, a, c, hr, hc⟩
  · exact Or.inl h
  · exact Or.inr ⟨l, a, c, hr, by rw [hc, getCred_setCred]⟩

end Kanidm.Intent
