import KanidmProofs.Lemmas.PamAuth
/-!
# C43 — PAM fails closed

`connected`, `fallback`, `smAuthenticate`, `acctMgmt`, `parseCrypt`, `checkPw` transcribe
`sm_authenticate_connected`, `sm_authenticate_fallback`, `sm_authenticate`, `acct_mgmt`
(pam_sparkle_common/src/core.rs) and `CryptPw::from_str` / `check_pw` (common/src/unix_passwd.rs);
the reply → action table, every early-return code, the expiry comparison, the hash prefix table
and the `acct_mgmt` table are regenerated from the source on every run
(`Generated/PamOps.lean`), so each theorem is re-proved about the code as it is now.

`Handler.Sane` — "an `Err` of the `PamHandler` never carries `PAM_SUCCESS`" — is what the real
`PamHandle` guarantees (the translator checks all its error sites); without it the module
hands such an error up unchanged (`connected_full_false`).
-/
namespace Kanidm.Pam
open Kanidm.Gen.Pam

/-- **Every other reply is a non-success.**  Of all `ClientResponse` shapes only the step reply
`Success` maps to `PAM_SUCCESS`; `Denied`, `Unknown` (either setting of `ignore_unknown_user`),
`Error`, every wrong reply kind, a failed call, an unanswered prompt and an exhausted
conversation map to something else. -/
theorem every_other_reply_nonsuccess :
    (∀ k c, stepAction k = .ret c → (c = .success ↔ k = .success)) ∧
    (∀ k a b, stepAction k = .retIf a b → a ≠ .success ∧ b ≠ .success) ∧
    (∀ k, otherCode k ≠ .success) ∧
    callErrCode ≠ .success ∧ noneCode ≠ .success ∧ exhaustedCode ≠ .success :=
  ⟨stepAction_ret, fun k a b h => ⟨(stepAction_retIf k a b h).1, (stepAction_retIf k a b h).2.1⟩,
   otherCode_ne_success, callErrCode_ne_success, noneCode_ne_success, exhaustedCode_ne_success⟩

/-- **`PAM_SUCCESS` iff the last reply consumed is an explicit `Success`** — for every script of
daemon replies / failures (any length, any order, any session ids), every module option and every
sane handler script; the consumed events are a prefix of the daemon's script. -/
theorem connected_success_iff (opts : Opts) (h : Handler) (script : List DEvent) (hs : h.Sane) :
    ((connected opts h script).code = .success ↔ EndsInSuccess (connected opts h script).consumed) ∧
    (connected opts h script).consumed <+: script := by
  -- a handler error ends the call before anything is sent
  have early : ∀ {c : PamCode}, c ≠ .success → (c = .success ↔ EndsInSuccess []) ∧ [] <+: script :=
    fun hc => ⟨iff_of_false hc not_endsInSuccess_nil, List.nil_prefix⟩
  fun_cases connected opts h script
  · exact early fun hc => hs.serviceInfo (hc ▸ ‹h.serviceInfo = _›)   -- `service_info` fails
  · exact early (hs.accountId.err ‹_›)                                -- `account_id` fails
  · exact early (hs.authtok.err ‹_›)                                  -- `authtok` fails
  · exact connLoop_spec opts script _ h.prompts _ hs.prompts          -- the loop, with the stacked token
  · exact connLoop_spec opts script none h.prompts _ hs.prompts       -- the loop, without

/-- Corollary, as the statement reads: success only when the daemon explicitly reported success. -/
theorem connected_success_needs_explicit_success (opts : Opts) (h : Handler) (script : List DEvent)
    (hs : h.Sane) (hc : (connected opts h script).code = .success) :
    ∃ sid, DEvent.reply (.step .success sid) ∈ script := by
  obtain ⟨h1, h2⟩ := connected_success_iff opts h script hs
  obtain ⟨sid, hl⟩ := h1.mp hc
  exact ⟨sid, h2.subset (List.mem_of_getLast? hl)⟩

/-- The same claim without the handler hypothesis … -/
def connected_full : Prop :=
  ∀ (opts : Opts) (h : Handler) (script : List DEvent),
    (connected opts h script).code = .success → ∃ sid, DEvent.reply (.step .success sid) ∈ script

/-- … is false of the code: an error of the handler is handed up unchanged, whatever it is.
(The real `PamHandle` never produces `Err(PAM_SUCCESS)`; the translator checks its error sites.) -/
theorem connected_full_false : ¬ connected_full := by
  intro hf
  obtain ⟨_, h⟩ := hf ⟨false, false⟩ ⟨some .success, .ok (some 1), .ok none, []⟩ [] rfl
  cases h

/-- The password field names a supported scheme: it starts with one of the generated prefixes. -/
def Supported (s : List Char) : Prop := ∃ p k, (p, k) ∈ prefixTable ∧ p <+: s

/-- `check_pw` can only say yes for a supported hash of well-formed shape that the scheme's
verifier accepts. -/
theorem checkPw_true (verify : HashKind → List Char → Nat → Bool) (s : List Char) (cred : Nat)
    (h : checkPw verify s cred = true) :
    Supported s ∧ digestCanonical (digestShape (parseCrypt s)) s = true ∧
      verify (parseCrypt s) s cred = true := by
  obtain ⟨hk, hd, hv⟩ := (checkPw_iff verify s cred).mp h
  refine ⟨parseCryptWith_ne_default prefixTable s fun hd => ?_, hd, hv⟩
  rw [show parseCrypt s = noPrefixKind from hd] at hk
  cases hk

/-- **Malformed sha-crypt digests never verify** (D32): for a `$5$` / `$6$` field the text
after the last `$` must be exactly 43 / 86 characters of `[./0-9A-Za-z]`; otherwise `check_pw`
is false without the verifier being consulted — whatever it would say. -/
theorem malformed_sha_digest_never_verifies (verify : HashKind → List Char → Nat → Bool)
    (s : List Char) (cred : Nat)
    (h : (parseCrypt s = .sha256 ∧ (digestOf s).length ≠ 43) ∨
         (parseCrypt s = .sha512 ∧ (digestOf s).length ≠ 86) ∨
         ((parseCrypt s = .sha256 ∨ parseCrypt s = .sha512) ∧ (digestOf s).all digestChar = false)) :
    checkPw verify s cred = false := by
  have hd : digestCanonical (digestShape (parseCrypt s)) s = false := by
    rcases h with ⟨hk, hl⟩ | ⟨hk, hl⟩ | ⟨hk | hk, hl⟩ <;> rw [hk]
    · exact digestCanonical_false (.inl hl)
    · exact digestCanonical_false (.inl hl)
    · exact digestCanonical_false (.inr hl)
    · exact digestCanonical_false (.inr hl)
  exact Bool.eq_false_iff.mpr fun hc => by rw [((checkPw_iff verify s cred).mp hc).2.1] at hd; cases hd

/- `rw [String.toList_ofList]` in front of the evaluations: it unifies the literal with `String.ofList` of its
characters, so the kernel is handed the list; left to evaluate `"…".toList` it decodes the literal's bytes
character by character, at ten times the cost of everything else in these examples. -/
example : digestOf "$5$saltsalt$short".toList = "short".toList := by
  rw [String.toList_ofList, String.toList_ofList]; decide +kernel
example : checkPw (fun _ _ _ => true) "$5$saltsalt$short".toList 1 = false := by
  rw [String.toList_ofList]; decide +kernel
example : digestCanonical (digestShape .sha256)
    "$5$saltsalt1$.2D7rJIcZS6MaTAFmL7U5JGXslM6CiRLRcc97p0i201".toList = true := by
  rw [String.toList_ofList]; decide +kernel
/-- one character appended to a valid digest: rejected before the verifier is asked -/
example : checkPw (fun _ _ _ => true)
    "$5$saltsalt1$.2D7rJIcZS6MaTAFmL7U5JGXslM6CiRLRcc97p0i201a".toList 1 = false := by
  rw [String.toList_ofList]; decide +kernel

/-- **Locked or empty password fields never authenticate**: a field that does not start with
`$` (empty, `!…`, `*…`, `x`, …) parses to `Invalid`, and `Invalid` never verifies — whatever
the verifier would say. -/
theorem locked_or_empty_never_authenticate (verify : HashKind → List Char → Nat → Bool)
    (s : List Char) (cred : Nat) (h : s.head? ≠ some '$') :
    parseCrypt s = .invalid ∧ checkPw verify s cred = false := by
  have hp : parseCrypt s = .invalid := by
    cases s with
    | nil => decide
    | cons c cs =>
      have hc : ¬ '$' = c := fun hc => h (by simp [← hc])
      simp [parseCrypt, parseCryptWith, prefixTable, List.isPrefixOf, hc, noPrefixKind]
  exact ⟨hp, by simp [checkPw, hp, kindVerifies]⟩

example : parseCrypt [] = .invalid ∧ parseCrypt ['!'] = .invalid ∧ parseCrypt ['*'] = .invalid ∧
    parseCrypt "!$6$salt$hash".toList = .invalid ∧ parseCrypt ['$', '6', '$', 'a'] = .sha512 := by
  rw [String.toList_ofList]; decide +kernel

/-- Which credential the fallback judges: the stacked authtok (with `use_first_pass`, if there
is one), else the answer to one password prompt. -/
theorem fallbackCred_inr (opts : Opts) (h : Handler) (cred : Nat)
    (hc : (fallbackCred opts h).1 = .inr cred) :
    (opts.useFirstPass = true ∧ h.authtok = .ok (some cred)) ∨
    ((opts.useFirstPass = false ∨ h.authtok = .ok none) ∧ (nextPrompt h.prompts).1 = .ok (some cred)) := by
  have ask : ∀ cs, (askPw h cs).1 = .inr cred → (nextPrompt h.prompts).1 = .ok (some cred) := by
    intro cs hx
    rw [askPw_fst] at hx
    split at hx <;> cases hx
    assumption
  revert hc
  fun_cases fallbackCred opts h <;> intro hc
  · cases hc                                                  -- `authtok` fails
  · cases hc; exact .inl ⟨‹_›, ‹_›⟩                           -- a stacked token
  · exact .inr ⟨.inr ‹_›, ask _ hc⟩                           -- none stacked: prompt
  · exact .inr ⟨.inl (Bool.eq_false_iff.mpr ‹_›), ask _ hc⟩   -- no `use_first_pass`: prompt

/-- **Fallback success iff** the account has a passwd and a shadow entry, the entry has not
expired, and the credential offered verifies (`check_pw`). -/
theorem fallback_success_iff (verify : HashKind → List Char → Nat → Bool) (opts : Opts) (h : Handler)
    (now : Int) (users : List Nat) (shadow : List Shadow) (hs : h.Sane) :
    (fallback verify opts h now users shadow).code = .success ↔
      ∃ acct s cred, h.accountId = .ok acct ∧ lookup users shadow (acctOf acct) = some s ∧
        isExpired now s = false ∧ (fallbackCred opts h).1 = .inr cred ∧
        checkPw verify s.pw cred = true := by
  constructor
  · intro hc
    revert hc
    fun_cases fallback verify opts h now users shadow <;> intro hc
    · exact absurd hc (hs.accountId.err ‹_›)                                        -- `account_id` fails
    · exact absurd hc (unknownCode_ne_success _)                              -- no passwd or shadow entry
    · exact absurd hc (by decide)                                             -- expired
    · -- no credential
      exact absurd hc (fallbackCred_sane opts h hs _ (by rw [‹fallbackCred opts h = _›]; rfl))
    · next hex cred _ hfc =>  -- a credential: `check_pw` decides
      refine ⟨_, _, cred, ‹_›, ‹_›, Bool.eq_false_iff.mpr hex, by rw [hfc], ?_⟩
      split at hc
      · assumption
      · cases hc
  · rintro ⟨acct, s, cred, ha, hl, hex, hfc, hck⟩
    cases hfc' : fallbackCred opts h with
    | mk res cs =>
      rw [hfc'] at hfc
      simp only at hfc
      subst hfc
      simp [fallback, ha, hl, hex, hfc', hck, pwOkCode, Out.noDaemon]

/-- An expired account never authenticates locally (expiry = `now ≥ expire`, generated). -/
theorem expired_never_authenticates (verify : HashKind → List Char → Nat → Bool) (opts : Opts)
    (h : Handler) (now : Int) (users : List Nat) (shadow : List Shadow) (hs : h.Sane)
    (acct : Option Nat) (s : Shadow) (e : Int)
    (ha : h.accountId = .ok acct) (hl : lookup users shadow (acctOf acct) = some s)
    (he : s.expire = some e) (hnow : e ≤ now) :
    (fallback verify opts h now users shadow).code ≠ .success := by
  intro hc
  obtain ⟨a, s', _, hx, hy, hz, _⟩ := (fallback_success_iff verify opts h now users shadow hs).mp hc
  rw [ha] at hx; cases hx
  rw [hl] at hy
  have : s = s' := Option.some.inj hy
  subst this
  simp [isExpired, he, expiredWhen, hnow] at hz

/-- **PAM fails closed.**  `sm_authenticate` reports `PAM_SUCCESS` only when the daemon was
reachable and one of its replies was an explicit `Success`, or the daemon was unreachable and the
local shadow entry of the account holds a supported hash that verifies the offered credential
and has not expired. -/
theorem pam_fails_closed (verify : HashKind → List Char → Nat → Bool) (opts : Opts) (h : Handler)
    (now : Int) (src : Source) (hs : h.Sane)
    (hc : (smAuthenticate verify opts h now src).code = .success) :
    match src with
    | .daemon script => ∃ sid, DEvent.reply (.step .success sid) ∈ script
    | .fallback users shadow =>
      ∃ acct s cred, h.accountId = .ok acct ∧ lookup users shadow (acctOf acct) = some s ∧
        (∀ e, s.expire = some e → now < e) ∧ (fallbackCred opts h).1 = .inr cred ∧
        Supported s.pw ∧ verify (parseCrypt s.pw) s.pw cred = true := by
  cases src with
  | daemon script => exact connected_success_needs_explicit_success opts h script hs hc
  | fallback users shadow =>
    obtain ⟨acct, s, cred, h1, h2, h3, h4, h5⟩ := (fallback_success_iff verify opts h now users shadow hs).mp hc
    obtain ⟨h6, _, h7⟩ := checkPw_true verify s.pw cred h5
    refine ⟨acct, s, cred, h1, h2, ?_, h4, h6, h7⟩
    intro e he
    simp only [isExpired, he, expiredWhen, decide_eq_false_iff_not] at h3
    omega

/-- With the daemon reachable, `acct_mgmt` succeeds iff the daemon's reply is
`PamStatus(Some(true))`; a failed call and every other reply are non-success. -/
theorem acct_mgmt_daemon_success_iff (opts : Opts) (h : Handler) (now : Int) (script : List DEvent)
    (hs : h.Sane) :
    (acctMgmt opts h now (.daemon script)).code = .success ↔
      h.serviceInfo = none ∧ (∃ a, h.accountId = .ok a) ∧
      script.head? = some (.reply (.pamStatus (some true))) := by
  constructor
  · intro hc
    obtain ⟨hsi, acct, hacc⟩ := acctMgmt_calls_ok hs hc
    refine ⟨hsi, ⟨acct, hacc⟩, ?_⟩
    simp only [acctMgmt, hsi, hacc] at hc
    cases script with
    | nil => simp [acctCallErrCode] at hc
    | cons ev rest =>
      cases ev with
      | fail => simp [acctCallErrCode] at hc
      | reply r =>
        cases r with
        | step _ _ | other _ => simp [acctOtherCode] at hc
        | pamStatus o =>
          cases o with
          | none => by_cases hi : opts.ignoreUnknownUser = true <;> simp [acctStatus, hi] at hc
          | some b => cases b <;> simp [acctStatus] at hc ⊢
  · rintro ⟨hsi, ⟨a, ha⟩, hd⟩
    cases script with
    | nil => cases hd
    | cons ev rest =>
      cases Option.some.inj hd
      simp [acctMgmt, hsi, ha, acctStatus]

/-- With the daemon unreachable, `acct_mgmt` succeeds iff the account has a passwd and a shadow
entry that has not expired. -/
theorem acct_mgmt_fallback_success_iff (opts : Opts) (h : Handler) (now : Int) (users : List Nat)
    (shadow : List Shadow) (hs : h.Sane) :
    (acctMgmt opts h now (.fallback users shadow)).code = .success ↔
      h.serviceInfo = none ∧ ∃ a s, h.accountId = .ok a ∧ lookup users shadow (acctOf a) = some s ∧
        isExpired now s = false := by
  constructor
  · intro hc
    obtain ⟨hsi, acct, hacc⟩ := acctMgmt_calls_ok hs hc
    simp only [acctMgmt, hsi, hacc] at hc
    cases hl : lookup users shadow (acctOf acct) with
    | none =>
      rw [hl] at hc
      exact absurd hc (unknownCode_ne_success _)
    | some s =>
      cases hex : isExpired now s with
      | true => simp [hex, expiredCode, hl] at hc
      | false => exact ⟨hsi, acct, s, hacc, hl, hex⟩
  · rintro ⟨hsi, a, s, ha, hl, hex⟩
    simp [acctMgmt, hsi, ha, hl, hex, acctFallbackOk]

/-! ## Non-vacuity -/

private def alice : Handler := ⟨none, .ok (some 7), .ok (some 100), [.ok (some 200), .ok (some 300)]⟩
private def firstPass : Opts := ⟨true, false⟩

example : alice.Sane := by
  refine ⟨by decide, trivial, trivial, ?_⟩
  intro p hp
  simp only [alice, List.mem_cons, List.not_mem_nil, or_false] at hp
  rcases hp with rfl | rfl <;> trivial

/-- password from the stacked authtok, then an MFA code from the conversation, then success -/
example : connected firstPass alice
      [.reply (.step .password 5), .reply (.step .mFACode 5), .reply (.step .success 5), .fail] =
    { code := .success,
      sent := [.init 7, .step .password (some 100) 5, .step .mFACode (some 200) 5],
      calls := [.serviceInfo, .accountId, .authtok, .promptMfa],
      consumed := [.reply (.step .password 5), .reply (.step .mFACode 5), .reply (.step .success 5)] } := by
  decide +kernel
/-- the daemon goes away after the password: `PAM_AUTH_ERR` -/
example : (connected firstPass alice [.reply (.step .password 5)]).code = .authErr := by decide +kernel
example : (connected firstPass alice [.reply (.other .ok)]).code = .authErr := by decide +kernel
example : (connected firstPass alice [.reply (.step .unknown 1)]).code = .userUnknown := by decide +kernel
example : (connected ⟨true, true⟩ alice [.reply (.step .unknown 1)]).code = .ignore := by decide +kernel
/-- SetupPin: first pair differs, second pair matches -/
example : (connected ⟨false, false⟩
      ⟨none, .ok (some 7), .ok none, [.ok none, .ok (some 1), .ok (some 2), .ok none, .ok (some 3), .ok (some 3)]⟩
      [.reply (.step .setupPin 9), .reply (.step .success 9)]).sent = [.init 7, .step .setupPin (some 3) 9] := by
  decide +kernel
/-- fallback: supported hash that verifies, not expired -/
private def goodField : List Char := "$6$x$".toList ++ List.replicate 85 'a' ++ ['.']
example : (fallback (fun _ _ c => c == 100) firstPass alice 1000 [7] [⟨7, goodField, some 2000⟩]).code = .success := by
  decide +kernel
example : (fallback (fun _ _ c => c == 100) firstPass alice 2000 [7] [⟨7, goodField, some 2000⟩]).code = .acctExpired := by
  decide +kernel
/-- the same field with one more character: `PAM_AUTH_ERR`, though the verifier would say yes -/
example : (fallback (fun _ _ _ => true) firstPass alice 1000 [7] [⟨7, goodField ++ ['a'], some 2000⟩]).code = .authErr := by
  decide +kernel
example : (fallback (fun _ _ _ => true) firstPass alice 1000 [7] [⟨7, ['!', '$', '6', '$', 'x'], none⟩]).code = .authErr := by
  decide +kernel
example : (acctMgmt firstPass alice 0 (.daemon [.reply (.pamStatus (some true))])).code = .success := by decide +kernel
example : (acctMgmt firstPass alice 0 (.daemon [.reply (.step .success 1)])).code = .ignore := by decide +kernel

end Kanidm.Pam
