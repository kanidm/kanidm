import KanidmProofs.Lemmas.HostAuthz
/-!
# C45 — Host login requires membership of an allowed group

`unixUserAuthorise` transcribes `KanidmProvider::unix_user_authorise`, `pamAccountAllowed` transcribes
`Resolver::pam_account_allowed` including the system-provider short-circuit and the
cache / nxcache / refresh logic that selects *which* account record is judged
(`KanidmModel/HostAuthz.lean`).  The empty-list guard and answer, the keys a group contributes,
the final boolean expression, the short-circuit answers, the `UserTokenState → record` table and
the directory-reply table are regenerated from the source on every run
(`Generated/HostAuthzOps.lean`), so every theorem is re-proved about the code as it is now.
`Member allow t` is the declarative reading of "belongs, by name or UUID, to at least one group
in the host's allowed-login list".
-/
namespace Kanidm.HostAuthz
open Kanidm.Gen.HostAuthz

theorem authorise_eq (allow : List Nat) (t : UserTok) :
    unixUserAuthorise allow t = some (decide (t.valid = true ∧ Member allow t)) := by
  unfold unixUserAuthorise
  rw [dedup_isEmpty]
  cases allow with
  | nil => simp [emptyGuard, emptyAnswer, Member]
  | cons a as =>
    simp only [List.isEmpty_cons, emptyGuard, Bool.false_eq_true, if_false, decision, ← inter_iff_member,
      ← intersectionCount_pos, Bool.decide_and, Bool.decide_eq_true, Bool.and_comm]

/-- **The decision.**  The provider answers "allowed" iff the record is valid and some group
of the record is named in the allowed-login list by name or by uuid. -/
theorem authorise_true_iff (allow : List Nat) (t : UserTok) :
    unixUserAuthorise allow t = some true ↔ t.valid = true ∧ Member allow t := by
  simp [authorise_eq]

/-- The provider never answers "unknown user": it always decides. -/
theorem authorise_decides (allow : List Nat) (t : UserTok) :
    ∃ b, unixUserAuthorise allow t = some b :=
  ⟨_, authorise_eq allow t⟩

/-- **An empty allowed-login list admits nobody.** -/
theorem empty_allows_nobody (t : UserTok) : unixUserAuthorise [] t = some false := by
  simp [authorise_eq, Member]

/-- **A record that is not valid is denied**, whatever its groups. -/
theorem invalid_token_denied (allow : List Nat) (t : UserTok) (h : t.valid = false) :
    unixUserAuthorise allow t = some false := by
  simp [authorise_eq, h]

/-- A record none of whose groups is listed is denied. -/
theorem non_member_denied (allow : List Nat) (t : UserTok) (h : ¬ Member allow t) :
    unixUserAuthorise allow t = some false := by
  simp [authorise_eq, h]

/-- **The property at the PAM entry point.**  `pam_account_allowed` answers "allowed" iff the
account is a local system account, or the resolver's current record of the account (cached, or
just fetched from the directory) comes from a known provider, is valid, and is a member of an
allowed group.  Holds for every configuration, directory, cache state and account id. -/
theorem pam_allowed_iff (cfg : Cfg) (w : World) (st : St) (id : Nat) :
    (pamAccountAllowed cfg w st id).2 = .ok (some true) ↔
      id ∈ cfg.sys ∨
      (id ∉ cfg.sys ∧ ∃ t, (getUsertoken w st id).2 = some t ∧ t.known = true ∧
        t.valid = true ∧ Member cfg.allow t) := by
  unfold pamAccountAllowed sysAuthorise
  by_cases hs : id ∈ cfg.sys
  · simp [hs, sysKnown]
  · simp only [List.contains_iff_mem, hs, if_false, sysUnknown, false_or, not_false_eq_true, true_and]
    cases hg : getUsertoken w st id with
    | mk st' tok =>
      cases tok with
      | none => simp [noTokenAnswer]
      | some t =>
        by_cases hk : t.known = true
        · simp only [hk, if_true, Res.ok.injEq, Option.some.injEq, exists_eq_left', true_and]
          exact authorise_true_iff cfg.allow t
        · simp [hk]

/-- **Only-if direction, as the statement reads**: a directory user (not a local system
account) is let in only if the record is valid and a member of an allowed group. -/
theorem directory_user_needs_valid_member (cfg : Cfg) (w : World) (st : St) (id : Nat)
    (hdir : id ∉ cfg.sys) (h : (pamAccountAllowed cfg w st id).2 = .ok (some true)) :
    ∃ t, (getUsertoken w st id).2 = some t ∧ t.valid = true ∧ Member cfg.allow t := by
  rcases (pam_allowed_iff cfg w st id).mp h with hs | ⟨_, t, h1, _, h2, h3⟩
  · exact absurd hs hdir
  · exact ⟨t, h1, h2, h3⟩

/-- **An empty list admits no directory users** — in any cache state, online or offline. -/
theorem empty_list_admits_no_directory_user (sys : List Nat) (w : World) (st : St) (id : Nat)
    (hdir : id ∉ sys) :
    (pamAccountAllowed { sys := sys, allow := [] } w st id).2 ≠ .ok (some true) := by
  intro h
  obtain ⟨t, _, _, g, _, hg⟩ := directory_user_needs_valid_member _ w st id hdir h
  simp at hg

/-! ## Which record is judged ("the user's current account record") -/

/-- The record handed to the decision is the resolver's cached row for the account or the token
the directory serves for it right now — never anything else (the conclusion is `Known w st id t`). -/
theorem record_is_cached_or_fresh (w : World) (st : St) (id : Nat) (t : UserTok)
    (h : (getUsertoken w st id).2 = some t) :
    (∃ e, cacheGet st.cache id = some e ∧ e.tok = t) ∨
    (∃ gs v, w.dir id = .tok gs v ∧ t = ⟨true, gs, v⟩) :=
  (h ▸ getUsertoken_fetched w st id).answer_known

/-- **Freshness.**  When the cached row is missing or expired and the directory is reachable,
the decision is taken on the token the directory serves *now*: a user whose record has just
become invalid, or who has just left the allowed groups, is denied. -/
theorem fresh_record_decides (cfg : Cfg) (w : World) (st : St) (id : Nat) (gs : List GroupTok) (v : Bool)
    (hdir : id ∉ cfg.sys) (hnx : id ∉ st.nx)
    (hc : cacheGet st.cache id = none ∨
          ∃ e, cacheGet st.cache id = some e ∧ e.expired = true ∧ e.tok.known = true)
    (hon : (checkOnline w st.net).2 = true) (hd : w.dir id = .tok gs v) :
    (pamAccountAllowed cfg w st id).2 = .ok (unixUserAuthorise cfg.allow ⟨true, gs, v⟩) := by
  have hu := unixUserGet_online id hon
  rw [hd] at hu
  unfold pamAccountAllowed sysAuthorise
  simp [hdir, sysUnknown, (getUsertoken_of_stale hnx hc hu).1 _ rfl rfl]

/-- When the directory says the record is gone, the account is unknown (PAM falls through to
the next module), the row is purged and the account is remembered as non-existent. -/
theorem gone_record_means_no_such_user (cfg : Cfg) (w : World) (st : St) (id : Nat) (r : DirReply)
    (hdir : id ∉ cfg.sys) (hnx : id ∉ st.nx)
    (hc : cacheGet st.cache id = none ∨
          ∃ e, cacheGet st.cache id = some e ∧ e.expired = true ∧ e.tok.known = true)
    (hon : (checkOnline w st.net).2 = true) (hd : w.dir id = .other r) (hr : replyState r = .notFound) :
    (pamAccountAllowed cfg w st id).2 = .ok none ∧
    id ∈ (pamAccountAllowed cfg w st id).1.nx ∧
    cacheGet (pamAccountAllowed cfg w st id).1.cache id = none := by
  have hu := unixUserGet_online id hon
  simp only [hd] at hu
  unfold pamAccountAllowed sysAuthorise
  simp [hdir, sysUnknown, noTokenAnswer, (getUsertoken_of_stale hnx hc hu).2 hr, cacheGet_erase]

theorem run_sound (cfg : Cfg) (id : Nat) (hdir : id ∉ cfg.sys) : ∀ (ops : List Op) (w : World) (st : St),
    (id, Res.ok (some true)) ∈ run cfg w st ops →
      ∃ t, (Known w st id t ∨ Published ops id t) ∧ t.valid = true ∧ Member cfg.allow t := by
  intro ops
  induction ops with
  | nil => intro w st h; cases h
  | cons op rest ih =>
    intro w st h
    -- an answer of a later query rests on a record in sight after `op`, or brought by a later operation
    have later : (id, Res.ok (some true)) ∈ run cfg (step cfg w st op).1 (step cfg w st op).2.1 rest →
        ∃ t, (Known w st id t ∨ Published (op :: rest) id t) ∧ t.valid = true ∧ Member cfg.allow t := by
      intro h
      obtain ⟨t, hk | hp, hv⟩ := ih _ _ h
      · exact ⟨t, (step_known cfg w st op hk).imp_right (.mono (by simp)), hv⟩
      · exact ⟨t, .inr (hp.mono fun _ => List.mem_cons_of_mem _), hv⟩
    unfold run at h
    rcases hs : step cfg w st op with ⟨w', st', _ | r⟩ <;> rw [hs] at h later
    · exact later h
    · obtain ⟨i, rfl, rfl⟩ := step_answer hs
      rcases List.mem_cons.mp h with h | h
      · obtain rfl : id = i := congrArg Prod.fst h
        obtain ⟨t, hg, hv⟩ := directory_user_needs_valid_member cfg w st id hdir (congrArg Prod.snd h).symm
        exact ⟨t, .inl (record_is_cached_or_fresh w st id t hg), hv⟩
      · exact later h

/-- **The property over whole histories.**  Start the daemon with an empty cache and a
directory that has published no token yet; let the directory, the administrator and PAM act in
any order (`Op`), any number of times.  Whenever a directory user is let in, a record of that
very account that is valid and a member of an allowed group was seeded or published at some
point of the history — no interleaving of cache expiry, invalidation, offline periods,
directory errors, unknown-provider rows or removals lets anyone else in. -/
theorem history_sound (cfg : Cfg) (w0 : World) (st0 : St)
    (hw : ∀ id gs v, w0.dir id ≠ .tok gs v) (hs : st0.cache = [])
    (ops : List Op) (id : Nat)
    (h : (id, Res.ok (some true)) ∈ run cfg w0 st0 ops) (hdir : id ∉ cfg.sys) :
    ∃ t, Published ops id t ∧ t.valid = true ∧ Member cfg.allow t := by
  obtain ⟨t, hk | hp, hv⟩ := run_sound cfg id hdir ops w0 st0 h
  · rcases hk with ⟨e, he, _⟩ | ⟨gs, v, hd, _⟩
    · rw [hs] at he; cases he
    · exact absurd hd (hw id gs v)
  · exact ⟨t, hp, hv⟩

/-! ## Non-vacuity: concrete configurations meeting the hypotheses -/

private def staff : GroupTok := ⟨10, 11⟩
private def other : GroupTok := ⟨20, 21⟩
private def w0 : World := { selfOk := true, dir := fun _ => .other .gone }

example : unixUserAuthorise [10] ⟨true, [other, staff], true⟩ = some true := by decide +kernel
example : unixUserAuthorise [7, 11] ⟨true, [other, staff], true⟩ = some true := by decide +kernel   -- by uuid
example : unixUserAuthorise [10] ⟨true, [other, staff], false⟩ = some false := by decide +kernel
example : unixUserAuthorise [12] ⟨true, [other, staff], true⟩ = some false := by decide +kernel
example : Member [7, 11] ⟨true, [other, staff], true⟩ := by decide +kernel
example : ¬ Member [12] ⟨true, [other, staff], true⟩ := by decide +kernel
/-- system account short-circuit, unknown user, member, and the stale-then-refreshed sequence -/
example :
    run ⟨[99], [10]⟩ w0 St.init
      [.query 99, .query 1, .invalidate, .setDir 1 (.tok [staff] true), .query 1,
       .setDir 1 (.tok [staff] false), .query 1, .invalidate, .query 1,
       .setDir 2 (.tok [other] true), .query 2, .markOffline, .invalidate, .query 1,
       .setDir 1 (.other .gone), .markNextCheck, .query 1] =
      [(99, .ok (some true)), (1, .ok none), (1, .ok (some true)), (1, .ok (some true)),
       (1, .ok (some false)), (2, .ok (some false)), (1, .ok (some false)), (1, .ok none)] := by
  decide +kernel
/-- hypotheses of `fresh_record_decides` / `gone_record_means_no_such_user` are satisfiable -/
example : (checkOnline w0 St.init.net).2 = true ∧ cacheGet St.init.cache 1 = none ∧ 1 ∉ St.init.nx ∧
    replyState .gone = .notFound := by decide +kernel
/-- a seeded row of a provider the resolver has no client for ends in `Err` -/
example : run ⟨[], [10]⟩ w0 St.init [.seed 1 ⟨⟨false, [staff], true⟩, false⟩, .query 1] = [(1, .err)] := by
  decide +kernel

end Kanidm.HostAuthz
