import KanidmProofs.Lemmas.IndexMaint
import KanidmProofs.Lemmas.ListFold
import KanidmProofs.Lemmas.Ite
/-
C03 — indexes and name lookups always mirror the stored entries.

The invariant `Inv stale s` of a backend state: entry ids are distinct and ≤ `maxid`; every index table
that exists and is not `stale` belongs to the index metadata and holds, under every key, exactly the ids
of the stored entries that produce the key (`Mirror`); `name2uuid`, `externalid2uuid`, `uuid2spn`,
`uuid2rdn` hold exactly the pairs produced by the stored entries that are neither recycled nor
tombstones (`NInv`). A table is `stale` when it existed while absent from the metadata since the last
reindex (`update_idxmeta` without `reindex`: the code no longer maintains it).

Hypotheses (`WFn`, `BatchWF`): what the layers above the backend guarantee about the entries of every
committed state — and, inside a modify batch, of every prefix of the batch: distinct uuids, pairwise
disjoint name candidates, distinct external ids among the entries that are neither recycled nor
tombstones; no value set yields an equality key twice.  Both are necessary: `dupkeys_full_false`
(known finding D35) and `handoff_full_false` (known finding D36) are replayed witnesses.
-/
namespace Kanidm.Index
open Kanidm.Filter

/-- what the layers above the backend guarantee about a set of stored entries -/
structure WFn (ents : List SEnt) : Prop where
  uuids : ∀ e1 ∈ ents, ∀ e2 ∈ ents, masked e1 = false → masked e2 = false → e1.uuid = e2.uuid → e1 = e2
  names : ∀ e1 ∈ ents, ∀ e2 ∈ ents, masked e1 = false → masked e2 = false →
    ∀ n, n ∈ cands e1 → n ∈ cands e2 → e1 = e2
  ext : ∀ e1 ∈ ents, ∀ e2 ∈ ents, masked e1 = false → masked e2 = false →
    ∀ n, extId e1 = some n → extId e2 = some n → e1 = e2
  keys : ∀ e ∈ ents, KeysNodup e

structure Inv (stale : Nat → IType → Prop) (s : BeState) : Prop where
  idsLe : ∀ e ∈ s.ents, e.id ≤ s.maxid
  idsNodup : (s.ents.map (·.id)).Nodup
  tables : TInv stale s.idxmeta s.ents s.tbl

theorem WFn.nuniq {ents : List SEnt} (h : WFn ents) (hids : (ents.map (·.id)).Nodup) : NUniq ents :=
  ⟨fun e1 h1 e2 h2 m1 m2 hu => by rw [h.uuids e1 h1 e2 h2 m1 m2 hu],
   fun e1 h1 e2 h2 m1 m2 n hn1 hn2 => by rw [h.names e1 h1 e2 h2 m1 m2 n hn1 hn2]; exact ⟨rfl, rfl⟩,
   fun e1 h1 e2 h2 m1 m2 n hn1 hn2 => by rw [h.ext e1 h1 e2 h2 m1 m2 n hn1 hn2]; exact ⟨rfl, rfl⟩,
   fun _ h1 _ h2 => Keyed.eq_of_key_eq (·.id) hids h1 h2⟩

theorem WFn.subset {es es' : List SEnt} (h : ∀ e ∈ es', e ∈ es) (hw : WFn es) : WFn es' :=
  ⟨fun e1 h1 e2 h2 => hw.uuids e1 (h e1 h1) e2 (h e2 h2),
   fun e1 h1 e2 h2 => hw.names e1 (h e1 h1) e2 (h e2 h2),
   fun e1 h1 e2 h2 => hw.ext e1 (h e1 h1) e2 (h e2 h2),
   fun e he => hw.keys e (h e he)⟩

/-- every prefix of a modify batch leaves well-formed entries; `pre` is the stored entry and `post` keeps its id -/
def BatchWF : List SEnt → List (SEnt × SEnt) → Prop
  | _, [] => True
  | ents, (pre, post) :: ps =>
    pre ∈ ents ∧ post.id = pre.id ∧ WFn (putEnt ents post) ∧ BatchWF (putEnt ents post) ps

/-- on duplicate-free key lists (sorted by `sort_unstable`) the loop yields exactly `pre \ post` as removals
and `post \ pre` as additions -/
theorem sorted_merge_diff (pre post : List Val) (hp : pre.Nodup) (hq : post.Nodup) (k : Val) :
    (k ∈ (mergeLoop (sortKeys pre) (sortKeys post)).1 ↔ (k ∈ pre ∧ k ∉ post)) ∧
    (k ∈ (mergeLoop (sortKeys pre) (sortKeys post)).2 ↔ (k ∈ post ∧ k ∉ pre)) := by
  have := mergeLoop_spec _ _ (sortKeys_strict hp) (sortKeys_strict hq) k
  simpa only [mem_sortKeys] using this

/-- `entry_index` for the change of one stored entry (create: `none → some`, modify, uuid change, recycle,
revive, reap: `some → none`) keeps every table exact -/
theorem entry_index_inv {ents ents' : List SEnt} {i : Nat} {pre post : Option SEnt}
    (hc : Change ents ents' i pre post) {stale : Nat → IType → Prop} {idxmeta : List (Nat × IType)}
    {t t' : Tables} (hinv : TInv stale idxmeta ents t)
    (hids : (ents.map (·.id)).Nodup) (hids' : (ents'.map (·.id)).Nodup) (hw : WFn ents) (hw' : WFn ents')
    (hrun : entryIndex idxmeta pre post t = some t') : TInv stale idxmeta ents' t' :=
  entryIndex_inv_of_nuniq hc hinv (hw.nuniq hids) (hw'.nuniq hids')
    (fun e he => hw.keys e ((hc.hpre e).2 he).1) (fun e he => hw'.keys e ((hc.hpost e).2 he).1) hrun

/-- `for e in c_entries { entry_index(None, Some(e)) }` -/
theorem indexAll_inv {stale : Nat → IType → Prop} {idxmeta : List (Nat × IType)} (c : List SEnt)
    (ents : List SEnt) (t t' : Tables) (hinv : TInv stale idxmeta ents t) (hw : WFn (ents ++ c))
    (hids : ((ents ++ c).map (·.id)).Nodup) (hrun : indexAll idxmeta c t = some t') :
    TInv stale idxmeta (ents ++ c) t' := by
  fun_induction indexAll idxmeta c t generalizing ents with
  | case1 t => cases hrun; rwa [List.append_nil]  -- nothing left
  | case2 => cases hrun  -- `entry_index` failed
  | case3 e es t t1 h1 ih =>  -- the head is indexed, the rest follows
    rw [List.append_cons] at hw hids ⊢
    have hids1 : ((ents ++ [e]).map (·.id)).Nodup := by
      rw [List.map_append] at hids; exact (List.nodup_append.1 hids).1
    rw [List.map_append] at hids1
    obtain ⟨hids0, _, hfr⟩ := List.nodup_append.1 hids1
    have hw1 : WFn (ents ++ [e]) := hw.subset fun x hx => List.mem_append_left _ hx
    exact ih _ (entry_index_inv
      (change_add fun x hx hid => hfr x.id (List.mem_map.2 ⟨x, hx, rfl⟩) e.id (List.mem_singleton.2 rfl) hid)
      hinv hids0 (List.map_append ▸ hids1) (hw1.subset fun x hx => List.mem_append_left _ hx) hw1 h1) hw hids hrun

theorem indexPairs_inv {stale : Nat → IType → Prop} {idxmeta : List (Nat × IType)} (ps : List (SEnt × SEnt))
    (ents : List SEnt) (t t' : Tables) (hinv : TInv stale idxmeta ents t) (hids : (ents.map (·.id)).Nodup)
    (hw : WFn ents) (hb : BatchWF ents ps) (hrun : indexPairs idxmeta ps t = some t') :
    TInv stale idxmeta (ps.foldl (fun acc p => putEnt acc p.2) ents) t' ∧
      (ps.foldl (fun acc p => putEnt acc p.2) ents).map (·.id) = ents.map (·.id) ∧
      WFn (ps.foldl (fun acc p => putEnt acc p.2) ents) := by
  fun_induction indexPairs idxmeta ps t generalizing ents with
  | case1 t => cases hrun; exact ⟨hinv, rfl, hw⟩  -- nothing left
  | case2 => cases hrun  -- `entry_index` failed
  | case3 pre post ps t t1 h1 ih =>  -- the head is indexed, the rest follows
    obtain ⟨hpre, hid, hw1, hb'⟩ := hb
    have hids1 := putEnt_ids hpre hid
    obtain ⟨htbl, hsame, hwf⟩ := ih _ (entry_index_inv (change_replace hids hpre hid) hinv hids (hids1 ▸ hids) hw hw1 h1)
      (hids1 ▸ hids) hw1 hb' hrun
    exact ⟨htbl, hsame.trans hids1, hwf⟩

/-- `tombstones.iter().try_for_each(|e| entry_index(Some(e), None))` -/
theorem unindexAll_inv {stale : Nat → IType → Prop} {idxmeta : List (Nat × IType)} (dead : List SEnt)
    (ents : List SEnt) (t t' : Tables) (hinv : TInv stale idxmeta ents t) (hids : (ents.map (·.id)).Nodup)
    (hw : WFn ents) (hin : ∀ e ∈ dead, e ∈ ents) (hdn : (dead.map (·.id)).Nodup)
    (hrun : unindexAll idxmeta dead t = some t') :
    TInv stale idxmeta (ents.filter fun x => !(dead.map (·.id)).contains x.id) t' := by
  fun_induction unindexAll idxmeta dead t generalizing ents with
  | case1 t => cases hrun; exact (List.filter_eq_self.2 fun _ _ => rfl).symm ▸ hinv  -- nothing left
  | case2 => cases hrun  -- `entry_index` failed
  | case3 e es t t1 h1 ih =>  -- the head is unindexed, the rest follows
    have hsub : ∀ x ∈ ents.filter (fun x => !decide (x.id = e.id)), x ∈ ents := fun x hx => (List.mem_filter.1 hx).1
    have hinv1 := entry_index_inv (change_remove hids (hin e List.mem_cons_self)) hinv hids
      ((List.filter_sublist.map _).nodup hids) hw (hw.subset hsub) h1
    obtain ⟨hne, hdn'⟩ : e.id ∉ es.map (·.id) ∧ (es.map (·.id)).Nodup := List.nodup_cons.1 hdn
    have := ih _ hinv1 ((List.filter_sublist.map _).nodup hids) (hw.subset hsub) (fun x hx => ?_) hdn' hrun
    · rw [List.filter_filter] at this
      rwa [show (fun x : SEnt => !(List.map (·.id) (e :: es)).contains x.id) =
        fun x => !(List.map (·.id) es).contains x.id && !decide (x.id = e.id) from
        funext fun x => by simp [Bool.and_comm]]
    · have : x.id ≠ e.id := fun h => hne (h ▸ List.mem_map.2 ⟨x, hx, rfl⟩)
      exact List.mem_filter.2 ⟨hin x (List.mem_cons_of_mem _ hx), by simp [this]⟩

theorem create_eq (es : List (Nat × Entry)) (s : BeState) :
    create es s = if es.isEmpty then none else
      (indexAll s.idxmeta (assignIds s.maxid es) s.tbl).map fun t =>
        { s with ents := s.ents ++ assignIds s.maxid es, maxid := s.maxid + es.length, tbl := t } := by
  unfold create; dsimp only
  cases indexAll s.idxmeta (assignIds s.maxid es) s.tbl <;> rfl

theorem modify_eq (ps : List (SEnt × SEnt)) (s : BeState) :
    modify ps s = if ps.isEmpty then none else
      (indexPairs s.idxmeta ps s.tbl).map fun t =>
        { s with ents := ps.foldl (fun acc p => putEnt acc p.2) s.ents, tbl := t } := by
  unfold modify; dsimp only
  cases indexPairs s.idxmeta ps s.tbl <;> rfl

theorem reap_eq (ids : List Nat) (s : BeState) :
    reap ids s = (unindexAll s.idxmeta (s.ents.filter fun e => ids.contains e.id) s.tbl).map fun t =>
      { s with ents := s.ents.filter fun e => !ids.contains e.id, tbl := t } := by
  unfold reap; dsimp only
  cases unindexAll s.idxmeta (s.ents.filter fun e => ids.contains e.id) s.tbl <;> rfl

theorem aget_freshIdx (l : List (Nat × IType)) (acc : List ((Nat × IType) × Rows)) (x : Nat × IType) :
    aget (l.foldl (fun acc k => aset acc k []) acc) x = if x ∈ l then some [] else aget acc x :=
  aget_foldl (fun m n k => aget_aset m n [] k) l acc x

theorem freshTables_exists (idxmeta : List (Nat × IType)) (a : Nat) (it : IType) :
    tblExists (freshTables idxmeta) a it ↔ (a, it) ∈ idxmeta := by
  simp [tblExists, freshTables, aget_freshIdx, aget]

theorem freshTables_rows (idxmeta : List (Nat × IType)) (a : Nat) (it : IType) (k : Val) (id : Nat) :
    ¬ memIdl (freshTables idxmeta) a it k id := by
  rintro ⟨l, hl, hid⟩
  simp only [getIdl, freshTables, aget_freshIdx, aget] at hl
  split at hl
  · cases hl; cases hid
  · cases hl

theorem tinv_fresh {stale : Nat → IType → Prop} {idxmeta m : List (Nat × IType)} (hm : ∀ k ∈ m, k ∈ idxmeta) :
    TInv stale idxmeta [] (freshTables m) :=
  ⟨fun a it hex _ => ⟨hm _ ((freshTables_exists m a it).1 hex), fun k id => by simp [freshTables_rows]⟩,
    ⟨kvinv_nil _, kvinv_nil _, kvinv_nil _, kvinv_nil _⟩⟩

/-- `Backend::new` on an empty database: the tables `create_idxs` would make for no index key -/
theorem inv_init (idxmeta : List (Nat × IType)) : Inv (fun _ _ => False) (BeState.init idxmeta) :=
  ⟨nofun, List.nodup_nil, tinv_fresh (m := []) nofun⟩

theorem assignIds_ids (m : Nat) (es : List (Nat × Entry)) :
    (assignIds m es).map (·.id) = List.range' (m + 1) es.length := by
  induction es generalizing m with
  | nil => rfl
  | cons p r ih => simp [assignIds, ih, List.range'_succ]

/-- `create` / `refresh` / the create part of `incremental_apply` -/
theorem inv_create {stale : Nat → IType → Prop} {s s' : BeState} (es : List (Nat × Entry))
    (hinv : Inv stale s) (hw' : WFn (s.ents ++ assignIds s.maxid es))
    (hrun : create es s = some s') : Inv stale s' ∧ WFn s'.ents := by
  rw [create_eq] at hrun
  obtain ⟨t, h1, rfl⟩ := Option.map_eq_some_iff.1 (of_ite_eq hrun nofun).2
  have ha : ∀ y ∈ assignIds s.maxid es, s.maxid + 1 ≤ y.id ∧ y.id < s.maxid + 1 + es.length := fun y hy =>
    List.mem_range'_1.1 (assignIds_ids .. ▸ List.mem_map_of_mem hy)
  have hids := Keyed.nodup_append SEnt.id hinv.idsNodup (assignIds_ids .. ▸ List.nodup_range')
    fun x hx y hy h => by have := hinv.idsLe x hx; have := (ha y hy).1; omega
  refine ⟨⟨fun e he => ?_, hids, indexAll_inv _ _ _ _ hinv.tables hw' hids h1⟩, hw'⟩
  rcases List.mem_append.1 he with h | h
  · exact Nat.le_trans (hinv.idsLe e h) (Nat.le_add_right _ _)
  · show e.id ≤ s.maxid + es.length
    have := (ha e h).2; omega

/-- `modify` / the update part of `incremental_apply`, batches included -/
theorem inv_modify {stale : Nat → IType → Prop} {s s' : BeState} (ps : List (SEnt × SEnt))
    (hinv : Inv stale s) (hw : WFn s.ents) (hb : BatchWF s.ents ps)
    (hrun : modify ps s = some s') : Inv stale s' ∧ WFn s'.ents := by
  rw [modify_eq] at hrun
  obtain ⟨t, h1, rfl⟩ := Option.map_eq_some_iff.1 (of_ite_eq hrun nofun).2
  obtain ⟨htbl, hsame, hwf⟩ := indexPairs_inv ps s.ents s.tbl t hinv.tables hinv.idsNodup hw hb h1
  refine ⟨⟨fun e he => ?_, hsame ▸ hinv.idsNodup, htbl⟩, hwf⟩
  obtain ⟨e0, he0, hid⟩ := List.mem_map.1 (hsame ▸ List.mem_map.2 ⟨e, he, rfl⟩ : e.id ∈ s.ents.map (·.id))
  exact hid ▸ hinv.idsLe e0 he0

/-- `reap_tombstones`, whatever ids the RUV selected -/
theorem inv_reap {stale : Nat → IType → Prop} {s s' : BeState} (ids : List Nat)
    (hinv : Inv stale s) (hw : WFn s.ents) (hrun : reap ids s = some s') : Inv stale s' ∧ WFn s'.ents := by
  rw [reap_eq] at hrun
  obtain ⟨t, h1, rfl⟩ := Option.map_eq_some_iff.1 hrun
  have hsub : ∀ e ∈ s.ents.filter (fun e => !ids.contains e.id), e ∈ s.ents := fun e he => (List.mem_filter.1 he).1
  refine ⟨⟨fun e he => hinv.idsLe e (hsub e he), (List.filter_sublist.map _).nodup hinv.idsNodup, ?_⟩, hw.subset hsub⟩
  have := unindexAll_inv _ s.ents s.tbl t hinv.tables hinv.idsNodup hw (fun e he => (List.mem_filter.1 he).1)
    ((List.filter_sublist.map _).nodup hinv.idsNodup) h1
  -- an id is among the dead ones iff the RUV selected it
  rwa [List.filter_congr fun x hx => congrArg (!·) (Bool.eq_iff_iff.2 ?_)] at this
  simp only [List.contains_iff_mem, List.mem_map, List.mem_filter]
  exact ⟨fun ⟨y, hy, hid⟩ => hid ▸ hy.2, fun h => ⟨x, ⟨hx, h⟩, rfl⟩⟩

/-- `update_idxmeta`: the tables that leave the metadata become stale (no longer maintained) -/
theorem inv_setMeta {stale : Nat → IType → Prop} {s : BeState} (m : List (Nat × IType)) (hinv : Inv stale s) :
    Inv (fun a it => stale a it ∨ (a, it) ∉ m) (setMeta m s) := by
  refine ⟨hinv.idsLe, hinv.idsNodup, ⟨?_, hinv.tables.names⟩⟩
  intro a it hex hst
  have h1 : ¬ stale a it := fun h => hst (Or.inl h)
  have h2 : (a, it) ∈ m := Classical.byContradiction (fun h => hst (Or.inr h))
  exact ⟨h2, (hinv.tables.idx a it hex h1).2⟩

theorem reindex_eq (s : BeState) :
    reindex s = (indexAll s.idxmeta s.ents (freshTables s.idxmeta)).map fun t => { s with tbl := t } := by
  unfold reindex
  cases indexAll s.idxmeta s.ents (freshTables s.idxmeta) <;> rfl

theorem reindex_some {s s' : BeState} (h : reindex s = some s') : ∃ t, s' = { s with tbl := t } :=
  (Option.map_eq_some_iff.1 (reindex_eq s ▸ h)).elim fun t ht => ⟨t, ht.2.symm⟩

theorem indexAll_exists (idxmeta : List (Nat × IType)) (a : Nat) (it : IType) :
    ∀ (c : List SEnt) (t0 t1 : Tables), indexAll idxmeta c t0 = some t1 → (tblExists t1 a it ↔ tblExists t0 a it)
  | [], t0, t1, h => by simp only [indexAll, Option.some.injEq] at h; subst h; rfl
  | e :: es, t0, t1, h => by
    simp only [indexAll, entryIndex, indexHeader, if_true] at h
    rw [indexAll_exists idxmeta a it es _ _ h, applyActs_exists]
    exact tblExists_congr (nameIndex_idx _ _ _ _) a it

/-- `reindex` establishes the invariant from ANY tables (corrupt, stale, missing) -/
theorem reindex_establishes_inv {s s' : BeState} (hle : ∀ e ∈ s.ents, e.id ≤ s.maxid)
    (hids : (s.ents.map (·.id)).Nodup) (hw : WFn s.ents) (hrun : reindex s = some s') :
    Inv (fun _ _ => False) s' ∧ ∀ a it, tblExists s'.tbl a it ↔ (a, it) ∈ s'.idxmeta := by
  obtain ⟨t, h1, rfl⟩ := Option.map_eq_some_iff.1 (reindex_eq _ ▸ hrun)
  have := indexAll_inv s.ents [] _ t (tinv_fresh (stale := fun _ _ => False) fun _ h => h) (by simpa using hw) (by simpa using hids) h1
  refine ⟨⟨hle, hids, by simpa using this⟩, fun a it => ?_⟩
  rw [← freshTables_exists s.idxmeta a it]
  exact indexAll_exists _ a it _ _ _ h1

theorem inv_upgradeReindex {stale : Nat → IType → Prop} {s s' : BeState} (v : Int)
    (hinv : Inv stale s) (hw : WFn s.ents) (hrun : upgradeReindex v s = some s') :
    Inv (fun a it => if s.idxVer < v then False else stale a it) s' := by
  unfold upgradeReindex at hrun
  by_cases hv : s.idxVer < v
  · simp only [hv, if_true] at hrun ⊢
    obtain ⟨s1, h1, rfl⟩ := Option.map_eq_some_iff.1 hrun
    have := (reindex_establishes_inv hinv.idsLe hinv.idsNodup hw h1).1
    exact ⟨this.idsLe, this.idsNodup, this.tables⟩
  · simp only [hv, if_false, Option.some.injEq] at hrun ⊢
    subst hrun
    exact hinv

theorem indexAll_isSome (idxmeta : List (Nat × IType)) : ∀ (c : List SEnt) (t : Tables),
    (indexAll idxmeta c t).isSome = true
  | [], t => by simp [indexAll]
  | e :: es, t => by
    simp only [indexAll, entryIndex, indexHeader, if_true]
    exact indexAll_isSome idxmeta es _

theorem reindex_isSome (s : BeState) : (reindex s).isSome = true := by
  rw [reindex_eq, Option.isSome_map]
  exact indexAll_isSome _ _ _

theorem upgradeReindex_ents {v : Int} {s s' : BeState} (h : upgradeReindex v s = some s') : s'.ents = s.ents := by
  unfold upgradeReindex at h
  split at h
  · obtain ⟨s1, h1, rfl⟩ := Option.map_eq_some_iff.1 h
    obtain ⟨t, rfl⟩ := reindex_some h1
    rfl
  · cases h; rfl

theorem upgradeReindex_isSome (v : Int) (s : BeState) : (upgradeReindex v s).isSome = true := by
  unfold upgradeReindex
  split
  · rw [Option.isSome_map]; exact reindex_isSome s
  · rfl

/-- what the layers above guarantee about one incoming replication entry: the entry list after the update is
well-formed — and, when the uuid is new, so is the list with the attribute-less stub `incremental_prepare` indexes first -/
def IncOK (s : BeState) (u : Nat) (av : Entry) : Prop :=
  ∀ s1 pre, incPrepare u s = some (s1, pre) →
    (pre ∈ s.ents → WFn (putEnt s.ents ⟨pre.id, u, av⟩)) ∧
    (pre ∉ s.ents → WFn (s.ents ++ [pre]) ∧ WFn (s.ents ++ [⟨pre.id, u, av⟩]))

theorem putEnt_append_last {ents : List SEnt} {x y : SEnt} (hid : y.id = x.id) (hfresh : ∀ e ∈ ents, e.id ≠ x.id) :
    putEnt (ents ++ [x]) y = ents ++ [y] := by
  rw [putEnt_of_mem (pre := x) (by simp) hid, List.map_append, List.map_singleton, if_pos hid.symm]
  exact congrArg (· ++ [y]) ((List.map_congr_left fun e he => if_neg (hid ▸ hfresh e he)).trans (List.map_id' ents))

theorem incPrepare_eq_some {u : Nat} {s s1 : BeState} {pre : SEnt} (hp : incPrepare u s = some (s1, pre)) :
    (pre = ⟨s.maxid + 1, u, fun _ => []⟩ ∧ ∃ t1, entryIndex s.idxmeta none (some pre) s.tbl = some t1 ∧
        s1 = { s with maxid := s.maxid + 1, tbl := t1 }) ∨ (pre ∈ s.ents ∧ s1 = s) := by
  revert hp
  fun_cases incPrepare u s
  case case2 _ t1 h1 =>  -- no id under the uuid: the stub is indexed
    intro h
    obtain ⟨rfl, rfl⟩ := Prod.mk.inj (Option.some.inj h)
    exact Or.inl ⟨rfl, t1, h1, rfl⟩
  case case3 _ _ e hf =>  -- one id, and it is stored
    intro h
    obtain ⟨rfl, rfl⟩ := Prod.mk.inj (Option.some.inj h)
    exact Or.inr ⟨List.mem_of_find?_eq_some hf, rfl⟩
  all_goals exact fun h => nomatch h

/-- `incremental_prepare` + the update part of `incremental_apply` for one incoming entry: an existing entry found
through the uuid index is modified; for a new uuid a stub is indexed, then replaced by the entry -/
theorem inv_incUpdate {stale : Nat → IType → Prop} {s s' : BeState} (u : Nat) (av : Entry)
    (hinv : Inv stale s) (hw : WFn s.ents) (hok : IncOK s u av)
    (hrun : incUpdate u av s = some s') : Inv stale s' ∧ WFn s'.ents := by
  unfold incUpdate at hrun
  cases hp : incPrepare u s with
  | none => rw [hp] at hrun; cases hrun
  | some r =>
    obtain ⟨s1, pre⟩ := r
    rw [hp] at hrun
    obtain ⟨hin, hout⟩ := hok s1 pre hp
    rcases incPrepare_eq_some hp with ⟨rfl, t1, h1, rfl⟩ | ⟨he, rfl⟩
    · -- a new uuid: the stub is indexed but not stored and the modify appends the entry, which leaves the state
      -- that a `create` of the stub followed by a `modify` of the stored stub leaves
      have hfresh : ∀ e ∈ s.ents, e.id ≠ s.maxid + 1 := fun e he h => by have := hinv.idsLe e he; omega
      obtain ⟨hw1, hw2⟩ := hout (fun h => hfresh _ h rfl)
      have hput := putEnt_append_last (x := ⟨s.maxid + 1, u, fun _ => []⟩) (y := ⟨s.maxid + 1, u, av⟩) rfl hfresh
      have hc : create [(u, fun _ => [])] s = some { s with
          ents := s.ents ++ [⟨s.maxid + 1, u, fun _ => []⟩], maxid := s.maxid + 1, tbl := t1 } := by
        simp only [create, assignIds, indexAll, h1]; rfl
      refine inv_modify [(⟨s.maxid + 1, u, fun _ => []⟩, ⟨s.maxid + 1, u, av⟩)] (inv_create [(u, fun _ => [])] hinv hw1 hc).1 hw1
        ⟨by simp, rfl, hput ▸ hw2, trivial⟩ (hrun ▸ ?_)
      simp only [modify, List.foldl_cons, List.foldl_nil, hput, putEnt_fresh (e := ⟨s.maxid + 1, u, av⟩) hfresh]
    · exact inv_modify [(pre, ⟨pre.id, u, av⟩)] hinv hw ⟨he, rfl, hin he, trivial⟩ hrun

/-- restarting the server on the same database (ids of reaped entries become free again) -/
theorem inv_reopen {stale : Nat → IType → Prop} {s : BeState} (hinv : Inv stale s) : Inv stale (reopen s) :=
  ⟨(le_foldl_max SEnt.id s.ents 0).2,
   hinv.idsNodup, hinv.tables⟩

/-- which tables are stale after an operation -/
def staleStep (stale : Nat → IType → Prop) (s : BeState) : Op → (Nat → IType → Prop)
  | .setMeta m => fun a it => stale a it ∨ (a, it) ∉ m
  | .reindex => fun _ _ => False
  | .upgradeReindex v => fun a it => if s.idxVer < v then False else stale a it
  | _ => stale

/-- what the layers above the backend guarantee about an operation's entries -/
def OpOK (s : BeState) : Op → Prop
  | .create es => WFn (s.ents ++ assignIds s.maxid es)
  | .modify ps => BatchWF s.ents ps
  | .incUpdate u av => IncOK s u av
  | _ => True

def RunOK : BeState → List Op → Prop
  | _, [] => True
  | s, op :: ops => OpOK s op ∧ RunOK (step s op) ops

def staleRun (stale : Nat → IType → Prop) : BeState → List Op → (Nat → IType → Prop)
  | _, [] => stale
  | s, op :: ops => staleRun (staleStep stale s op) (step s op) ops

theorem getD_cases {α : Type} {P : α → Prop} {o : Option α} {d : α} (hs : ∀ a, o = some a → P a) (hd : o = none → P d) :
    P (o.getD d) := by
  cases o with
  | none => exact hd rfl
  | some a => exact hs a rfl

theorem inv_step {stale : Nat → IType → Prop} {s : BeState} (op : Op) (hinv : Inv stale s) (hw : WFn s.ents)
    (hok : OpOK s op) : Inv (staleStep stale s op) (step s op) ∧ WFn (step s op).ents := by
  cases op with
  | create es =>
    exact getD_cases (P := fun x => Inv stale x ∧ WFn x.ents) (fun _ h => inv_create es hinv hok h) (fun _ => ⟨hinv, hw⟩)
  | modify ps =>
    exact getD_cases (P := fun x => Inv stale x ∧ WFn x.ents) (fun _ h => inv_modify ps hinv hw hok h)
      (fun _ => ⟨hinv, hw⟩)
  | reap ids =>
    exact getD_cases (P := fun x => Inv stale x ∧ WFn x.ents) (fun _ h => inv_reap ids hinv hw h) (fun _ => ⟨hinv, hw⟩)
  | setMeta m => exact ⟨inv_setMeta m hinv, hw⟩
  | reindex =>
    refine getD_cases (P := fun x => Inv (fun _ _ => False) x ∧ WFn x.ents) (fun s' h => ?_)
      (fun h => absurd h (Option.isSome_iff_ne_none.1 (reindex_isSome s)))
    refine ⟨(reindex_establishes_inv hinv.idsLe hinv.idsNodup hw h).1, ?_⟩
    obtain ⟨t, rfl⟩ := reindex_some h
    exact hw
  | upgradeReindex v =>
    exact getD_cases (P := fun x => Inv (fun a it => if s.idxVer < v then False else stale a it) x ∧ WFn x.ents)
      (fun s' h => ⟨inv_upgradeReindex v hinv hw h, upgradeReindex_ents h ▸ hw⟩)
      (fun h => absurd h (Option.isSome_iff_ne_none.1 (upgradeReindex_isSome v s)))
  | incUpdate u av =>
    exact getD_cases (P := fun x => Inv stale x ∧ WFn x.ents) (fun _ h => inv_incUpdate u av hinv hw hok h)
      (fun _ => ⟨hinv, hw⟩)
  | reopen => exact ⟨inv_reopen hinv, hw⟩

/-- THE PROPERTY: after any history of committed operations whose entries respect the uniqueness the upper
layers guarantee, under any sequence of index layouts, every non-stale index table and every name table
equals the rebuild from the stored entries -/
theorem inv_reachable : ∀ (ops : List Op) (s : BeState) (stale : Nat → IType → Prop),
    Inv stale s → WFn s.ents → RunOK s ops →
    Inv (staleRun stale s ops) (run s ops) ∧ WFn (run s ops).ents
  | [], s, stale, hinv, hw, _ => ⟨hinv, hw⟩
  | op :: ops, s, stale, hinv, hw, hok => by
    obtain ⟨h1, h2⟩ := inv_step op hinv hw hok.1
    exact inv_reachable ops (step s op) _ h1 h2 hok.2

/-! ### consequences: C01's hypothesis, and lookups equal scans -/

theorem find_id {ents : List SEnt} (hids : (ents.map (·.id)).Nodup) {e : SEnt} (he : e ∈ ents) :
    ents.find? (fun x => decide (x.id = e.id)) = some e :=
  Keyed.find_of_mem (·.id) hids he

theorem world_ent {s : BeState} (hids : (s.ents.map (·.id)).Nodup) {e : SEnt} (he : e ∈ s.ents) :
    (world s).ent e.id = e.attrs := by
  simp only [world, find_id hids he]

theorem mem_world {s : BeState} (hids : (s.ents.map (·.id)).Nodup) (a : Nat) (it : IType) (k : Val) (id : Nat) :
    (∃ e ∈ s.ents, e.id = id ∧ hasKey e.attrs a it k) ↔
      (id ∈ (world s).live ∧ hasKeyL ((world s).ent id a) it k) := by
  constructor
  · rintro ⟨e, he, rfl, hk⟩
    exact ⟨List.mem_map.2 ⟨e, he, rfl⟩, by rw [world_ent hids he]; exact hk⟩
  · rintro ⟨hl, hk⟩
    obtain ⟨e, he, rfl⟩ := List.mem_map.1 hl
    rw [world_ent hids he] at hk
    exact ⟨e, he, rfl, hk⟩

theorem Inv.memIdl_iff {stale : Nat → IType → Prop} {s : BeState} (hinv : Inv stale s)
    (hns : ∀ a it, tblExists s.tbl a it → ¬ stale a it) (a : Nat) (it : IType) (k : Val) (id : Nat) :
    memIdl s.tbl a it k id ↔
      (tblExists s.tbl a it ∧ id ∈ (world s).live ∧ hasKeyL ((world s).ent id a) it k) := by
  by_cases hex : tblExists s.tbl a it
  · rw [(hinv.tables.idx a it hex (hns a it hex)).2 k id, mem_world hinv.idsNodup]
    exact (and_iff_right hex).symm
  · exact iff_of_false (fun h => hex (memIdl_exists h)) (fun h => hex h.1)

/-- under the invariant, with no stale table left (e.g. after a reindex, or when every `update_idxmeta` is
followed by `reindex` as `QueryServerWriteTransaction::reload` does once the server runs), the tables
satisfy exactly the hypothesis C01's theorems assume -/
theorem idx_sound_of_inv {stale : Nat → IType → Prop} {s : BeState} (hinv : Inv stale s)
    (hns : ∀ a it, tblExists s.tbl a it → ¬ stale a it) : IdxSound (world s) (getIdl s.tbl) :=
  .of_exact (tableCfg s.tbl) (getIdl_isSome s.tbl) (hinv.memIdl_iff hns)

/-- … and agree, table by table and key by key, with C01's reference index of the stored entries -/
theorem idx_eq_reference {stale : Nat → IType → Prop} {s : BeState} (hinv : Inv stale s)
    (hns : ∀ a it, tblExists s.tbl a it → ¬ stale a it) (a : Nat) (it : IType) (k : Val) :
    ((getIdl s.tbl a it k).isSome = (idxOf (world s) (tableCfg s.tbl) a it k).isSome) ∧
    ∀ id, memIdl s.tbl a it k id ↔ ∃ l, idxOf (world s) (tableCfg s.tbl) a it k = some l ∧ id ∈ l :=
  ⟨(getIdl_isSome ..).trans (idxOf_isSome _ (tableCfg s.tbl) ..).symm,
    fun id => (hinv.memIdl_iff hns a it k id).trans (mem_idxOf _ (tableCfg s.tbl) ..).symm⟩

/-- what a full scan of the stored entries answers for a name / spn / gidnumber -/
def scanName (ents : List SEnt) (n : List Nat) : Option Nat :=
  (ents.find? (fun e => !masked e && (cands e).contains n)).map (·.uuid)

def scanExtId (ents : List SEnt) (n : List Nat) : Option Nat :=
  (ents.find? (fun e => !masked e && decide (extId e = some n))).map (·.uuid)

def scanUuid (f : SEnt → NameV) (ents : List SEnt) (u : Nat) : Option NameV :=
  (ents.find? (fun e => !masked e && decide (e.uuid = u))).map f

theorem lookup_eq_scan {κ ν : Type} [DecidableEq κ] {kv : SEnt → List (κ × ν)} {ents : List SEnt}
    {m : List (κ × ν)} (hinv : KVInv kv ents m) (c : SEnt → Bool) (g : SEnt → ν) (k : κ)
    (hkv : ∀ e v, (k, v) ∈ kv e ↔ (c e = true ∧ v = g e)) :
    aget m k = (ents.find? (fun e => !masked e && c e)).map g := by
  cases hf : ents.find? (fun e => !masked e && c e) with
  | some e =>
    have hpe := List.find?_some hf
    simp only [Bool.and_eq_true, Bool.not_eq_true'] at hpe
    exact (hinv k (g e)).2 ⟨e, List.mem_of_find?_eq_some hf, hpe.1, (hkv e _).2 ⟨hpe.2, rfl⟩⟩
  | none =>
    cases ha : aget m k with
    | none => rfl
    | some v =>
      obtain ⟨e, he, hm, hv⟩ := (hinv k v).1 ha
      have := List.find?_eq_none.1 hf e he
      simp [hm, ((hkv e v).1 hv).1] at this

/-- resolving a name, spn or gidnumber returns the entry a full scan would -/
theorem name_lookup_eq_scan {stale : Nat → IType → Prop} {s : BeState} (hinv : Inv stale s) (n : List Nat) :
    aget s.tbl.n2u n = scanName s.ents n :=
  lookup_eq_scan hinv.tables.names.n2u (fun e => (cands e).contains n) (·.uuid) n fun e v => by
    rw [List.contains_iff_mem]; exact mem_keyed

/-- resolving an external id returns the entry a full scan would -/
theorem extid_lookup_eq_scan {stale : Nat → IType → Prop} {s : BeState} (hinv : Inv stale s) (n : List Nat) :
    aget s.tbl.e2u n = scanExtId s.ents n :=
  lookup_eq_scan hinv.tables.names.e2u (fun e => decide (extId e = some n)) (·.uuid) n fun e v => by
    rw [decide_eq_true_eq, ← Option.mem_toList]; exact mem_keyed (keys := fun e => (extId e).toList)

/-- `uuid2spn` / `uuid2rdn` answer what a full scan would -/
theorem uuid_lookup_eq_scan {stale : Nat → IType → Prop} {s : BeState} (hinv : Inv stale s) (u : Nat) :
    aget s.tbl.u2s u = scanUuid spnOf s.ents u ∧ aget s.tbl.u2r u = scanUuid rdnOf s.ents u :=
  ⟨lookup_eq_scan hinv.tables.names.u2s (fun e => decide (e.uuid = u)) spnOf u fun e v => by simp [kvU2S, eq_comm],
   lookup_eq_scan hinv.tables.names.u2r (fun e => decide (e.uuid = u)) rdnOf u fun e v => by simp [kvU2R, eq_comm]⟩

/-! ### both hypotheses are necessary (replayed witnesses) -/

namespace Witness

def cls : List Val := [.str [111]]
/-- claim map `ca -> g, cb -> g`: `generate_idx_eq_keys` = `[ca, cb, g, g]` -/
def eC1 : Entry := Entry.ofList [(0, cls), (9, [.str [99, 97], .str [99, 98], .num 900, .num 900])]
/-- after `cb / g` was removed: `[ca, g]` -/
def eC2 : Entry := Entry.ofList [(0, cls), (9, [.str [99, 97], .num 900])]
def sC : BeState := run (BeState.init [(9, .equality)]) [.reindex, .create [(1, eC1)]]
def sC' : BeState := step sC (.modify [(⟨1, 1, eC1⟩, ⟨1, 1, eC2⟩)])

def eA : Entry := Entry.ofList [(0, cls), (2, [.str [97]])]
def eB : Entry := Entry.ofList [(0, cls), (2, [.str [98]])]
def sAB : BeState := run (BeState.init []) [.reindex, .create [(1, eA), (2, eB)]]
def swap : List (SEnt × SEnt) := [(⟨1, 1, eA⟩, ⟨1, 1, eB⟩), (⟨2, 2, eB⟩, ⟨2, 2, eA⟩)]
def sAB' : BeState := step sAB (.modify swap)

end Witness

open Witness in
/-- D35: with a key list that repeats a key the loop removes a key the new entry still has -/
theorem dupkeys_diff :
    idxDiff [(9, .equality)] (some ⟨1, 1, eC1⟩) (some ⟨1, 1, eC2⟩) =
      [⟨false, 9, .equality, .str [99, 98]⟩, ⟨false, 9, .equality, .num 900⟩] ∧ Val.num 900 ∈ eC2 9 := by
  constructor
  -- an evaluation: `mergeSort` and `mergeLoop` recurse by well-founded recursion, which `decide +kernel` does not unfold
  · simp [idxDiff, diffKey, eC1, eC2, Entry.ofList, keysOf, armBothSrc, armBothEmits, sortKeys, List.mergeSort,
      List.MergeSort.Internal.splitInTwo, List.merge, keyLe, Val.cmp, cmpNatList, mergeLoop, mergeArm,
      mergeTailPreRemoves]
  · simp [eC2, Entry.ofList]

open Witness in
/-- D35 (known finding): the invariant does NOT survive a modify whose stored entry repeats an equality key —
the hypothesis `KeysNodup` of `idx_diff_exact` / `WFn.keys` is necessary -/
theorem dupkeys_full_false : ¬ Mirror sC'.ents sC'.tbl 9 .equality := by
  intro h
  have hmeta : sC.idxmeta = [(9, .equality)] := by decide +kernel
  -- the modify of the witness, up to the `idx_diff` (which `dupkeys_diff` evaluates)
  have htbl : sC'.tbl = applyActs 1 (idxDiff sC.idxmeta (some ⟨1, 1, eC1⟩) (some ⟨1, 1, eC2⟩))
      (nameIndex ((some ⟨1, 1, eC1⟩ : Option SEnt).bind mask) ((some ⟨1, 1, eC2⟩ : Option SEnt).bind mask) 1 sC.tbl) := rfl
  have hget : getIdl sC'.tbl 9 .equality (.num 900) = some [] := by
    rw [htbl, hmeta, dupkeys_diff.1]
    decide +kernel
  have hents : sC'.ents = [⟨1, 1, eC2⟩] := rfl
  obtain ⟨l, hl, hm⟩ := (h (.num 900) 1).2 ⟨⟨1, 1, eC2⟩, hents ▸ List.mem_singleton.2 rfl, rfl, dupkeys_diff.2⟩
  rw [hget] at hl
  cases hl
  cases hm

open Witness in
/-- D36 (known finding): after two entries swap names in ONE modify batch (`Witness.swap`) `name2uuid` has no row for
the name `[98]`, although among the committed entries, listed with id, uuid, mask and name candidates, the unmasked
entry 1 carries it and entry 2 does not -/
theorem handoff_full_false :
    aget sAB'.tbl.n2u [98] = none ∧
    sAB'.ents.map (fun e => (e.id, e.uuid, masked e, cands e)) = [(1, 1, false, [[98]]), (2, 2, false, [[97]])] := by
  decide +kernel

/-! ### the hypotheses are satisfiable: a history with rename, recycle, layout change, reindex -/

theorem ofList_nodup {l : List (Nat × List Val)} (h : ∀ p ∈ l, p.2.Nodup) (a : Nat) : (Entry.ofList l a).Nodup := by
  unfold Entry.ofList
  cases hf : l.find? (fun p => p.1 == a) with
  | none => simp
  | some p => exact h p (List.mem_of_find?_eq_some hf)

theorem wfn_pair (x y : SEnt) (hk : KeysNodup x ∧ KeysNodup y)
    (h : masked x = false → masked y = false →
      x.uuid ≠ y.uuid ∧ (∀ n ∈ cands x, n ∉ cands y) ∧ (extId x = none ∨ extId x ≠ extId y)) :
    WFn [x, y] := by
  have key : ∀ e1 ∈ [x, y], ∀ e2 ∈ [x, y], masked e1 = false → masked e2 = false →
      (e1.uuid = e2.uuid ∨ (∃ n, n ∈ cands e1 ∧ n ∈ cands e2) ∨ ∃ n, extId e1 = some n ∧ extId e2 = some n) →
      e1 = e2 := by
    intro e1 h1 e2 h2 m1 m2 hc
    simp only [List.mem_cons, List.not_mem_nil, or_false] at h1 h2
    rcases h1 with rfl | rfl <;> rcases h2 with rfl | rfl
    · rfl
    · obtain ⟨hu, hn, he⟩ := h m1 m2
      rcases hc with hc | ⟨n, a, b⟩ | ⟨n, a, b⟩
      · exact absurd hc hu
      · exact absurd b (hn n a)
      · rcases he with he | he
        · rw [he] at a; cases a
        · exact absurd (a.trans b.symm) he
    · obtain ⟨hu, hn, he⟩ := h m2 m1
      rcases hc with hc | ⟨n, a, b⟩ | ⟨n, a, b⟩
      · exact absurd hc.symm hu
      · exact absurd a (hn n b)
      · rcases he with he | he
        · rw [he] at b; cases b
        · exact absurd (b.trans a.symm) he
    · rfl
  refine ⟨fun e1 h1 e2 h2 m1 m2 hu => key e1 h1 e2 h2 m1 m2 (Or.inl hu),
    fun e1 h1 e2 h2 m1 m2 n a b => key e1 h1 e2 h2 m1 m2 (Or.inr (Or.inl ⟨n, a, b⟩)),
    fun e1 h1 e2 h2 m1 m2 n a b => key e1 h1 e2 h2 m1 m2 (Or.inr (Or.inr ⟨n, a, b⟩)), ?_⟩
  intro e he
  simp only [List.mem_cons, List.not_mem_nil, or_false] at he
  rcases he with rfl | rfl
  · exact hk.1
  · exact hk.2

namespace Example

def cls : List Val := [.str [111]]
def rc : List Val := [.str [111], MaskClass.recycled.val]
def e1 : Entry := Entry.ofList [(0, cls), (2, [.str [97, 98]]), (4, [.num 7])]
def e2 : Entry := Entry.ofList [(0, cls), (2, [.str [98, 99]])]
def e1' : Entry := Entry.ofList [(0, cls), (2, [.str [99, 100]]), (4, [.num 7])]
def e2r : Entry := Entry.ofList [(0, rc), (2, [.str [98, 99]])]
def ops : List Op :=
  [.reindex, .create [(1, e1), (2, e2)], .modify [(⟨1, 1, e1⟩, ⟨1, 1, e1'⟩)], .modify [(⟨2, 2, e2⟩, ⟨2, 2, e2r⟩)],
   .setMeta [(2, .substring)], .reindex]
def s0 : BeState := BeState.init [(2, .equality), (2, .presence), (4, .equality)]

theorem kn (l : List (Nat × List Val)) (h : ∀ p ∈ l, p.2.Nodup) : KeysNodup ⟨1, 1, Entry.ofList l⟩ ∧
    KeysNodup ⟨2, 2, Entry.ofList l⟩ := ⟨fun a => ofList_nodup h a, fun a => ofList_nodup h a⟩

theorem wf12 : WFn [⟨1, 1, e1⟩, ⟨2, 2, e2⟩] :=
  wfn_pair _ _ ⟨fun a => ofList_nodup (by decide +kernel) a, fun a => ofList_nodup (by decide +kernel) a⟩ (by decide +kernel)

theorem wf1'2 : WFn [⟨1, 1, e1'⟩, ⟨2, 2, e2⟩] :=
  wfn_pair _ _ ⟨fun a => ofList_nodup (by decide +kernel) a, fun a => ofList_nodup (by decide +kernel) a⟩ (by decide +kernel)

theorem wf1'2r : WFn [⟨1, 1, e1'⟩, ⟨2, 2, e2r⟩] :=
  wfn_pair _ _ ⟨fun a => ofList_nodup (by decide +kernel) a, fun a => ofList_nodup (by decide +kernel) a⟩ (by decide +kernel)

/-- the history satisfies every hypothesis of `inv_reachable` -/
theorem ops_ok : RunOK s0 ops :=
  ⟨trivial, wf12, ⟨List.mem_cons_self, rfl, wf1'2, trivial⟩,
    ⟨List.mem_cons_of_mem _ List.mem_cons_self, rfl, wf1'2r, trivial⟩, trivial, trivial, trivial⟩

/-- … so after it every table is exact and nothing is stale -/
example : Inv (fun _ _ => False) (run s0 ops) :=
  (inv_reachable ops s0 _ (inv_init _) ⟨nofun, nofun, nofun, nofun⟩ ops_ok).1

end Example

end Kanidm.Index
