import KanidmProofs.Lemmas.SchemaCheck
/-!
# C15 — Every stored entry satisfies the schema

The property theorems and their demonstrations (a counterexample for arbitrary reloads, concrete
entries and histories); specification and lemmas are in `Lemmas/SchemaCheck.lean`.  `validate`, `validateAva`,
`validateInvalid`, `validateRepl`, `sealEntry` and the store paths (`runSteps`, step lists
`Gen.pipelines`) transcribe the code; their operators, class / attribute names, field chains and the
order of calls on every path that writes to the backend are regenerated from the source on every
run (`Generated/SchemaCheckOps.lean`).  `Conforms` is the declarative specification written from
the property text: only allowed attributes, every required attribute present, single-valued
attributes with at most one value, every value valid for its syntax — plus the supplements /
excludes rules and the two exemptions the code has (conflict entries; recycled entries may miss
required attributes).
-/
namespace Kanidm.SchemaCheck
open Gen

-- for the test vectors below
deriving instance DecidableEq for Except

/-- The regenerated operators, names, field chains and exit order of `validate`, `validate_ava`,
`validate_repl` and `seal` are the ones the proofs below are about.  Nothing else reads
`validateReturns` and `refreshChecksUuidFirst`. -/
theorem ops_as_modelled :
    exemptClass = .conflict ∧ recycledFlagClass = .recycled ∧ extensibleFlagClass = .extensibleObject
    ∧ missingMustSoftenedByRecycled = true ∧ supplementsEmptyOk = true ∧ supplementsQuant = .any
    ∧ supplementsFields = [.systemsupplements, .supplements]
    ∧ excludesFields = [.systemexcludes, .excludes]
    ∧ mustFields = [.systemmust, .must]
    ∧ mayFields = [.systemmust, .must, .systemmay, .may]
    ∧ extensibleRejectsPhantom = true
    ∧ (∀ m n, singleValueViolated m n = (!m && decide (n > 1)))
    ∧ avaRequiresSyntaxEq = true ∧ avaRequiresValuesValid = true
    ∧ invalidChecksUuidFirst = true ∧ refreshChecksUuidFirst = true
    ∧ replFailClasses = [.recycled, .conflict] ∧ replFailAttr = .sourceUuid
    ∧ sealAttrs = [.lastModifiedCid, .createdAtCid]
    ∧ validateReturns = [.noClassFound, .okConflict, .noClassFound, .noClassFound, .invalidClass,
        .supplementsNotSatisfied, .excludesNotSatisfied, .corrupted, .missingMustAttribute,
        .phantomAttribute, .avaCheck, .invalidAttribute, .corrupted, .avaCheck,
        .attributeNotValidForClass, .okEnd] :=
  ⟨rfl, rfl, rfl, rfl, rfl, rfl, rfl, rfl, rfl, rfl, rfl, fun _ _ => rfl, rfl, rfl, rfl, rfl, rfl, rfl,
    rfl, rfl⟩

/-- `validate` accepts exactly the entries that satisfy the schema (soundness and completeness). -/
theorem validate_iff_conforms (s : Schema) (e : Entry) :
    validate s e = .ok () ↔ Conforms s e :=
  validate_ok_iff_conforms s e

/-- The four conditions of the statement, for a live (not conflict, not recycled) entry that is
not an extensible object: only allowed attributes; every required attribute present;
single-valued attributes hold at most one value; every value is of the attribute's syntax and
valid for it. -/
theorem validate_ok_statement {s : Schema} {e : Entry} {ecs : List Nat}
    (h : validate s e = .ok ()) (hcs : classSet e = some ecs)
    (hnc : cConflict ∉ ecs) (hnr : cRecycled ∉ ecs) (hnx : cExtensible ∉ ecs) :
    (∀ p ∈ e, Allowed s ecs p.1)
    ∧ (∀ a, Required s ecs a → ∃ ava, getAva e a = some ava)
    ∧ (∀ p ∈ e, ∀ sa, findAttr s p.1 = some sa → sa.multivalue = false → p.2.vals.length ≤ 1)
    ∧ (∀ p ∈ e, ∃ sa, findAttr s p.1 = some sa ∧ sa.syn = p.2.syn ∧ ∀ v ∈ p.2.vals, v.ok = true) := by
  have hb := ((validate_ok_iff_conforms s e).1 h).body hcs hnc
  obtain ⟨_, _, ha⟩ := hb.attrs.resolve_left fun hx => hnx hx.1
  refine ⟨fun p hp => (ha p hp).1, hb.requiredPresent.resolve_left hnr, ?_, ?_⟩
  · intro p hp sa hsa hmv
    obtain ⟨_, sa', hsa', hok⟩ := ha p hp
    rw [hsa] at hsa'; cases hsa'
    rcases hok.1 with h1 | h1
    · rw [hmv] at h1; cases h1
    · exact h1
  · intro p hp
    obtain ⟨_, sa, hsa, hok⟩ := ha p hp
    exact ⟨sa, hsa, hok.2.1, hok.2.2⟩

/-- The create / modify / refresh entry point first insists on a single uuid, then validates. -/
theorem validate_invalid_iff (s : Schema) (e : Entry) :
    validateInvalid s e = .ok () ↔ uuidSingle e = true ∧ Conforms s e := by
  unfold validateInvalid
  simp only [invalidChecksUuidFirst, Bool.true_and]
  cases hu : uuidSingle e with
  | false => simp
  | true => simp [validate_ok_iff_conforms]

/-- Every path that writes to the backend (regenerated list of all call sites outside `be/`)
validates its candidates after the last rewrite and only seals between validation and the write;
the conflict copies of the replication path are written as `resolve_add_conflict` built them
(`OpOk.copies`). -/
theorem pipelines_well_ordered : ∀ p ∈ pipelines, wellOrdered p.2 = true := by
  decide +kernel

/-- What a store path writes: whatever the plugins, modlists and the replication merge do to the
candidates (`env` is arbitrary), every entry that reaches the backend is `Checked`: it passed the
schema check after the last rewrite and was only sealed afterwards (or, on the replication path
only, its class attribute is not a set of class names, which `validate_repl` cannot refuse). -/
theorem store_path_writes_only_checked {s : Schema} (env : Env)
    (hcc : ∀ e ∈ env.conflictCopies, ∃ ecs, classSet e = some ecs ∧ cConflict ∈ ecs)
    (p : String × List Step) (hp : p ∈ pipelines) (cands out : List Entry)
    (hr : runSteps env s p.2 cands [] = .ok out) :
    ∀ e ∈ out, Checked s e :=
  wellOrdered_checked (pipelines_well_ordered p hp) hcc hr

/-- Sealing a validated candidate that carries its two cid attributes keeps it valid. -/
theorem seal_keeps_valid {s : Schema} {e : Entry} (cid : Nat) (h : validate s e = .ok ())
    (hc : HasCid e) : validate s (sealEntry cid e) = .ok () :=
  (validate_ok_iff_conforms _ _).2 (conforms_seal cid ((validate_ok_iff_conforms _ _).1 h) hc)

/-- A refused operation leaves the database as it was. -/
theorem rejected_leaves_nothing {s : Schema} {db : Db} {o : Op}
    (h : (applyOp s db o).2 = false) : (applyOp s db o).1 = db := by
  revert h
  fun_cases applyOp s db o with
  -- accepted
  | case1 => nofun
  -- refused
  | case2 => exact fun _ => rfl

/-- Adding attributes and classes (and `may` attributes to a class) keeps valid entries valid. -/
theorem schema_extension_keeps_valid {s s' : Schema} {e : Entry} (hx : SchemaExt s s')
    (h : validate s e = .ok ()) : validate s' e = .ok () :=
  (validate_ok_iff_conforms s' e).2 (conforms_mono hx ((validate_ok_iff_conforms s e).1 h))

/-- The invariant of the property: over any history of operations through the store paths and of
schema reloads that only extend, every stored entry is `Checked` against the schema in force. -/
theorem stored_entries_checked (h : List HStep) (s : Schema) (db : Db)
    (hdb : ∀ e ∈ db, Checked s e) (hok : HistoryOk s h) :
    ∀ e ∈ (runHistory s db h).2, Checked (runHistory s db h).1 e := by
  fun_induction runHistory s db h with
  | case1 => exact hdb
  -- an operation
  | case2 s db o r ih => exact ih (applyOp_checked hok.1 hdb) hok.2
  -- a reload
  | case3 _ db s' r ih => exact ih (fun e he => checked_mono hok.1 (hdb e he)) hok.2

/-- … hence every stored LIVE entry (class attribute without `conflict` / `recycled`; class
`object`, which the Base plugin puts on every entry) satisfies the schema in force exactly as
stored, the two attributes `seal` rewrites included. `SchemaCidFacts`: `object` requires
`last_modified_cid` and `created_at_cid` and both are cid-typed (true of the shipped schema,
checked by the harness on every schema it dumps). -/
theorem stored_live_entries_valid (h : List HStep) (s : Schema) (db : Db)
    (hdb : ∀ e ∈ db, Checked s e) (hok : HistoryOk s h)
    (hf : SchemaCidFacts (runHistory s db h).1) :
    ∀ e ∈ (runHistory s db h).2, ∀ ecs, classSet e = some ecs → cObject ∈ ecs →
      cConflict ∉ ecs → cRecycled ∉ ecs → validate (runHistory s db h).1 e = .ok () :=
  fun e he => checked_live_valid hf (stored_entries_checked h s db hdb hok e he)

/-- Replication: a merged entry that fails the schema is not refused but becomes a recycled
conflict entry — it is no longer live, and as a conflict entry it is exempt. -/
theorem repl_invalid_becomes_conflict {s : Schema} {u : Nat} {e : Entry}
    (h : validate s e ≠ .ok ()) (hwt : ClassWellTyped e) :
    (∃ ecs, classSet (validateRepl s u e) = some ecs ∧ cConflict ∈ ecs ∧ cRecycled ∈ ecs)
    ∧ validate s (validateRepl s u e) = .ok () := by
  cases hv : validate s e with
  | ok _ => exact absurd hv h
  | error x =>
    obtain ⟨ecs, h1, h2, h3⟩ := validateRepl_of_err (u := u) hv hwt
    exact ⟨⟨ecs, h1, h2, h3⟩, (validate_ok_iff_conforms _ _).2 ⟨ecs, h1, Or.inl h2⟩⟩

/-! ## Narrowing schema edits are outside the invariant (as the quantifier says)

A reload never revalidates stored entries, so the invariant over *arbitrary* reloads is false. -/

/-- the invariant claimed for histories whose reloads are arbitrary -/
def stored_live_entries_valid_full : Prop :=
  ∀ (s s' : Schema) (db : Db), SchemaCidFacts s' → (∀ e ∈ db, Checked s e) →
    ∀ e ∈ (runHistory s db [.reload s']).2, ∀ ecs, classSet e = some ecs → cObject ∈ ecs →
      cConflict ∉ ecs → cRecycled ∉ ecs → validate (runHistory s db [.reload s']).1 e = .ok ()

def demoAttrs : List SAttr :=
  [⟨aClass, synIutf8, true, false⟩, ⟨aUuid, synUuid, false, false⟩,
   ⟨aLastMod, synCid, false, false⟩, ⟨aCreatedAt, synCid, false, false⟩,
   ⟨16, 5, false, false⟩, ⟨17, 6, true, false⟩, ⟨18, 5, false, false⟩]

def demoObject : SClass := ⟨cObject, [aClass, aUuid, aLastMod, aCreatedAt], [], [], [], [], [], [], []⟩
def demoGroup : SClass := ⟨16, [16], [], [17], [18], [], [], [], []⟩
/-- the same class after an administrator removed `may: 18` -/
def demoGroupNarrow : SClass := ⟨16, [16], [], [17], [], [], [], [], []⟩

def demoSchema : Schema := ⟨demoAttrs, [demoObject, demoGroup, ⟨cRecycled, [], [], [], [], [], [], [], []⟩]⟩
def demoNarrow : Schema := ⟨demoAttrs, [demoObject, demoGroupNarrow, ⟨cRecycled, [], [], [], [], [], [], [], []⟩]⟩
/-- pure addition: a new attribute 19 and a new class 17 that may carry it -/
def demoWide : Schema :=
  ⟨demoAttrs ++ [⟨19, 5, true, false⟩],
   [demoObject, demoGroup, ⟨cRecycled, [], [], [], [], [], [], [], []⟩, ⟨17, [], [], [19], [], [16], [], [], []⟩]⟩

/-- a create request after `assign_cid` -/
def demoEntry : Entry :=
  [(aClass, ⟨synIutf8, [⟨cObject, true⟩, ⟨16, true⟩]⟩), (aUuid, ⟨synUuid, [⟨100, true⟩]⟩),
   (aLastMod, ⟨synCid, [⟨9, true⟩]⟩), (aCreatedAt, ⟨synCid, [⟨9, true⟩]⟩),
   (16, ⟨5, [⟨7, true⟩]⟩), (18, ⟨5, [⟨8, true⟩]⟩)]

theorem demo_valid : validate demoSchema demoEntry = .ok () := by decide +kernel
theorem demo_narrow_invalid :
    validate demoNarrow demoEntry = .error (.attributeNotValidForClass 18) := by decide +kernel

/-- for `demoNarrow` and `demoWide` -/
theorem demo_facts (s : Schema) (h1 : s.classes.head? = some demoObject)
    (h2 : s.attrs.take 7 = demoAttrs) : SchemaCidFacts s := by
  have hobj : findClass s cObject = some demoObject := by
    unfold findClass
    cases hc : s.classes with
    | nil => rw [hc] at h1; cases h1
    | cons x r => rw [hc] at h1; cases h1; rfl
  refine ⟨⟨demoObject, hobj, Or.inl (by decide), Or.inl (by decide)⟩, fun a sa ha hfa => ?_⟩
  have hfa' : (demoAttrs ++ s.attrs.drop 7).find? (fun x => x.name == a) = some sa := by
    rw [← h2, List.take_append_drop]; exact hfa
  rw [List.find?_append] at hfa'
  rcases ha with rfl | rfl
  · cases hfa'; rfl
  · cases hfa'; rfl

theorem stored_live_entries_valid_full_false : ¬ stored_live_entries_valid_full := by
  intro h
  have hg : ∀ e ∈ [demoEntry], Checked demoSchema e := by
    intro e he
    simp only [List.mem_singleton] at he
    subst he
    exact .passed demo_valid
  have := h demoSchema demoNarrow [demoEntry] (demo_facts _ rfl rfl) hg
    demoEntry (by simp [runHistory]) [cObject, 16] (by rfl) (by decide) (by decide) (by decide)
  simp only [runHistory] at this
  rw [demo_narrow_invalid] at this
  cases this

/-! ## Non-vacuity -/

def demoEnv : Env :=
  { rewrite := fun _ e => e, refuse := fun _ _ => false, conflictCopies := [], cid := 9,
    uuidOf := fun _ => 100 }

/-- a create through the regenerated `create` path: the entry is validated, sealed and stored -/
def demoCreate : Op := ⟨(pipelines.lookup "create").getD [], demoEnv, fun _ => false, [demoEntry]⟩

example : (applyOp demoSchema [] demoCreate).2 = true := by decide +kernel
example : (applyOp demoSchema [] demoCreate).1 = [sealEntry 9 demoEntry] := by decide +kernel
example : validate demoSchema (sealEntry 9 demoEntry) = .ok () := by decide +kernel
example : HasCid demoEntry := ⟨⟨_, rfl, rfl⟩, ⟨_, rfl, rfl⟩⟩

/-- an ill-typed request (two values on the single-valued attribute 16) is refused, nothing stored -/
def demoBad : Entry :=
  [(aClass, ⟨synIutf8, [⟨cObject, true⟩, ⟨16, true⟩]⟩), (aUuid, ⟨synUuid, [⟨101, true⟩]⟩),
   (aLastMod, ⟨synCid, [⟨9, true⟩]⟩), (aCreatedAt, ⟨synCid, [⟨9, true⟩]⟩),
   (16, ⟨5, [⟨7, true⟩, ⟨8, true⟩]⟩)]
example : validate demoSchema demoBad = .error (.invalidAttributeSyntax 16) := by decide +kernel
example : applyOp demoSchema [sealEntry 9 demoEntry]
    ⟨(pipelines.lookup "create").getD [], demoEnv, fun _ => false, [demoBad]⟩
    = ([sealEntry 9 demoEntry], false) := by decide +kernel

/-- a missing required attribute is refused for a live entry and tolerated for a recycled one -/
def demoMissing (recycled : Bool) : Entry :=
  [(aClass, ⟨synIutf8, [⟨cObject, true⟩, ⟨16, true⟩] ++ (if recycled then [⟨cRecycled, true⟩] else [])⟩),
   (aUuid, ⟨synUuid, [⟨102, true⟩]⟩), (aLastMod, ⟨synCid, [⟨9, true⟩]⟩), (aCreatedAt, ⟨synCid, [⟨9, true⟩]⟩)]
example : validate demoSchema (demoMissing false) = .error (.missingMustAttribute [16]) := by decide +kernel
example : validate demoSchema (demoMissing true) = .ok () := by decide +kernel

/-- replication: the merge of two individually valid edits (one side dropped class 16, the other
set attribute 16) fails the schema and becomes a recycled conflict entry -/
def demoMerged : Entry :=
  [(aClass, ⟨synIutf8, [⟨cObject, true⟩]⟩), (aUuid, ⟨synUuid, [⟨103, true⟩]⟩),
   (aLastMod, ⟨synCid, [⟨9, true⟩]⟩), (aCreatedAt, ⟨synCid, [⟨9, true⟩]⟩), (16, ⟨5, [⟨7, true⟩]⟩)]
example : validate demoSchema demoMerged = .error (.attributeNotValidForClass 16) := by decide +kernel
example : classSet (validateRepl demoSchema 103 demoMerged) = some [cObject, cRecycled, cConflict] := by
  decide +kernel
example : ClassWellTyped demoMerged := by
  intro ava h
  have : getAva demoMerged aClass = some ⟨synIutf8, [⟨cObject, true⟩]⟩ := by decide +kernel
  rw [this] at h; cases h; rfl

/-- the hypotheses of `stored_entries_checked` are satisfiable by a history with a create and an
extending reload (new attribute 19, new class 17) -/
theorem demo_ext : SchemaExt demoSchema demoWide :=
  schemaExt_append demoSchema [⟨19, 5, true, false⟩] [⟨17, [], [], [19], [], [16], [], [], []⟩]
    (by decide +kernel)

example : HistoryOk demoSchema [.op demoCreate, .reload demoWide] :=
  ⟨⟨by decide +kernel, fun e he => by cases he⟩, demo_ext, trivial⟩

example : SchemaCidFacts demoWide := demo_facts _ rfl rfl

example : (runHistory demoSchema [] [.op demoCreate, .reload demoWide]).2 = [sealEntry 9 demoEntry] := by
  decide +kernel

end Kanidm.SchemaCheck
