import KanidmProofs.Lemmas.Bearer
import KanidmProofs.Lemmas.BearerHistory
/-!
# C32 — Bearer tokens are accepted only for live sessions

`validate` is the transcription of `validate_client_auth_info_to_ident` for a bearer token; every
comparison operator, the grace constant and the session/expiry match arms inside it are
regenerated from the source on every run, while the right-hand sides below are written in plain
arithmetic from the property text (`KeyOk`, `InWindow`, `SessionLive`, `Recorded`, `InGrace` with
the literal 300 s).  A changed operator or constant therefore breaks a proof here.

One place where the code accepts more than the property text allows is stated as a `…_full`
proposition and refuted (`…_full_false`): anonymous tokens never have a session record (known
finding D29).
-/
namespace Kanidm.Bearer
open Kanidm.Gen.Bearer

/-- Login token (UAT): accepted exactly when signed by a known non-revoked key, `ct < expiry`,
the account exists inside its validity window, and — unless it is the anonymous account — the
session is recorded live with a matching expiry, or is not recorded at all and the grace window
has not passed.  The identity returned is the token's own. -/
theorem uat_accepted_iff (w : World) (k : Nat) (sig : Bool) (a s iat : Nat) (exp : Option Nat)
    (ct a' s' : Nat) :
    validate w ⟨k, sig, .uat a s iat exp⟩ ct = .ident a' s' ↔
      a' = a ∧ s' = s ∧ KeyOk w k ∧ sig = true ∧ (∀ e, exp = some e → ct < e) ∧
      ∃ acc, w.accounts a = some acc ∧ InWindow acc ct ∧
        (a = anonymous ∨
          (a ≠ anonymous ∧ (Recorded acc s exp ∨ (acc.sessions s = none ∧ InGrace iat ct)))) := by
  rw [validate_uat_ident_iff, processUat_ident_iff, jwsVerify_iff]
  simp only [checkUat_iff]
  constructor
  · rintro ⟨⟨hk, hs⟩, he, rfl, rfl, acc, hacc, hw, hr⟩
    exact ⟨rfl, rfl, hk, hs, he, acc, hacc, hw, hr⟩
  · rintro ⟨rfl, rfl, hk, hs, he, acc, hacc, hw, hr⟩
    exact ⟨⟨hk, hs⟩, he, rfl, rfl, acc, hacc, hw, hr⟩

/-- Legacy (JSON) api token: accepted exactly when signed by a known non-revoked key,
`ct < expiry`, the account exists inside its validity window, and the token's own record is
present on the account — or absent while the grace window has not passed. -/
theorem apit_accepted_iff (w : World) (k : Nat) (sig : Bool) (a tid iat : Nat) (exp : Option Nat)
    (ct a' s' : Nat) :
    validate w ⟨k, sig, .apit a tid iat exp⟩ ct = .ident a' s' ↔
      a' = a ∧ s' = tid ∧ KeyOk w k ∧ sig = true ∧ (∀ e, exp = some e → ct < e) ∧
      ∃ acc, w.accounts a = some acc ∧ InWindow acc ct ∧
        ((acc.apiTokens tid).isSome = true ∨ (acc.apiTokens tid = none ∧ InGrace iat ct)) := by
  rw [validate_apit_ident_iff, processApit_ident_iff, jwsVerify_iff]
  simp only [checkApit_iff]
  constructor
  · rintro ⟨⟨hk, hs⟩, he, rfl, rfl, acc, hacc, hw, hr⟩
    exact ⟨rfl, rfl, hk, hs, he, acc, hacc, hw, hr⟩
  · rintro ⟨rfl, rfl, hk, hs, he, acc, hacc, hw, hr⟩
    exact ⟨⟨hk, hs⟩, he, rfl, rfl, acc, hacc, hw, hr⟩

/-- Compact api token (the payload is the session uuid): accepted exactly when signed by a known
non-revoked key and some existing account carries a record for that id which has not expired
(`ct < expiry`), inside the account's validity window.  No grace window: the record itself is
how the token is resolved. -/
theorem apic_accepted_iff (w : World) (k : Nat) (sig : Bool) (sid ct a' s' : Nat) :
    validate w ⟨k, sig, .apic sid⟩ ct = .ident a' s' ↔
      s' = sid ∧ KeyOk w k ∧ sig = true ∧ findApiOwner w sid = some a' ∧
      ∃ acc r, w.accounts a' = some acc ∧ acc.apiTokens sid = some r ∧
        (∀ e, r.expiry = some e → ct < e) ∧ InWindow acc ct := by
  rw [validate_apic_ident_iff, jwsVerify_iff]
  simp only [processApit_ident_iff, checkApit_iff]
  constructor
  · rintro ⟨⟨hk, hs⟩, a, acc, r, ho, hacc, hr, he, rfl, rfl, acc', hacc', hw, _⟩
    obtain rfl : acc = acc' := Option.some.inj (hacc.symm.trans hacc')
    exact ⟨rfl, hk, hs, ho, acc, r, hacc, hr, he, hw⟩
  · rintro ⟨rfl, hk, hs, ho, acc, r, hacc, hr, he, hw⟩
    exact ⟨⟨hk, hs⟩, a', acc, r, ho, hacc, hr, he, rfl, rfl, acc, hacc, hw,
      Or.inl (by rw [hr]; rfl)⟩

/-- A verified payload that is none of the three token shapes is never accepted. -/
theorem other_rejected (w : World) (k : Nat) (sig : Bool) (ct : Nat) :
    validate w ⟨k, sig, .other⟩ ct = .notAuthenticated := by
  unfold validate parseToken
  cases jwsVerify w ⟨k, sig, .other⟩ <;> rfl

/-- Pre-validating a request's token and then resolving the identity at the same instant decides
exactly like the direct path. -/
theorem prevalidated_same_decision (w : World) (t : Token) (ct : Nat) :
    validatePre w t ct = validate w t ct := by
  unfold validatePre preValidate validateWith validate
  cases h : parseToken w t ct with
  | uat u sid iat exp => rfl
  | api a tid iat => simp
  | err r => cases r <;> simp

/-- The property's "only if" side for a token `t` answered with identity `(a, s)` at `ct`: signed
by a known, non-revoked key; the account exists inside its validity window; the identity is the
token's own; the token has not expired; and — apart from the grace window — the session is recorded
on the account (login: live with matching expiry; api: the token's own record).  The last disjunct
of the login case is the anonymous exemption the code makes (known finding D29). -/
def AcceptedOnlyIf (w : World) (t : Token) (ct a s : Nat) : Prop :=
  KeyOk w t.kid ∧ t.sigok = true ∧
  ∃ acc, w.accounts a = some acc ∧ InWindow acc ct ∧
    match t.payload with
    | .uat u sid iat exp =>
      a = u ∧ s = sid ∧ (∀ e, exp = some e → ct < e) ∧
        (InGrace iat ct ∨ Recorded acc sid exp ∨ u = anonymous)
    | .apit u tid iat exp =>
      a = u ∧ s = tid ∧ (∀ e, exp = some e → ct < e) ∧
        (InGrace iat ct ∨ (acc.apiTokens tid).isSome = true)
    | .apic sid =>
      s = sid ∧ ∃ r, acc.apiTokens sid = some r ∧ (∀ e, r.expiry = some e → ct < e)
    | .other => False

/-- **C32.** Whatever the state of the server, a bearer token that is answered with an identity
satisfies every clause of the property. -/
theorem accepted_only_live (w : World) (t : Token) (ct a s : Nat)
    (h : validate w t ct = .ident a s) : AcceptedOnlyIf w t ct a s := by
  obtain ⟨k, sig, p⟩ := t
  cases p with
  | uat u sid iat exp =>
    obtain ⟨rfl, rfl, hk, hs, he, acc, hacc, hw, hrest⟩ := (uat_accepted_iff w k sig u sid iat exp ct a s).mp h
    refine ⟨hk, hs, acc, hacc, hw, rfl, rfl, he, ?_⟩
    rcases hrest with ha | ⟨_, hr | ⟨_, hg⟩⟩
    · exact Or.inr (Or.inr ha)
    · exact Or.inr (Or.inl hr)
    · exact Or.inl hg
  | apit u tid iat exp =>
    obtain ⟨rfl, rfl, hk, hs, he, acc, hacc, hw, hrest⟩ := (apit_accepted_iff w k sig u tid iat exp ct a s).mp h
    refine ⟨hk, hs, acc, hacc, hw, rfl, rfl, he, ?_⟩
    rcases hrest with hp | ⟨_, hg⟩
    · exact Or.inr hp
    · exact Or.inl hg
  | apic sid =>
    obtain ⟨rfl, hk, hs, _, acc, r, hacc, hr, he, hw⟩ := (apic_accepted_iff w k sig sid ct a s).mp h
    exact ⟨hk, hs, acc, hacc, hw, rfl, r, hr, he⟩
  | other => rw [other_rejected] at h; cases h

theorem accepted_uat_account {w : World} {k : Nat} {sig : Bool} {a s iat : Nat} {exp : Option Nat}
    {ct a' s' : Nat} (h : validate w ⟨k, sig, .uat a s iat exp⟩ ct = .ident a' s') :
    a' = a ∧ ∃ acc, w.accounts a = some acc ∧
      (a = anonymous ∨
        (a ≠ anonymous ∧ (Recorded acc s exp ∨ (acc.sessions s = none ∧ InGrace iat ct)))) := by
  obtain ⟨ha, _, _, _, _, acc, hacc, _, hrest⟩ := (uat_accepted_iff w k sig a s iat exp ct a' s').mp h
  exact ⟨ha, acc, hacc, hrest⟩

/-- The property text without the anonymous exemption. -/
def accepted_requires_session_full : Prop :=
  ∀ (w : World) (k : Nat) (sig : Bool) (u sid iat : Nat) (exp : Option Nat) (ct a s : Nat),
    validate w ⟨k, sig, .uat u sid iat exp⟩ ct = .ident a s → ¬ InGrace iat ct →
      ∃ acc, w.accounts a = some acc ∧ Recorded acc sid exp

/-- A history in which it fails: the anonymous account logs in, nothing is ever recorded, and the
token is still accepted an hour later (the harness replays exactly this; finding D29). -/
def anonWorld : World := run World.empty [.addAccount anonymous none, .keyAdd 1]

theorem accepted_requires_session_full_false : ¬ accepted_requires_session_full := by
  intro h
  have hv : validate anonWorld ⟨1, true, .uat anonymous 100 0 (some 86400000000000)⟩ 3600000000000
      = .ident anonymous 100 := by decide +kernel
  obtain ⟨acc, hacc, v, hs, _⟩ := h anonWorld 1 true anonymous 100 0 (some 86400000000000)
    3600000000000 anonymous 100 hv (by unfold InGrace; omega)
  have hnone : (anonWorld.accounts anonymous).bind (fun acc => acc.sessions 100) = none := by
    decide +kernel
  rw [hacc, Option.bind_some, hs] at hnone
  cases hnone

/-- The strongest statement that does hold: for every account other than anonymous. -/
theorem accepted_requires_session_partial (w : World) (k : Nat) (sig : Bool) (u sid iat : Nat)
    (exp : Option Nat) (ct a s : Nat)
    (h : validate w ⟨k, sig, .uat u sid iat exp⟩ ct = .ident a s) (hu : u ≠ anonymous)
    (hg : ¬ InGrace iat ct) :
    ∃ acc, w.accounts a = some acc ∧ Recorded acc sid exp := by
  obtain ⟨rfl, acc, hacc, hrest⟩ := accepted_uat_account h
  rcases hrest with ha | ⟨_, hr | ⟨_, hg'⟩⟩
  · exact absurd ha hu
  · exact ⟨acc, hacc, hr⟩
  · exact absurd hg' hg

/-! ## Corollaries (each clause on its own, as a rejection) -/

/-- A token whose key is unknown to the domain or revoked is rejected, whatever else holds. -/
theorem revoked_key_rejected (w : World) (t : Token) (ct : Nat) (h : ¬ KeyOk w t.kid) :
    validate w t ct = .notAuthenticated := by
  apply validate_of_not_verified
  cases hj : jwsVerify w t with
  | false => rfl
  | true => exact absurd ((jwsVerify_iff w t).mp hj).1 h

theorem bad_signature_rejected (w : World) (t : Token) (ct : Nat) (h : t.sigok = false) :
    validate w t ct = .notAuthenticated := by
  apply validate_of_not_verified
  cases hj : jwsVerify w t with
  | false => rfl
  | true => have := ((jwsVerify_iff w t).mp hj).2; rw [h] at this; cases this

/-- A login token at or after its expiry instant is never accepted. -/
theorem expired_rejected (w : World) (k : Nat) (sig : Bool) (u sid iat e ct a s : Nat)
    (h : e ≤ ct) : validate w ⟨k, sig, .uat u sid iat (some e)⟩ ct ≠ .ident a s := by
  intro hv
  obtain ⟨_, _, _, _, he, _⟩ := (uat_accepted_iff w k sig u sid iat (some e) ct a s).mp hv
  have := he e rfl
  omega

/-- A token for an account that does not exist (never created, or deleted) is never accepted. -/
theorem absent_account_rejected (w : World) (k : Nat) (sig : Bool) (u sid iat : Nat)
    (exp : Option Nat) (ct a s : Nat) (h : w.accounts u = none) :
    validate w ⟨k, sig, .uat u sid iat exp⟩ ct ≠ .ident a s := by
  intro hv
  obtain ⟨_, acc, hacc, _⟩ := accepted_uat_account hv
  rw [h] at hacc; cases hacc

theorem outside_window_rejected (w : World) (t : Token) (ct a s : Nat) (acc : Account)
    (hacc : w.accounts a = some acc) (hw : ¬ InWindow acc ct) : validate w t ct ≠ .ident a s := by
  intro hv
  obtain ⟨_, _, acc', hacc', hw', _⟩ := accepted_only_live w t ct a s hv
  rw [hacc] at hacc'; cases hacc'; exact hw hw'

theorem accepted_record_or_grace {w : World} {k : Nat} {sig : Bool} {u sid iat : Nat} {exp : Option Nat}
    {ct a s : Nat} {acc : Account} (hu : u ≠ anonymous) (hacc : w.accounts u = some acc)
    (hv : validate w ⟨k, sig, .uat u sid iat exp⟩ ct = .ident a s) :
    (∃ v, acc.sessions sid = some v ∧ v.state = stateOf exp) ∨
      (acc.sessions sid = none ∧ InGrace iat ct) := by
  obtain ⟨_, acc', hacc', hrest⟩ := accepted_uat_account hv
  cases hacc.symm.trans hacc'
  rcases hrest with ha | ⟨_, hr | hn⟩
  · exact absurd ha hu
  · exact Or.inl ((recorded_iff acc sid exp).mp hr)
  · exact Or.inr hn

/-- A revoked session is rejected — even inside the grace window. -/
theorem revoked_session_rejected (w : World) (k : Nat) (sig : Bool) (u sid iat : Nat)
    (exp : Option Nat) (ct a s : Nat) (acc : Account) (c : Nat) (hu : u ≠ anonymous)
    (hacc : w.accounts u = some acc) (hs : acc.sessions sid = some ⟨.revokedAt, c⟩) :
    validate w ⟨k, sig, .uat u sid iat exp⟩ ct ≠ .ident a s := by
  intro hv
  rcases accepted_record_or_grace hu hacc hv with ⟨v, hv', hst⟩ | ⟨hn, _⟩
  · rw [hs] at hv'; cases hv'
    exact stateOf_ne_revoked exp hst.symm
  · rw [hs] at hn; cases hn

theorem mismatched_expiry_rejected (w : World) (k : Nat) (sig : Bool) (u sid iat : Nat)
    (exp : Option Nat) (ct a s : Nat) (acc : Account) (v : Session) (hu : u ≠ anonymous)
    (hacc : w.accounts u = some acc) (hs : acc.sessions sid = some v)
    (hne : v.state ≠ stateOf exp) :
    validate w ⟨k, sig, .uat u sid iat exp⟩ ct ≠ .ident a s := by
  intro hv
  rcases accepted_record_or_grace hu hacc hv with ⟨v', hv', hst⟩ | ⟨hn, _⟩
  · rw [hs] at hv'; cases hv'
    exact hne hst
  · rw [hs] at hn; cases hn

/-- Without a session record a login token is accepted only strictly inside the grace window. -/
theorem no_record_only_in_grace (w : World) (k : Nat) (sig : Bool) (u sid iat : Nat)
    (exp : Option Nat) (ct a s : Nat) (acc : Account) (hu : u ≠ anonymous)
    (hacc : w.accounts u = some acc) (hs : acc.sessions sid = none)
    (hv : validate w ⟨k, sig, .uat u sid iat exp⟩ ct = .ident a s) : ct < iat + 300 * 1000000000 := by
  rcases accepted_record_or_grace hu hacc hv with ⟨v, hv', _⟩ | ⟨_, hg⟩
  · rw [hs] at hv'; cases hv'
  · exact hg

/-! ## Histories -/

theorem accepted_past_grace_record {w : World} {k : Nat} {sig : Bool} {u sid iat : Nat} {exp : Option Nat}
    {ct a s : Nat} (h : validate w ⟨k, sig, .uat u sid iat exp⟩ ct = .ident a s)
    (hu : u ≠ anonymous) (hg : ¬ InGrace iat ct) :
    ∃ acc v, w.accounts u = some acc ∧ acc.sessions sid = some v ∧ v.state = stateOf exp := by
  obtain ⟨acc, hacc, hr⟩ := accepted_requires_session_partial w k sig u sid iat exp ct a s h hu hg
  obtain ⟨rfl, _⟩ := accepted_uat_account h
  obtain ⟨v, hs, hst⟩ := (recorded_iff acc sid exp).mp hr
  exact ⟨acc, v, hacc, hs, hst⟩

/-- **C32 over histories (login tokens).** Start from the empty server and run any sequence of
events.  If afterwards a login token of a non-anonymous account is accepted outside its grace
window, then the history contains a `record` event for exactly that session, with the token's
expiry, after which no event revoked it, deleted the account, removed or replaced the issuing
credential, or wrote to the account at or after the session's expiry. -/
theorem accepted_uat_has_live_history (ops : List Op) (k : Nat) (sig : Bool) (u sid iat : Nat)
    (exp : Option Nat) (ct a s : Nat)
    (h : validate (run World.empty ops) ⟨k, sig, .uat u sid iat exp⟩ ct = .ident a s)
    (hu : u ≠ anonymous) (hg : ¬ InGrace iat ct) :
    ∃ later earlier c t, ops.reverse = later ++ .record u sid c exp t :: earlier ∧
      ∀ op ∈ later, kills op u sid c (stateOf exp) = false := by
  obtain ⟨acc, v, hacc, hs, hst⟩ := accepted_past_grace_record h hu hg
  obtain ⟨later, _, earlier, heq, ⟨e, t, rfl, hse⟩, hall⟩ :=
    ((Inv.run ops u acc hacc).sess sid v hs (hst ▸ stateOf_ne_revoked exp)).2
  obtain rfl : e = exp := stateOf_injective (hse.symm.trans hst)
  rw [hst] at hall
  exact ⟨later, earlier, v.cred, t, heq, hall⟩

/-- Credential removal: a login token accepted outside its grace window belongs to a session whose
issuing credential is still the account's credential — after any history. -/
theorem accepted_uat_credential_present (ops : List Op) (k : Nat) (sig : Bool) (u sid iat : Nat)
    (exp : Option Nat) (ct a s : Nat)
    (h : validate (run World.empty ops) ⟨k, sig, .uat u sid iat exp⟩ ct = .ident a s)
    (hu : u ≠ anonymous) (hg : ¬ InGrace iat ct) :
    ∃ acc v, (run World.empty ops).accounts u = some acc ∧ acc.sessions sid = some v ∧
      acc.cred = some v.cred := by
  obtain ⟨acc, v, hacc, hs, hst⟩ := accepted_past_grace_record h hu hg
  exact ⟨acc, v, hacc, hs, ((Inv.run ops u acc hacc).sess sid v hs (hst ▸ stateOf_ne_revoked exp)).1⟩

/-- **C32 over histories (api tokens).** An api token (either format) accepted outside the grace
window has an `apiIssue` event for its id on that account in the history, after which it was
neither destroyed nor the account deleted. -/
theorem accepted_api_has_live_history (ops : List Op) (t : Token) (ct a s : Nat)
    (h : validate (run World.empty ops) t ct = .ident a s)
    (hp : (∃ u iat exp, t.payload = .apit u s iat exp ∧ ¬ InGrace iat ct) ∨ t.payload = .apic s) :
    ∃ later earlier e iat t', ops.reverse = later ++ .apiIssue a s e iat t' :: earlier ∧
      ∀ op ∈ later, killsApi op a s = false := by
  obtain ⟨k, sig, p⟩ := t
  have key : ∀ acc r, (run World.empty ops).accounts a = some acc → acc.apiTokens s = some r →
      ∃ later earlier e iat t', ops.reverse = later ++ .apiIssue a s e iat t' :: earlier ∧
        ∀ op ∈ later, killsApi op a s = false := by
    intro acc r hacc hr
    obtain ⟨later, _, earlier, heq, ⟨t', rfl⟩, hall⟩ := (Inv.run ops a acc hacc).api s r hr
    exact ⟨later, earlier, _, _, t', heq, hall⟩
  rcases hp with ⟨u, iat, exp, hpay, hg⟩ | hpay
  · simp only at hpay; subst hpay
    obtain ⟨rfl, _, _, _, _, acc, hacc, _, hrest⟩ := (apit_accepted_iff _ k sig u s iat exp ct a s).mp h
    rcases hrest with hsome | ⟨_, hg'⟩
    · obtain ⟨r, hr⟩ := Option.isSome_iff_exists.mp hsome
      exact key acc r hacc hr
    · exact absurd hg' hg
  · simp only at hpay; subst hpay
    obtain ⟨_, _, _, _, acc, r, hacc, hr, _⟩ := (apic_accepted_iff _ k sig s ct a s).mp h
    exact key acc r hacc hr

/-- Revocation is final: once session `(u, sid)` is revoked (or the account gone), no later history
makes any login token for it acceptable again — not even a replayed session record. -/
theorem revoked_session_never_accepted (w : World) (u sid : Nat) (hd : Dead w u sid)
    (hu : u ≠ anonymous) (ops : List Op) (k : Nat) (sig : Bool) (iat : Nat) (exp : Option Nat)
    (ct a s : Nat) :
    validate (run w ops) ⟨k, sig, .uat u sid iat exp⟩ ct ≠ .ident a s := by
  obtain ⟨_, hdead⟩ := run_inv (P := fun w => Dead w u sid) step_dead hd ops
  rcases hdead with hn | ⟨acc, v, hacc, hs, hv⟩
  · exact absent_account_rejected _ k sig u sid iat exp ct a s hn
  · have : v = ⟨.revokedAt, v.cred⟩ := by cases v; simp at hv; simp [hv]
    rw [this] at hs
    exact revoked_session_rejected _ k sig u sid iat exp ct a s acc v.cred hu hacc hs

/-- From the empty server: after any history `pre`, revoking a session that is on the account at
that moment makes every token for it unacceptable in every continuation `post`. -/
theorem revoke_of_recorded_session_is_final (pre post : List Op) (u sid t : Nat) (acc : Account)
    (v : Session) (hu : u ≠ anonymous)
    (hacc : (run World.empty pre).accounts u = some acc) (hs : acc.sessions sid = some v)
    (k : Nat) (sig : Bool) (iat : Nat) (exp : Option Nat) (ct a s : Nat) :
    validate (run World.empty (pre ++ .revoke u sid t :: post)) ⟨k, sig, .uat u sid iat exp⟩ ct
      ≠ .ident a s := by
  rw [run_append, run_cons]
  exact revoked_session_never_accepted _ u sid
    (dead_of_revoke (Inv.run pre u acc hacc).reg hacc hs t) hu post k sig iat exp ct a s

/-- Key revocation is final: after `KeyActionRevoke` of a kid no token carrying that kid is ever
accepted again, whatever happens later (re-adding the kid included). -/
theorem revoked_key_never_accepted (w : World) (kid : Nat) (ops : List Op) (t : Token) (ct : Nat)
    (hk : t.kid = kid) :
    validate (run (step w (.keyRevoke kid)) ops) t ct = .notAuthenticated := by
  apply revoked_key_rejected
  have h0 : (step w (.keyRevoke kid)).keys kid = some true := by simp [step]
  have := run_inv (P := fun w => w.keys kid = some true) step_key_revoked h0 ops
  unfold KeyOk; rw [hk, this]; simp

/-- Deleting an account is final for its login tokens. -/
theorem deleted_account_never_accepted (pre post : List Op) (u : Nat) (hu : u ≠ anonymous)
    (hex : ((run World.empty pre).accounts u).isSome = true)
    (k : Nat) (sig : Bool) (sid iat : Nat) (exp : Option Nat) (ct a s : Nat) :
    validate (run World.empty (pre ++ .delete u :: post)) ⟨k, sig, .uat u sid iat exp⟩ ct
      ≠ .ident a s := by
  obtain ⟨acc, hacc⟩ := Option.isSome_iff_exists.mp hex
  rw [run_append, run_cons]
  exact revoked_session_never_accepted _ u sid
    (dead_of_delete (Inv.run pre u acc hacc).reg sid) hu post k sig iat exp ct a s

/-! ## Non-vacuity: a concrete history in which every clause is exercised -/

/-- person 1 (credential 7) logs in at t = 10 s (token: session 100, expiry 10 s + 1 day, key 1),
the session record is written at 11 s; an api token 200 is issued for service account 3. -/
def demoOps : List Op :=
  [.addAccount 1 (some 7), .addAccount 3 none, .keyAdd 1,
   .record 1 100 7 (some 86410000000000) 11000000000,
   .apiIssue 3 200 none 12000000000 12000000000]

def demoUat : Token := ⟨1, true, .uat 1 100 10000000000 (some 86410000000000)⟩
def demoApic : Token := ⟨1, true, .apic 200⟩

/-- accepted one hour later, far outside the grace window … -/
example : validate (run World.empty demoOps) demoUat 3610000000000 = .ident 1 100 := by decide +kernel
/-- … rejected at the expiry instant, after revocation, after credential removal, after deletion,
after key revocation, with a bad signature, outside the validity window … -/
example : validate (run World.empty demoOps) demoUat 86410000000000 = .sessionExpired := by decide +kernel
example : validate (run World.empty (demoOps ++ [.revoke 1 100 20000000000])) demoUat 3610000000000
    = .sessionExpired := by decide +kernel
example : validate (run World.empty (demoOps ++ [.setCred 1 none 20000000000])) demoUat 3610000000000
    = .sessionExpired := by decide +kernel
example : validate (run World.empty (demoOps ++ [.delete 1])) demoUat 3610000000000
    = .sessionExpired := by decide +kernel
example : validate (run World.empty (demoOps ++ [.keyRevoke 1])) demoUat 3610000000000
    = .notAuthenticated := by decide +kernel
example : validate (run World.empty demoOps) { demoUat with sigok := false } 3610000000000
    = .notAuthenticated := by decide +kernel
example : validate (run World.empty (demoOps ++ [.setValid 1 none (some 3600000000000) 20000000000]))
    demoUat 3610000000000 = .sessionExpired := by decide +kernel
/-- … an unrecorded login is accepted one nanosecond before the grace window ends and not at its end. -/
example : validate (run World.empty [.addAccount 1 (some 7), .keyAdd 1]) demoUat 309999999999
    = .ident 1 100 := by decide +kernel
example : validate (run World.empty [.addAccount 1 (some 7), .keyAdd 1]) demoUat 310000000000
    = .sessionExpired := by decide +kernel
/-- api tokens: accepted while the record is there, rejected once destroyed -/
example : validate (run World.empty demoOps) demoApic 3610000000000 = .ident 3 200 := by decide +kernel
example : validate (run World.empty (demoOps ++ [.apiDestroy 3 200 20000000000])) demoApic 3610000000000
    = .notAuthenticated := by decide +kernel
/-- the hypotheses of the history theorems are met by `demoOps` -/
example : ∃ later earlier c t, demoOps.reverse = later ++ .record 1 100 c (some 86410000000000) t :: earlier ∧
    ∀ op ∈ later, kills op 1 100 c (stateOf (some 86410000000000)) = false :=
  accepted_uat_has_live_history demoOps 1 true 1 100 10000000000 (some 86410000000000) 3610000000000 1 100
    (by decide) (by decide) (by unfold InGrace; omega)

end Kanidm.Bearer
