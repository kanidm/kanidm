import KanidmProofs.Lemmas.RefintRepl
/-!
# C16 — no dangling references

Model: `KanidmModel/Refint.lean` (refint.rs, the cascade / recycle parts of delete.rs and
recycle.rs, the `ref_cache` rule of schema.rs), parameterised by `Generated/RefintOps.lean`.

The property: after any sequence of committed operations no reference-valued attribute of a live
entry names an entry that is not live; a write that would create such a reference is refused;
deleting an entry removes the references to it.

Exemptions the code has, all visible in the statements below:
* `Entry.exempt`: `memberof` (every entry) and `dynmember` of a dynamic group are skipped by
  refint's own existence check — they are other plugins' output (memberof / dyngroup, C17 / C18);
* `VS.active`: a *revoked* OAuth2 session keeps its resource-server uuid but no longer refers;
* `stepOk`: an OAuth2 session id must not collide with an entry uuid (`sid_collision_breaks` shows
  the hypothesis is necessary), and the `directmemberof` values that memberof stashes on a deleted
  entry are live groups.
-/
namespace Kanidm.Refint
open Kanidm.Gen.Refint

/-- The values of the operators and flags regenerated from the source, named in one place.  The
lemmas use them by unfolding, except two: `cascadeDeletesReferrers` is read by the model's
`deleteCascade`, but the lemmas hold for either value (`deleted_sub`) and only the evaluated
histories below depend on it; `pluginHooksCalled` is read by nothing and is tied to the source here
only. -/
theorem ops_as_modelled :
    (∀ y : Syn, inRefCache y = (y != .other))
    ∧ sessionRefsSkipRevoked = true ∧ skipMemberOf = true ∧ skipDynMemberOnDynGroup = true
    ∧ newRefsAreDifference = true ∧ existsFastHidesMasked = true ∧ existsSlowHidesMasked = true
    ∧ (∀ a b, fastAllFound a b = (a == b)) ∧ (∀ b, slowMissingWhen b = !b) ∧ (∀ b, refuseWhen b = !b)
    ∧ removeSearchesAllStates = true ∧ removeSweepsEveryRefType = true
    ∧ postDeleteRemovesCandidates = true
    ∧ (∀ a b, becameInactive a b = (!b && (a != b)))
    ∧ replRemovesMissing = true ∧ replRemovesConflicts = true ∧ replRemovesInactive = true
    ∧ cascadeDeletesReferrers = true ∧ pluginHooksCalled = true := by
  refine ⟨fun y => by cases y <;> rfl, rfl, rfl, rfl, rfl, rfl, rfl, fun _ _ => rfl, fun _ => rfl,
    fun _ => rfl, rfl, rfl, rfl, fun _ _ => rfl, rfl, rfl, rfl, rfl, rfl⟩

/-! ## the invariant is kept by every operation, hence by every history -/

theorem inv_step {s : State} (hinv : Inv s) (op : Op) (hok : stepOk s op = true) : Inv (apply s op) := by
  refine inv_apply hinv fun s' h => ?_
  cases op with
  | create es => exact inv_create hinv h
  | modify u m => exact inv_modify hinv h
  | delete us st => exact inv_delete hinv hok h
  | revive us => exact inv_revive hinv h
  | purgeRecycled => exact inv_purgeRecycled hinv h
  | purgeTombstones => exact inv_purgeTombstones hinv h
  | repl c k => exact inv_repl hinv hok h

theorem inv_of_history {s : State} (hinv : Inv s) (ops : List Op) (hok : histOk s ops = true) :
    Inv (run s ops) := by
  unfold run
  induction ops generalizing s with
  | nil => exact hinv
  | cons op ops ih =>
    simp only [histOk, Bool.and_eq_true] at hok
    simp only [List.foldl_cons]
    exact ih (inv_step hinv op hok.1) hok.2

/-- The property, on a state: every active reference held in a non-exempt attribute of a live
entry is the uuid of a live entry. -/
def NoDangling (s : State) : Prop :=
  ∀ e ∈ s, e.st = .live → ∀ p ∈ e.attrs, e.exempt p.1 = false → ∀ r ∈ p.2.active,
    ∃ t ∈ s, t.uuid = r ∧ t.st = .live

theorem noDangling_of_inv {s : State} (h : Inv s) : NoDangling s := by
  intro e he _ p hp hx r hr
  exact isLive_iff.mp (h.2 e he r (mem_propRefs.mpr ⟨p, hp, hx, hr⟩))

/-- **No dangling references after any history** (create / modify / delete with cascade / revive /
purge of the recycle bin / purge of tombstones / replicated incremental apply of arbitrary
candidates), from any state that satisfies the invariant. -/
theorem noDangling_of_history {s : State} (hinv : Inv s) (ops : List Op) (hok : histOk s ops = true) :
    NoDangling (run s ops) :=
  noDangling_of_inv (inv_of_history hinv ops hok)

theorem inv_empty : Inv [] := ⟨List.nodup_nil, by simp⟩

theorem noDangling_from_empty (ops : List Op) (hok : histOk [] ops = true) : NoDangling (run [] ops) :=
  noDangling_of_history inv_empty ops hok

/-- The invariant is stronger than the property: recycled entries are kept clean too — this is
what makes revival safe. -/
theorem recycled_entries_clean {s : State} (hinv : Inv s) (ops : List Op) (hok : histOk s ops = true) :
    ∀ e ∈ run s ops, e.st = .recycled → ∀ r ∈ e.propRefs, isLive (run s ops) r = true :=
  fun e he _ r hr => (inv_of_history hinv ops hok).2 e he r hr

/-- A successful revive leaves no dangling reference: whatever the revived entries refer to
(their old references, the restored `refers`, the groups they are put back into) is live. -/
theorem revive_restores_only_live_targets {s : State} (hinv : Inv s) (us : List Nat) :
    NoDangling (apply s (.revive us)) :=
  noDangling_of_inv (inv_step hinv _ rfl)

/-- The replication fix-up: whatever entries an incremental apply writes (`cand` is arbitrary:
any states, any attribute contents, unknown uuids, duplicates) and whatever uuid conflicts are
reported, after `post_repl_incremental_conflict` + `post_repl_incremental` nothing dangles. -/
theorem repl_fixup_noDangling {s : State} (hinv : Inv s) (cand : List Entry) (conflicts : List Nat)
    (hok : stepOk s (.repl cand conflicts) = true) : NoDangling (apply s (.repl cand conflicts)) :=
  noDangling_of_inv (inv_step hinv _ hok)

/-! ## a write that would create a dangling reference is refused -/

/-- `post_modify_inner` answers `ReferentialIntegrity` as soon as one newly added reference is not
a live entry (fast path; the slow path only logs). -/
theorem check_refuses {s1 : State} (hn : (s1.map (·.uuid)).Nodup) {pre : Option (List Entry)}
    {post : List Entry} {r : Nat} (hr : r ∈ newRefs pre post) (hdead : isLive s1 r = false) :
    postModifyInner s1 pre post = some .refint := by
  unfold postModifyInner
  have : existFast s1 (newRefs pre post) = false := by
    cases h : existFast s1 (newRefs pre post)
    · rfl
    · rw [existFast_sound hn h hr] at hdead; cases hdead
  rw [this]
  rfl

/-- A create in which some new entry refers to a uuid that is not live afterwards is refused. -/
theorem create_refuses_dangling {s : State} (hn : (s.map (·.uuid)).Nodup) {es : List Entry}
    {e : Entry} (he : e ∈ es) {r : Nat} (hr : r ∈ e.propRefs)
    (hdead : isLive (s ++ es.map (fun e => { e with st := .live })) r = false) :
    ∃ er, opCreate s es = .err er := by
  cases h : opCreate s es with
  | err er => exact ⟨er, rfl⟩
  | ok s' =>
    obtain ⟨rfl, hdup, hchk⟩ := opCreate_ok h
    have hmem : r ∈ newRefs none (es.map fun e => { e with st := .live }) :=
      mem_newRefs.mpr ⟨mem_refSet.mpr ⟨{ e with st := .live }, List.mem_map_of_mem he, hr⟩,
        fun h => nomatch h⟩
    rw [check_refuses (nodup_create hn hdup) hmem hdead] at hchk
    cases hchk

/-- A modify that leaves the (live) target with a reference it did not have before, to a uuid that
is not live, is refused. -/
theorem modify_refuses_dangling {s : State} (hn : (s.map (·.uuid)).Nodup) {u : Nat} {mods : List Mod}
    {e e' : Entry} (hfind : s.find? (fun e => e.uuid == u && e.st == .live) = some e)
    (hm : applyMods e mods = some e') {r : Nat} (hr : r ∈ e'.propRefs) (hnew : r ∉ e.propRefs)
    (hdead : isLive s r = false) : ∃ er, opModify s u mods = .err er :=
  opModify_eq .. ▸ modifyOne_refuses hn (fun _ hx => beq_iff_eq.mp (Bool.and_eq_true_iff.mp hx).1)
    hfind hm hr hnew hdead

/-! ## deleting an entry removes the references to it -/

/-- After a successful delete no stored entry — live or recycled, in **any** attribute, `memberof`
and `dynmember` included — holds an active reference to a deleted uuid (the candidates and the
entries deleted with them by cascade). -/
theorem delete_strips_all_refs {s s2 : State} {us : List Nat} {stash : List (Nat × List Nat)}
    (hsid : (stateSids s).all (fun sid => !(s.map (·.uuid)).contains sid) = true)
    (h : opDelete s us stash = .ok s2) :
    ∀ u ∈ deleteTargets s us ++ deleteCascade s (deleteTargets s us),
      ∀ e ∈ s2, ∀ p ∈ e.attrs, u ∉ p.2.active := by
  rw [opDelete_ok h]
  intro u hu e he p hp hact
  obtain ⟨_, _, _, hkept⟩ := removeRefs_entry (sidFree_recycleAll hsid (deleted_sub s us) _ _ _) he
  exact (hkept p hp u hact).2 hu

/-! ## the exemptions are necessary (kernel-evaluated witnesses) -/

/-- The (holder, target) pairs of dangling references of live entries, as a list: empty exactly
when `NoDangling` holds (same definition through `propRefs` and `isLive`; the equivalence is not
proved, the witnesses below are stated with this list). -/
def danglingRefs (s : State) : List (Nat × Nat) :=
  (s.filter (·.st == .live)).flatMap (fun e =>
    e.propRefs.filterMap (fun r => if isLive s r then none else some (e.uuid, r)))

/-- Client 11, person 7 with two sessions to 11, one of them with the *session id* 11. -/
def collisionHistory : List Op :=
  [ .create [⟨11, .live, false, [], []⟩],
    .create [⟨7, .live, false, [], [(11, .sessions [⟨11, 11, false⟩, ⟨40, 11, false⟩])]⟩],
    .delete [11] [] ]

/-- Without the session-id hypothesis the invariant fails: `remove(Refer(11))` revokes the session
whose id is 11 and leaves the other session to resource server 11 active. -/
theorem sid_collision_breaks :
    histOk [] collisionHistory = false ∧ danglingRefs (run [] collisionHistory) = [(7, 11)] := by
  decide +kernel

def revokedHistory : List Op :=
  [ .create [⟨11, .live, false, [], []⟩],
    .create [⟨7, .live, false, [], [(11, .sessions [⟨40, 11, false⟩])]⟩],
    .delete [11] [] ]

/-- Counting revoked sessions as references would make the property false of the code: after the
resource server is deleted the session is revoked, not removed, and still names it. -/
theorem revoked_session_keeps_rs :
    histOk [] revokedHistory = true
    ∧ run [] revokedHistory =
        [⟨11, .recycled, false, [], []⟩, ⟨7, .live, false, [], [(11, .sessions [⟨40, 11, true⟩])]⟩]
    ∧ danglingRefs (run [] revokedHistory) = [] := by
  decide +kernel

/-! ## non-vacuity: a history that meets every hypothesis and exercises every operation -/

def demoHistory : List Op :=
  [ .create [⟨7, .live, false, [], []⟩, ⟨14, .live, false, [aRefers], [(aRefers, .keys .refer [7])]⟩],
    .create [⟨2, .live, false, [], []⟩],
    .create [⟨11, .live, false, [], [(8, .keys .scopeMap [2]), (10, .claims [(1, [2])])]⟩],
    .create [⟨1, .live, false, [], [(aMember, .keys .refer [2, 7, 14]), (7, .keys .refer [2])]⟩],
    .modify 7 [.present 11 (.sess ⟨40, 11, false⟩), .present 12 (.key .appPwd 2)],
    .modify 1 [.present aMember (.key .refer 99)],            -- refused: 99 does not exist
    .delete [2] [],
    .modify 1 [.present aMember (.key .refer 2)],             -- refused: 2 is recycled
    .revive [2],
    .delete [7] [(7, [1])],                                   -- cascades to certificate 14
    .revive [14],                                             -- refused: 7 is still recycled
    .revive [7],                                              -- revives 14 too, puts 7 back into 1
    .delete [11] [],
    .purgeRecycled, .purgeTombstones,
    .repl [⟨2, .recycled, false, [], []⟩, ⟨3, .live, false, [], [(aMember, .keys .refer [2, 7, 55])]⟩] [14] ]

/-- The history meets every side condition and runs to the state shown; stated together because the kernel
then evaluates each operation once for both. -/
theorem demoHistory_run : histOk [] demoHistory = true ∧ run [] demoHistory =
    [ ⟨7, .live, false, [], [(11, .sessions [⟨40, 11, true⟩])]⟩,
      ⟨14, .live, false, [aRefers], [(aRefers, .keys .refer [7])]⟩,
      ⟨2, .recycled, false, [], []⟩,
      ⟨1, .live, false, [], [(aMember, .keys .refer [7])]⟩,
      ⟨3, .live, false, [], [(aMember, .keys .refer [7])]⟩ ] := by decide +kernel

example : histOk [] demoHistory = true := demoHistory_run.1
example : run [] demoHistory =
    [ ⟨7, .live, false, [], [(11, .sessions [⟨40, 11, true⟩])]⟩,
      ⟨14, .live, false, [aRefers], [(aRefers, .keys .refer [7])]⟩,
      ⟨2, .recycled, false, [], []⟩,
      ⟨1, .live, false, [], [(aMember, .keys .refer [7])]⟩,
      ⟨3, .live, false, [], [(aMember, .keys .refer [7])]⟩ ] := demoHistory_run.2
example : NoDangling (run [] demoHistory) := noDangling_from_empty demoHistory demoHistory_run.1

end Kanidm.Refint
