import KanidmProofs.Lemmas.SyncScopeHistory
import KanidmProofs.C24
/-!
C50 — Synchronisation agreements stay inside their own scope.

All theorems are about the definitions of `KanidmModel/SyncScope.lean` that the driver `km_c50`
executes (`apply` = `scim_sync_apply`, `userModify`, `setYield`, `step`, `run`), instantiated at
the tables `Kanidm.Gen.SyncScope.*` / `Kanidm.Gen.Access.*` regenerated from the Rust source on
every run, and — for what users may change — about C24's `modifyAllowPerEntry` (imported). They hold
for every schema, identity, stored state, request and history; the outcome of the stages that are
not modelled is the `later` flag the histories quantify over.
-/
namespace Kanidm.SyncScope
open Kanidm.Access.Write
open Kanidm.Gen.Access
open Kanidm.Gen.SyncScope

/-- The reserved system range of the property: uuids `00000000-0000-0000-0000-xxxxxxxxxxxx`. -/
def reservedBound : Nat := 2 ^ 48

/-- "session and credential-reset state" of the property text -/
def sessionStateSpec : List Nat :=
  [A.UserAuthTokenSession, A.OAuth2Session, A.OAuth2ConsentScopeMap, A.CredentialUpdateIntentToken]

theorem dynMin_is_reservedBound : dynamicRangeMinimum = reservedBound := by decide

/-- the comparison of phase 2 is "below the bound" -/
theorem stubRange_spec (u : Nat) : stubRangeCmp u dynamicRangeMinimum = true ↔ u < reservedBound := by
  simp [stubRangeCmp, dynMin_is_reservedBound]

theorem session_state_is_sync_base : syncConstrainBase = sessionStateSpec := by decide

/-- The source has the shape the hand-written part of the model assumes: phase order, the guard of
the refresh clean-up, statement order of phase 2, the stub (classes, parent attribute), the
asserted attribute of both modlists, the scoped delete filters, rejection of attributes that are
not sync-owned, masked candidates skipped before the ownership test of phase 4. -/
theorem source_shape_as_modelled :
    applyPhaseOrder = modelledPhaseOrder ∧ refreshCleanupGuard = true ∧ phase2Order = [0, 1, 2, 3] ∧
    C.SyncObject ∈ stubClasses ∧ stubParentAttr = A.SyncParentUuid ∧
    extIdAssertAttr = A.SyncParentUuid ∧ extIdAttr = A.SyncExternalId ∧
    entryModAssertAttr = A.SyncParentUuid ∧ entryModClassAttrs = [A.SyncClass, A.Class] ∧
    entryModRejectsUnowned = true ∧ purgeSkipsPhantom = true ∧ classFilterIsSyncAllowed = true ∧
    cleanupFiltersScoped = 2 ∧ phase4FiltersScoped = 3 ∧ phase4MaskedSkippedFirst = true := by
  decide

/-- the gates of phase 1: only a `Synch` origin with `Synchronise` scope passes -/
theorem phase1_gates :
    (∀ o, phase1OriginDenied o = false → o = 2 ∨ 3 ≤ o) ∧ phase1OriginDenied 2 = false ∧
    (∀ s : Scope, phase1ScopeDenied s.code = false ↔ s = .synchronise) := by
  refine ⟨?_, by decide, ?_⟩
  · intro o h
    match o with
    | 0 => revert h; decide
    | 1 => revert h; decide
    | 2 => exact .inl rfl
    | n + 3 => exact .inr (by omega)
  · exact fun s => ⟨scope_of_not_denied s, fun h => h ▸ by decide⟩

/-- ownership test of phase 4: "parent is not this agreement" -/
theorem phase4Foreign_spec (p : Option Nat) (su : Nat) : phase4Foreign p su = true ↔ p ≠ some su := by
  simp [phase4Foreign]

/-- the two attribute-set predicates of phase 3 -/
theorem attr_predicates_spec (sa y ph : Bool) :
    (syncAllowAttr sa y = true ↔ sa = true ∧ y = false) ∧
    (phantomAttr ph sa = true ↔ ph = true ∧ sa = true) := by
  cases sa <;> cases y <;> cases ph <;> decide

/-- **Only a synchronisation identity with synchronise scope can apply a sync request.** -/
theorem sync_needs_synch_identity (sch : Schema) (id : Ident) (st : State) (req : Request)
    (st' : State) (h : apply sch id st req = .ok st') :
    ∃ su, id.origin = .synch su ∧ id.scope = .synchronise := by
  obtain ⟨su, a⟩ := apply_step sch id st req st' h
  exact ⟨su, a.origin, a.scope⟩

/-- What "not touched" means for a stored entry: every field is the same, except that the
agreement's own account entry may get a new `sync_cookie`, and that reference attributes lose the
references to entries of the agreement that the request deleted (referential integrity). -/
structure Untouched (sch : Schema) (su : Nat) (st' : State) (e e' : Entry) : Prop where
  uuid : e'.uuid = e.uuid
  life : e'.life = e.life
  parent : e'.syncParent = e.syncParent
  ext : e'.extId = e.extId
  sc : e'.syncClasses = e.syncClasses
  yld : e'.yieldAuth = e.yieldAuth
  cls : ∀ c, c ∈ e'.classes ↔ c ∈ e.classes
  cookie : e'.cookie = e.cookie ∨ e.uuid = su
  attrs : ∃ D, (∀ d, d ∈ D → ∃ x, x ∈ st' ∧ x.uuid = d ∧ x.syncParent = some su) ∧
    ∀ a, getA e'.attrs a = stripped sch.refAttrs D e.attrs a

theorem Untouched.of_frame {sch : Schema} {su : Nat} {auth : List Nat} {st' : State} {e e' : Entry}
    (f : Frame sch su auth (okIn su st') e e') (hn : e.syncParent ≠ some su) :
    Untouched sch su st' e e' where
  uuid := f.uuid
  life := f.life.resolve_right fun h => hn h.1
  parent := f.parent
  ext := f.ext.resolve_right hn
  sc := f.sc.resolve_right hn
  yld := f.yld
  cls := fun c => ⟨fun h => (f.clsNew c h).resolve_right fun o => hn o.1, f.clsKeep c⟩
  cookie := f.cookie
  attrs := by
    obtain ⟨D, hD, ha⟩ := f.attrs
    exact ⟨D, hD, fun a => Classical.byContradiction fun hne => hn (ha a hne).1⟩

/-- **An agreement touches only entries it owns.** After an accepted sync request of agreement
`su`, the stored entries are still there in the same order, and every entry whose
`sync_parent_uuid` is not `su` — native entries, other agreements' entries, recycled and tombstoned
entries of anybody else — is `Untouched`. -/
theorem sync_touches_only_owned (sch : Schema) (id : Ident) (st : State) (req : Request)
    (st' : State) (h : apply sch id st req = .ok st') :
    ∃ su, id.origin = .synch su ∧ st.length ≤ st'.length ∧
      ∀ (i : Nat) (hi : i < st.length) (hi' : i < st'.length),
        st[i].syncParent ≠ some su → Untouched sch su st' st[i] st'[i] := by
  obtain ⟨su, a⟩ := apply_step sch id st req st' h
  exact ⟨su, a.origin, Grows.length_le a.sync,
    fun i hi _ hn => Untouched.of_frame (Grows.get a.sync i hi).2.frame hn⟩

theorem IsNew.not_reserved {su : Nat} {st : State} {x : Entry} (n : IsNew su st x) :
    reservedBound ≤ x.uuid :=
  Nat.le_of_not_lt fun hlt => by
    have := (stubRange_spec _).mpr hlt
    rw [n.range] at this
    cases this

/-- **Entries an agreement creates are its own, fresh, and outside the reserved range.** Every
entry stored after an accepted request beyond the previously stored ones has `sync_parent_uuid`
= the agreement, class `sync_object`, a uuid no stored entry (live, recycled or tombstoned) had,
and that uuid is not below `00000000-0000-0000-0001-000000000000`. -/
theorem sync_never_creates_reserved (sch : Schema) (id : Ident) (st : State) (req : Request)
    (st' : State) (h : apply sch id st req = .ok st') :
    ∃ su, id.origin = .synch su ∧
      ∀ (i : Nat) (hi' : i < st'.length), st.length ≤ i →
        st'[i].syncParent = some su ∧ C.SyncObject ∈ st'[i].classes ∧
        (∀ e, e ∈ st → e.uuid ≠ st'[i].uuid) ∧ reservedBound ≤ st'[i].uuid := by
  obtain ⟨su, a⟩ := apply_step sch id st req st' h
  refine ⟨su, a.origin, fun i hi' hge => ?_⟩
  have n := Grows.get_new a.sync i hi' hge
  exact ⟨n.parent, n.cls, n.fresh, n.not_reserved⟩

/-- What an accepted request may do to an entry the agreement owns: uuid, owner and yield set stay,
the cookie too unless the entry is the agreement's own account; the entry may be deleted (live →
recycled) but never revived; classes are only added, and only classes the schema marks
`sync_allowed`; an attribute's value set changes, beyond losing references to entries of the
agreement that the request deleted, only if the schema marks it `sync_allowed` and the agreement's
stored yield-authority set does not list it — or if it is the stored target of an import attribute
(see `_full_false`). -/
structure OwnedChange (sch : Schema) (su : Nat) (auth : List Nat) (st' : State) (e e' : Entry) :
    Prop where
  uuid : e'.uuid = e.uuid
  parent : e'.syncParent = some su
  yld : e'.yieldAuth = e.yieldAuth
  cookie : e'.cookie = e.cookie ∨ e.uuid = su
  life : e'.life = e.life ∨ (e.life = .live ∧ e'.life = .recycled)
  clsKeep : ∀ c, c ∈ e.classes → c ∈ e'.classes
  clsNew : ∀ c, c ∈ e'.classes → c ∈ e.classes ∨ SyncClassOf sch c
  attrs : ∃ D, (∀ d, d ∈ D → ∃ x, x ∈ st' ∧ x.uuid = d ∧ x.syncParent = some su) ∧
    ∀ a, getA e'.attrs a ≠ stripped sch.refAttrs D e.attrs a → Changeable sch auth a

theorem OwnedChange.of_frame {sch : Schema} {su : Nat} {auth : List Nat} {st' : State} {e e' : Entry}
    (f : Frame sch su auth (okIn su st') e e') (hown : e.syncParent = some su) :
    OwnedChange sch su auth st' e e' where
  uuid := f.uuid
  parent := f.parent.trans hown
  yld := f.yld
  cookie := f.cookie
  life := f.life.imp_right fun h => h.2
  clsKeep := f.clsKeep
  clsNew := fun c hc => (f.clsNew c hc).imp_right fun h => h.2
  attrs := by
    obtain ⟨D, hD, ha⟩ := f.attrs
    exact ⟨D, hD, fun a hne => (ha a hne).2⟩

/-- **On its own entries an agreement changes only synchronisable, non-yielded attributes** (and
import targets). -/
theorem sync_changes_only_syncable_non_yielded_partial (sch : Schema) (id : Ident) (st : State)
    (req : Request) (st' : State) (h : apply sch id st req = .ok st') :
    ∃ su, id.origin = .synch su ∧
      ∀ (i : Nat) (hi : i < st.length) (hi' : i < st'.length),
        st[i].syncParent = some su →
          OwnedChange sch su (authorityOf st su) st' st[i] st'[i] := by
  obtain ⟨su, a⟩ := apply_step sch id st req st' h
  exact ⟨su, a.origin,
    fun i hi _ hown => OwnedChange.of_frame (Grows.get a.sync i hi).2.frame hown⟩

/-- `Changeable` spelled out: synchronisable by the schema and not yielded, or an import target. -/
theorem changeable_iff (sch : Schema) (auth : List Nat) (a : Nat) :
    Changeable sch auth a ↔
      (∃ d, d ∈ sch.attrs ∧ d.name = a ∧ d.syncAllowed = true ∧ a ∉ auth) ∨
        ImportTarget sch auth a := by
  unfold Changeable syncAllowAttrSet
  constructor
  · rintro (h | h)
    · obtain ⟨d, hd, rfl⟩ := List.mem_map.mp h
      have hd' := List.mem_filter.mp hd
      have := (attr_predicates_spec d.syncAllowed (auth.contains d.name) false).1.mp hd'.2
      exact .inl ⟨d, hd'.1, rfl, this.1, by simpa using this.2⟩
    · exact .inr h
  · rintro (⟨d, hd, rfl, hs, hn⟩ | h)
    · refine .inl (List.mem_map.mpr ⟨d, List.mem_filter.mpr ⟨hd, ?_⟩, rfl⟩)
      exact (attr_predicates_spec d.syncAllowed (auth.contains d.name) false).1.mpr
        ⟨hs, by simpa using hn⟩
    · exact .inr h

/-- **A request naming the id of a recycled or tombstoned entry is refused.** -/
theorem masked_ids_refused (sch : Schema) (id : Ident) (st : State) (req : Request) (st' : State)
    (h : apply sch id st req = .ok st') :
    ∀ s, s ∈ req.entries → ∀ e, e ∈ st → e.uuid = s.id → e.life = .live := by
  obtain ⟨_, a⟩ := apply_step sch id st req st' h
  intro s hs e he heq
  apply live_of_not_masked
  apply a.maskedOut e he
  rw [mem_ceIds_changeEntries, heq]
  exact List.mem_map.mpr ⟨s, hs, rfl⟩

/-- **Recycled and tombstoned entries are never touched — not even the agreement's own.** Every
stored entry that is not live is, after an accepted request, stored at the same position and equal
in every field. (Together with `masked_ids_refused` and the `life` clause of `OwnedChange`: a
deleted id can neither be changed, nor re-created, nor revived by an agreement.) -/
theorem sync_never_touches_masked (sch : Schema) (id : Ident) (st : State) (req : Request)
    (st' : State) (h : apply sch id st req = .ok st') :
    ∀ (i : Nat) (hi : i < st.length), st[i].life ≠ .live →
      ∃ hi' : i < st'.length, st'[i] = st[i] := by
  obtain ⟨_, a⟩ := apply_step sch id st req st' h
  intro i hi hnl
  obtain ⟨hi', k⟩ := Grows.get a.sync i hi
  exact ⟨hi', k.masked (Bool.of_not_eq_false fun h => hnl (live_of_not_masked h))⟩

/-- The statement as the property text has it: on its own entries an agreement changes only
attributes that are synchronisable and not handed over to Kanidm's authority. -/
def sync_changes_only_syncable_non_yielded_full : Prop :=
  ∀ (sch : Schema) (id : Ident) (st : State) (req : Request) (st' : State),
    apply sch id st req = .ok st' → ∀ su, id.origin = .synch su →
      ∀ e, e ∈ st → ∀ e', e' ∈ st' → e'.uuid = e.uuid → e.syncParent = some su →
        ∀ a, sch.refAttrs.contains a = false → getA e'.attrs a ≠ getA e.attrs a →
          a ∈ syncAllowAttrSet sch (authorityOf st su)

namespace Witness
/-- `account` may hold `primary_credential`; `password_import` is a synchronisable phantom. -/
def sch : Schema :=
  { classes := [⟨C.Account, true, [A.PrimaryCredential, A.Name]⟩, ⟨C.System, false, []⟩]
    attrs := [⟨A.PrimaryCredential, true, false⟩, ⟨A.PasswordImport, true, true⟩,
              ⟨A.Name, true, false⟩, ⟨A.SyncParentUuid, false, false⟩]
    refAttrs := [A.Member] }

/-- the agreement: `primary_credential` is yielded to Kanidm's authority -/
def agreement : Entry :=
  { uuid := 600 + 2 ^ 48, life := .live, classes := [C.Object, C.SyncAccount], syncParent := none,
    extId := none, syncClasses := [], cookie := none, yieldAuth := some [A.PrimaryCredential],
    attrs := [(A.Name, [1])] }

/-- a synchronised account with credential 7 -/
def person : Entry :=
  { uuid := 5 + 2 ^ 48, life := .live, classes := [C.Object, C.SyncObject, C.Account],
    syncParent := some (600 + 2 ^ 48), extId := some 3, syncClasses := [C.Account], cookie := none,
    yieldAuth := none, attrs := [(A.Name, [2]), (A.PrimaryCredential, [7])] }

/-- a native group that has the account as a member -/
def native : Entry :=
  { uuid := 77 + 2 ^ 48, life := .live, classes := [C.Object, C.Group], syncParent := none,
    extId := none, syncClasses := [], cookie := none, yieldAuth := none,
    attrs := [(A.Member, [5 + 2 ^ 48, 78 + 2 ^ 48])] }

def st : State := [agreement, person, native]

def id : Ident := ⟨.synch (600 + 2 ^ 48), .synchronise⟩

/-- the agreement sends the account again with a password import 8 -/
def req : Request :=
  { fromState := .refresh, toState := .active 9,
    entries := [{ id := 5 + 2 ^ 48, extId := some 3, schemas := [some C.Account],
                  attrs := [(A.Name, some [2]), (A.PasswordImport, some [8])] }],
    retain := .ignore }

def person' : Entry := { person with attrs := [(A.PrimaryCredential, [8]), (A.Name, [2])] }

theorem applied : apply sch id st req = .ok [{ agreement with cookie := some 9 }, person', native] := by
  rfl
end Witness

/-- **The full statement is false of the code**: with `primary_credential` yielded, a request that
carries `password_import` still replaces the stored credential (7 becomes 8) — the phantom
attribute set of phase 3 is not reduced by the yield-authority set. The harness replays this on
the implementation (class `c50-import-overrides-yielded-attribute`, known finding D39). -/
theorem sync_changes_only_syncable_non_yielded_full_false :
    ¬ sync_changes_only_syncable_non_yielded_full := by
  intro hfull
  have := hfull Witness.sch Witness.id Witness.st Witness.req _ Witness.applied (600 + 2 ^ 48) rfl
    Witness.person (by decide) Witness.person' (by decide) rfl rfl A.PrimaryCredential (by decide)
    (by decide)
  revert this
  decide

/-- **Users change a synchronised entry only in yielded attributes and session state.** For every
set of access profiles: if a user's modification of an entry that has class `sync_object` (and is
not a protected system entry) is allowed, then the entry has a parent agreement and every
attribute the modification adds values to or removes values from is one of the four session /
credential-reset attributes or is listed in that agreement's yield-authority set. A synchronised
entry without a parent agreement cannot be modified at all. -/
theorem user_changes_only_yielded_plus_session_state (id : Ident) (hu : IsUser id)
    (acps : List AcpModify) (ag : List (Nat × List Nat)) (e : Ent) (ml : List Mod) (cs : List Nat)
    (hcs : e.classes = some cs) (hsync : C.SyncObject ∈ cs)
    (hanon : e.uuid > uuidAnonymous) (hgate : disjoint cs modifyGateClasses = true)
    (h : modifyAllowPerEntry id (modifyRelatedAcp id acps) ag e ml = true) :
    ∃ su, e.syncParent = some su ∧
      ∀ m, m ∈ ml → ∀ a, (m.addsAttr = some a ∨ m.removesAttr = some a) →
        a ∈ sessionStateSpec ∨ a ∈ (ag.lookup su).getD [] := by
  obtain ⟨a, hU, hC⟩ := modifyAllow_user hu h
  have hprot : modifyProtectedAttrs id e = .ignore := by
    have : modifyAnonCmp e.uuid uuidAnonymous = true := by simp [modifyAnonCmp]; omega
    rw [modifyProtected_user hu hcs, this, hgate]
    rfl
  have hs := modifySync_user hu hcs hsync ag
  cases hpar : e.syncParent with
  | none =>
    rw [hpar] at hs
    exact absurd hs hU.sync
  | some su =>
    rw [hpar] at hs
    refine ⟨su, rfl, fun m hm x hx => ?_⟩
    have hcon := hU.constrained x (hx.imp (hC.adds m hm x) (hC.removes m hm x))
    rw [hprot, hs] at hcon
    have hx' : x ∈ syncConstrainBase ++ (ag.lookup su).getD [] :=
      hcon (by simp [conOf, syncConstrainBase])
    rcases List.mem_append.mp hx' with hb | hy
    · exact .inl (session_state_is_sync_base ▸ hb)
    · exact .inr hy

/-- the yield-authority set the access code holds for agreement `su` (`sync_agreements` map) -/
def yieldOf (st : State) (su : Nat) : List Nat := ((agreementsOf st).lookup su).getD []

theorem adds_or_removes_named (m : Mod) :
    isAssert m = true ∨ m.addsAttr = some (umodAttr m) ∨ m.removesAttr = some (umodAttr m) := by
  cases m with
  | assert _ _ => exact .inl rfl
  | present _ _ => exact .inr (.inl rfl)
  | set _ _ => exact .inr (.inl rfl)
  | removed _ _ => exact .inr (.inr rfl)
  | purged _ => exact .inr (.inr rfl)

/-- **A user's accepted modification, through the model's step.** After `userModify` by a user,
the stored entries are position by position the same except the live entries with the target uuid;
and if such an entry is synchronised (class `sync_object`, not otherwise protected) it has a parent
agreement `su`, and every part of it named by an attribute outside the four session /
credential-reset attributes and outside `su`'s stored yield set — attribute values, classes, the
owner, the external id, the sync classes — is unchanged; uuid, cookie, yield set and lifecycle
never change. -/
theorem user_step_changes_only_yielded (id : Ident) (hu : IsUser id) (acps : List AcpModify)
    (st st' : State) (target : Nat) (ml : List Mod)
    (h : userModify id acps st target ml = .ok st') :
    Rel2 (fun e e' =>
      e'.uuid = e.uuid ∧ e'.cookie = e.cookie ∧ e'.yieldAuth = e.yieldAuth ∧ e'.life = e.life ∧
      ((e.uuid ≠ target ∨ e.masked = true) → e' = e) ∧
      (e.uuid = target → e.masked = false → C.SyncObject ∈ e.classes → e.uuid > uuidAnonymous →
        disjoint e.classes modifyGateClasses = true →
        ∃ su, e.syncParent = some su ∧
          ∀ a, a ∉ sessionStateSpec → a ∉ yieldOf st su → SameAt a e e')) st st' := by
  refine (Grows.mono (fun x x' hr => ?_) (fun _ h => h) (userModify_ok h)).same
  rcases hr with w | ⟨hno, rfl⟩
  · have fz := applyUserMods_inv w.applied
    refine ⟨fz.uuid, fz.cookie, fz.yld, fz.life, ?_, ?_⟩
    · rintro (hne | hm)
      · exact absurd w.target hne
      · rw [w.live] at hm; cases hm
    · intro _ _ hsync hanon hgate
      have hcls : (toEnt x).classes = some x.classes := by
        simp [toEnt, live_of_not_masked w.live, lifeClasses]
      obtain ⟨su, hpar, hall⟩ := user_changes_only_yielded_plus_session_state id hu acps
        (agreementsOf st) (toEnt x) ml x.classes hcls hsync hanon hgate w.allowed
      refine ⟨su, hpar, fun a hns hny => applyUserMods_sameAt a (fun m hm => ?_) w.applied⟩
      rcases adds_or_removes_named m with ha | ha
      · exact .inl ha
      · refine .inr fun hk => ?_
        rcases hall m hm _ ha with h1 | h1
        · exact hns (hk ▸ h1)
        · exact hny (hk ▸ h1)
  · refine ⟨rfl, rfl, rfl, rfl, fun _ => rfl, fun ht hm => ?_⟩
    rcases hno with hne | hmk
    · exact absurd ht hne
    · rw [hm] at hmk; cases hmk

theorem step_uuids (sch : Schema) (st : State) (op : Op) :
    Grows (fun e e' => e'.uuid = e.uuid) (fun x => reservedBound ≤ x.uuid) st (step sch st op) := by
  rcases step_eq sch st op with h | h
  · rw [h]
    exact .refl (R := fun e e' => e'.uuid = e.uuid) (fun _ => rfl) st
  cases op with
  | sync id req later =>
    obtain ⟨su, a⟩ := apply_step sch id st req _ h
    exact Grows.mono (fun _ _ s => s.frame.uuid) (fun _ n => n.not_reserved) a.sync
  | yield su y => exact setYield_uuids h
  | user id acps target ml later => exact userModify_uuids h

theorem run_uuids (sch : Schema) (ops : List Op) (st : State) :
    Grows (fun e e' => e'.uuid = e.uuid) (fun x => reservedBound ≤ x.uuid) st (run sch st ops) :=
  run_grows (R := fun e e' => e'.uuid = e.uuid) (fun _ => rfl) (fun _ _ _ h1 h2 => h2.trans h1)
    (fun _ _ n h => h ▸ n) sch ops (fun op _ st => step_uuids sch st op) st

/-- **No history creates an entry in the reserved range.** Whatever sequence of sync requests (of
any identities), yield-authority changes and user modifications is applied, and whatever the
stages that are not modelled decide, every stored entry afterwards has the uuid of an initially
stored entry or a uuid outside the reserved range. -/
theorem history_no_new_reserved (sch : Schema) (ops : List Op) : ∀ (st0 st : State),
    (∀ e', e' ∈ st → (∃ e, e ∈ st0 ∧ e.uuid = e'.uuid) ∨ reservedBound ≤ e'.uuid) →
    ∀ e', e' ∈ run sch st ops → (∃ e, e ∈ st0 ∧ e.uuid = e'.uuid) ∨ reservedBound ≤ e'.uuid := by
  intro st0 st h e' he'
  rcases (run_uuids sch ops st).mem he' with ⟨e, he, hu⟩ | hb
  · rw [hu]
    exact h e he
  · exact .inr hb

/-- What a history of sync requests leaves of an entry none of the acting agreements owns
(`Untouched`, with the cookie exception for every acting agreement). -/
structure Survives (sch : Schema) (S : Nat → Prop) (e e' : Entry) : Prop where
  uuid : e'.uuid = e.uuid
  parent : e'.syncParent = e.syncParent
  life : e'.life = e.life
  ext : e'.extId = e.extId
  sc : e'.syncClasses = e.syncClasses
  yld : e'.yieldAuth = e.yieldAuth
  cls : ∀ c, c ∈ e'.classes ↔ c ∈ e.classes
  cookie : e'.cookie = e.cookie ∨ S e.uuid
  attrs : ∃ D, ∀ a, getA e'.attrs a = stripped sch.refAttrs D e.attrs a

theorem Survives.refl (sch : Schema) (S : Nat → Prop) (e : Entry) : Survives sch S e e :=
  ⟨rfl, rfl, rfl, rfl, rfl, rfl, fun _ => Iff.rfl, .inl rfl, [], fun a => (stripped_nil _ _ a).symm⟩

theorem Survives.trans {sch : Schema} {S : Nat → Prop} {e e' e'' : Entry} (f : Survives sch S e e')
    (g : Survives sch S e' e'') : Survives sch S e e'' where
  uuid := by rw [g.uuid, f.uuid]
  parent := by rw [g.parent, f.parent]
  life := by rw [g.life, f.life]
  ext := by rw [g.ext, f.ext]
  sc := by rw [g.sc, f.sc]
  yld := by rw [g.yld, f.yld]
  cls := fun c => (g.cls c).trans (f.cls c)
  cookie := eq_or_trans f.cookie g.cookie fun h => f.uuid ▸ h
  attrs := by
    obtain ⟨D1, h1⟩ := f.attrs
    obtain ⟨D2, h2⟩ := g.attrs
    exact ⟨D1 ++ D2, fun a => (h2 a).trans (stripped_comp (h1 a))⟩

/-- What a history of sync requests of the agreements in `S` makes of the entry at one position:
uuid and owner stay, and an entry that no agreement of `S` owns `Survives`. -/
structure HRel (sch : Schema) (S : Nat → Prop) (e e' : Entry) : Prop where
  uuid : e'.uuid = e.uuid
  parent : e'.syncParent = e.syncParent
  foreign : (∀ su, S su → e.syncParent ≠ some su) → Survives sch S e e'

theorem HRel.refl (sch : Schema) (S : Nat → Prop) (e : Entry) : HRel sch S e e :=
  ⟨rfl, rfl, fun _ => Survives.refl sch S e⟩

theorem HRel.trans {sch : Schema} {S : Nat → Prop} (a b c : Entry) (f : HRel sch S a b)
    (g : HRel sch S b c) : HRel sch S a c :=
  ⟨by rw [g.uuid, f.uuid], by rw [g.parent, f.parent], fun hn =>
    (f.foreign hn).trans (g.foreign (fun su hs => by rw [f.parent]; exact hn su hs))⟩

theorem step_sync_hrel (sch : Schema) (S : Nat → Prop) (st : State) (id : Ident) (req : Request)
    (later : Bool) (hS : ∀ su, id.origin = .synch su → S su) :
    Grows (HRel sch S) (fun _ => True) st (step sch st (.sync id req later)) := by
  rcases step_eq sch st (.sync id req later) with h | h
  · rw [h]
    exact .refl (HRel.refl sch S) st
  obtain ⟨su, a⟩ := apply_step sch id st req _ h
  have hsu := hS su a.origin
  refine Grows.mono (fun e e' s => ⟨s.frame.uuid, s.frame.parent, fun hn => ?_⟩)
    (fun _ _ => trivial) a.sync
  have u := Untouched.of_frame s.frame (hn su hsu)
  exact
    { uuid := u.uuid, parent := u.parent, life := u.life, ext := u.ext, sc := u.sc, yld := u.yld
      cls := u.cls
      cookie := u.cookie.imp_right fun (h : e.uuid = su) => h ▸ hsu
      attrs := u.attrs.imp fun _ h => h.2 }

theorem run_sync_hrel (sch : Schema) (S : Nat → Prop) (ops : List Op)
    (hops : ∀ op, op ∈ ops → ∃ id req later, op = .sync id req later ∧
      ∀ su, id.origin = .synch su → S su) (st : State) :
    Grows (HRel sch S) (fun _ => True) st (run sch st ops) :=
  run_grows (HRel.refl sch S) HRel.trans (fun _ _ _ _ => trivial) sch ops
    (fun op ho st => by
      obtain ⟨id, req, later, rfl, hS⟩ := hops op ho
      exact step_sync_hrel sch S st id req later hS) st

/-- **Over all request sequences: agreements never touch what they do not own.** Take any history
of sync requests, by any identities, with any outcome of the stages that are not modelled, and let
`S` contain every agreement that acts in it. Then the initially stored entries are still stored at
their positions with their uuid and owner, and every entry whose `sync_parent_uuid` is none of the
acting agreements — native entries, entries of agreements that do not act, recycled and tombstoned
entries of those — survives: all fields equal, except the `sync_cookie` of an acting agreement's
own account entry and references to entries that acting agreements deleted. -/
theorem history_foreign_entries_untouched (sch : Schema) (S : Nat → Prop) (ops : List Op) :
    (∀ op, op ∈ ops → ∃ id req later, op = .sync id req later ∧
      ∀ su, id.origin = .synch su → S su) →
    ∀ st : State, ∃ pre' rest, run sch st ops = pre' ++ rest ∧ Rel2 (HRel sch S) st pre' := by
  intro hops st
  obtain ⟨pre', rest, he, r, -⟩ := (run_sync_hrel sch S ops hops st).rel2
  exact ⟨pre', rest, he, r⟩

/-- The same, read at a position: the entry stored at position `i` that none of the acting
agreements owns `Survives` the history. -/
theorem history_foreign_entry_at (sch : Schema) (S : Nat → Prop) (ops : List Op)
    (hops : ∀ op, op ∈ ops → ∃ id req later, op = .sync id req later ∧
      ∀ su, id.origin = .synch su → S su)
    (st : State) (i : Nat) (hi : i < st.length) (hn : ∀ su, S su → st[i].syncParent ≠ some su) :
    ∃ hi' : i < (run sch st ops).length, Survives sch S st[i] (run sch st ops)[i] := by
  obtain ⟨hi', k⟩ := (run_sync_hrel sch S ops hops st).get i hi
  exact ⟨hi', k.foreign hn⟩

/-! ### non-vacuity: concrete states, requests and histories meeting the hypotheses -/

namespace Witness

/-- `applied` is an accepted request on a state with an agreement, one of its entries and a native
group: the hypotheses of every `apply … = .ok _` theorem above are satisfiable. -/
example : ∃ st', apply sch id st req = .ok st' := ⟨_, applied⟩

/-- the agreement deletes its account: the account is recycled, the native group only loses the
reference to it (`Untouched` with `D = [account]`), nothing else moves -/
def reqDelete : Request :=
  { fromState := .refresh, toState := .active 9, entries := [], retain := .delete [5 + 2 ^ 48] }

example : apply sch id st reqDelete =
    .ok [{ agreement with cookie := some 9 }, { person with life := .recycled },
         { native with attrs := [(A.Member, [78 + 2 ^ 48])] }] := by rfl

/-- a second agreement and one of its entries -/
def agreementB : Entry := { agreement with uuid := 601 + 2 ^ 48, yieldAuth := none }
def personB : Entry := { person with uuid := 6 + 2 ^ 48, syncParent := some (601 + 2 ^ 48) }
def recycled : Entry := { person with uuid := 7 + 2 ^ 48, life := .recycled }
def st2 : State := [agreement, person, native, agreementB, personB, recycled]

def reqFor (u : Nat) : Request :=
  { fromState := .refresh, toState := .active 9,
    entries := [{ id := u, extId := some 4, schemas := [some C.Account], attrs := [(A.Name, some [3])] }],
    retain := .ignore }

/-- `sync_touches_only_owned`: naming another agreement's entry or a native entry fails the parent
assertion; deleting them is refused; `masked_ids_refused`: a recycled id is refused -/
example : apply sch id st2 (reqFor (6 + 2 ^ 48)) = .error .modifyAssertionFailed := by rfl
example : apply sch id st2 (reqFor (77 + 2 ^ 48)) = .error .modifyAssertionFailed := by rfl
example : apply sch id st2 { reqDelete with retain := .delete [6 + 2 ^ 48] } = .error .accessDenied := by
  rfl
example : apply sch id st2 (reqFor (7 + 2 ^ 48)) = .error .invalidEntryState := by rfl
/-- deleting an already recycled id is skipped, not an error; the refresh with an empty entry set
deletes the agreement's own live entry and nothing else -/
example : apply sch id st2 { reqDelete with retain := .delete [7 + 2 ^ 48] } =
    .ok [{ agreement with cookie := some 9 }, { person with life := .recycled },
         { native with attrs := [(A.Member, [78 + 2 ^ 48])] }, agreementB, personB, recycled] := by rfl

/-- `sync_never_creates_reserved`: the last reserved uuid is refused, the first free one creates a
stub owned by the agreement -/
example : apply sch id st2 (reqFor (2 ^ 48 - 1)) = .error .invalidEntryState := by rfl
example : apply sch id st2 (reqFor (2 ^ 48)) =
    .ok [{ agreement with cookie := some 9 }, { person with life := .recycled },
         { native with attrs := [(A.Member, [78 + 2 ^ 48])] }, agreementB, personB, recycled,
         { uuid := 2 ^ 48, life := .live, classes := [C.Object, C.SyncObject, C.Account],
           syncParent := some (600 + 2 ^ 48), extId := some 4, syncClasses := [C.Account],
           cookie := none, yieldAuth := none, attrs := [(A.Name, [3])] }] := by rfl

/-- `sync_never_touches_masked`: position 5 (the agreement's own recycled entry) in every accepted
request above is `recycled` itself -/
example : (apply sch id st2 (reqFor (2 ^ 48))).toOption.map (·[5]?) = some (some recycled) := by decide +kernel

/-- `sync_needs_synch_identity`: the same request with a read-write scope, or from a user -/
example : apply sch ⟨.synch (600 + 2 ^ 48), .readWrite⟩ st2 (reqFor (2 ^ 48)) = .error .accessDenied := by
  rfl
example : apply sch ⟨.user 9 none, .synchronise⟩ st2 (reqFor (2 ^ 48)) = .error .accessDenied := by rfl

/-- an attribute that is yielded, not synchronisable, or not of a requested class is rejected -/
example : apply sch id st2
    { reqFor (5 + 2 ^ 48) with
      entries := [{ id := 5 + 2 ^ 48, extId := some 3, schemas := [some C.Account],
                    attrs := [(A.PrimaryCredential, some [8])] }] } = .error .invalidEntryState := by rfl
example : apply sch id st2
    { reqFor (5 + 2 ^ 48) with
      entries := [{ id := 5 + 2 ^ 48, extId := some 3, schemas := [some C.Account],
                    attrs := [(A.SyncParentUuid, some [601 + 2 ^ 48])] }] } = .error .invalidEntryState := by
  rfl
/-- a class that is not `sync_allowed` is rejected -/
example : apply sch id st2
    { reqFor (5 + 2 ^ 48) with
      entries := [{ id := 5 + 2 ^ 48, extId := some 3, schemas := [some C.System], attrs := [] }] } =
    .error .invalidEntryState := by rfl

/-- a history of two agreements acting in turn: `history_foreign_entries_untouched` with
`S = {A, B}` speaks about the native group -/
def idB : Ident := ⟨.synch (601 + 2 ^ 48), .synchronise⟩
def history : List Op :=
  [.sync id (reqFor (2 ^ 48)) true, .sync idB { reqDelete with retain := .retain [] } true,
   .sync id reqDelete false, .sync id reqDelete true]

example : (run sch st2 history).length = 7 := by decide +kernel
example : ((run sch st2 history)[2]?).map (·.attrs) = some [(A.Member, [78 + 2 ^ 48])] := by decide +kernel
example : ((run sch st2 history)[4]?).map (·.life) = some .recycled := by decide +kernel

example : sch.structuralNotSyncable = true := by decide +kernel

end Witness

namespace UserWitness
open Kanidm.Filter

def g1 : Nat := 0x10000000000040008000000000000100
def alice : Ident := ⟨.user 0x10000000000040008000000000000200 (some [g1]), .readWrite⟩
/-- a profile granting every attribute used below, and class changes -/
def acp : AcpModify :=
  ⟨⟨.group [g1], some (.pres A.Class)⟩,
   [A.LegalName, A.DisplayName, A.UserAuthTokenSession, A.Class, A.SyncParentUuid],
   [A.LegalName, A.DisplayName, A.UserAuthTokenSession, A.Class, A.SyncParentUuid],
   [C.PosixAccount], [C.Person]⟩
def su : Nat := 600 + 2 ^ 48
def synced : Ent := toEnt Witness.person
def orphan : Ent := { synced with syncParent := none }

/-- hypotheses of `user_changes_only_yielded_plus_session_state` hold for `synced` -/
example : synced.classes = some [C.Object, C.SyncObject, C.Account] := by decide +kernel
example : synced.uuid > uuidAnonymous := by decide +kernel
example : disjoint [C.Object, C.SyncObject, C.Account] modifyGateClasses = true := by decide +kernel

/-- yielded attribute: allowed; the same attribute when not yielded: refused -/
example : modifyAllowPerEntry alice (modifyRelatedAcp alice [acp]) [(su, [A.LegalName])] synced
    [.present A.LegalName 1] = true := by decide +kernel
example : modifyAllowPerEntry alice (modifyRelatedAcp alice [acp]) [(su, [A.DisplayName])] synced
    [.present A.LegalName 1] = false := by decide +kernel
/-- session state: always allowed -/
example : modifyAllowPerEntry alice (modifyRelatedAcp alice [acp]) [] synced
    [.purged A.UserAuthTokenSession] = true := by decide +kernel
/-- the ownership marker and classes: refused although the profile grants them -/
example : modifyAllowPerEntry alice (modifyRelatedAcp alice [acp]) [(su, [A.LegalName])] synced
    [.purged A.SyncParentUuid] = false := by decide +kernel
example : modifyAllowPerEntry alice (modifyRelatedAcp alice [acp]) [(su, [A.LegalName])] synced
    [.present A.Class C.PosixAccount] = false := by decide +kernel
/-- a synchronised entry without parent: nothing is allowed -/
example : modifyAllowPerEntry alice (modifyRelatedAcp alice [acp]) [(su, [A.LegalName])] orphan
    [.purged A.UserAuthTokenSession] = false := by decide +kernel
/-- through the model's step: the yield set is read from the stored agreement -/
example : (userModify alice [acp] [{ Witness.agreement with yieldAuth := some [A.LegalName] },
    Witness.person] (5 + 2 ^ 48) [.present A.LegalName 1]).toOption.isSome = true := by decide +kernel
example : (userModify alice [acp] Witness.st (5 + 2 ^ 48) [.present A.LegalName 1]).toOption.isSome
    = false := by decide +kernel

end UserWitness

end Kanidm.SyncScope
