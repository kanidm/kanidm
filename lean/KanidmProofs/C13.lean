import KanidmProofs.Lemmas.Backup
import KanidmProofs.C03
import KanidmProofs.C01
import KanidmProofs.C12
/-!
# C13 — Backup then restore reproduces the database

The model (`KanidmModel/Backup.lean`) transcribes
`BackendTransaction::backup`, `BackendWriteTransaction::restore`, `commit`, `Backend::new`'s cache reload and the
caller `restore_server_core`; the `DbBackup` variants, which fields `backup` writes from which source, the writes
of every `match` arm of `restore`, the version comparison and the order of the `ruv` table statements are
regenerated from the source on every run (`KanidmModel/Generated/BackupOps.lean`), so the statements below change
(and fail) when a field is dropped on either side.

Vocabulary: `Db δ` = one backend (durable tables + the caches of the running process), `δ` = a stored entry
(`DbEntry`, opaque here — C12 proves what loading it yields).
-/
namespace Kanidm.Backup
open Kanidm.Index (aget Tables aget_isSome_iff)

/-! ## 1. every field written is consumed -/

/-- the idlayer write that takes the value read by a source -/
def sinkOf : Src → Option Sink
  | .dbSUuid => some .writeSUuid
  | .dbDUuid => some .writeDUuid
  | .dbTsMax => some .setTsMax
  | .keyHandles => some .setKeyHandles
  | _ => none

/-- the tuple position that takes the value read by a source -/
def tupleOf (a : Arm) : Src → Option Field
  | .pkgSeries => a.version
  | .ruvBackup => a.repl
  | .rawEntries => a.entries
  | _ => none

/-- the arm of `restore` for the variant `backup` writes consumes each field `backup` writes exactly once, in
the place that mirrors its source: an id / time / key-handle field by the matching idlayer write, the
version, the replication metadata and the entries through the tuple; and the variant's declared fields are
exactly the fields written. -/
theorem backup_fields_consumed :
    ∃ arm, restoreArm backupVariant = some arm ∧
      (∀ p ∈ backupFields, (∃ k, sinkOf p.2 = some k ∧ arm.writes.filter (fun w => w.1 = p.1) = [(p.1, k)]) ∨
        (sinkOf p.2 = none ∧ tupleOf arm p.2 = some p.1 ∧ arm.writes.filter (fun w => w.1 = p.1) = [])) ∧
      variants.lookup backupVariant = some (backupFields.map (·.1)) ∧
      (backupFields.map (·.1)).Nodup ∧ (backupFields.map (·.2)).Nodup := by
  refine ⟨_, rfl, ?_, by decide, by decide, by decide⟩
  decide +kernel

/-- the phase orders regenerated from `restore`, `danger_delete_all_db_content` and `commit` are those the model follows -/
theorem restore_steps_are_modelled :
    restoreSteps = [.parse, .deleteAll, .arms, .versionCheck, .ruvRestore, .writeEntries, .verify] ∧
      deleteAllSteps.Perm [.ruvClear, .purgeId2entry, .purgeIdxs] ∧
      commitSteps.take 2 = [.writeDbRuv, .idlCommit] := by
  decide +kernel

/-! ## 2. restore ∘ backup -/

/-- what a restore of a backup of `s` leaves in a write transaction begun on `pre` -/
def restored {δ : Type} (pre s : Db δ) : Db δ where
  rows := number firstId (s.rows.map (·.2))
  sUuid := s.sUuid
  dUuid := s.dUuid
  tsMax := s.tsMax
  keys := s.keys
  dbRuv := pre.dbRuv
  tbl := Tables.empty
  idxVer := pre.idxVer
  ruv := s.ruv.map (fun kv => (kv.1, []))
  ranged := rangedOf (s.ruv.map (·.1))
  maxid := if rawWriteRefreshesMaxId then s.rows.length else pre.maxid

/-- the document `backup` writes -/
def docOf {δ : Type} (v su du t : Nat) (s : Db δ) : Doc δ :=
  ⟨false, [(.version, .nat v), (.sUuid, .nat su), (.dUuid, .nat du), (.tsMax, .nat t),
    (.keys, .keys s.keys), (.replMeta, .cids (s.ruv.map (·.1))), (.entries, .ents (s.rows.map (·.2)))]⟩

/-- the transaction when `restore` reaches the version check -/
def wiped {δ : Type} (pre s : Db δ) : Db δ :=
  { pre with
    rows := [], ruv := [], ranged := [], tbl := Tables.empty
    sUuid := s.sUuid, dUuid := s.dUuid, tsMax := s.tsMax, keys := s.keys }

theorem backup_eq {δ : Type} (cur : Nat) (s : Db δ) :
    backup cur s = match s.sUuid, s.dUuid, s.tsMax with
      | some su, some du, some t => .ok (docOf cur su du t s)
      | _, _, _ => .error .invalidDbState := by
  obtain ⟨_, su, du, ts, _, _, _, _, _, _, _⟩ := s
  cases su <;> cases du <;> cases ts <;> rfl

theorem backup_ok {δ : Type} {cur : Nat} {s : Db δ} {d : Doc δ} (h : backup cur s = .ok d) :
    ∃ su du t, s.sUuid = some su ∧ s.dUuid = some du ∧ s.tsMax = some t ∧ d = docOf cur su du t s := by
  rw [backup_eq] at h
  split at h
  · rename_i su du t h1 h2 h3
    cases h
    exact ⟨su, du, t, h1, h2, h3, rfl⟩
  · cases h

/-- `backup` succeeds exactly when the three identifiers are stored -/
theorem backup_ok_iff {δ : Type} (cur : Nat) (s : Db δ) :
    (∃ d, backup cur s = .ok d) ↔ (s.sUuid.isSome ∧ s.dUuid.isSome ∧ s.tsMax.isSome) := by
  constructor
  · rintro ⟨d, hd⟩
    obtain ⟨su, du, t, h1, h2, h3, _⟩ := backup_ok hd
    simp [h1, h2, h3]
  · rintro ⟨h1, h2, h3⟩
    obtain ⟨su, h1⟩ := Option.isSome_iff_exists.1 h1
    obtain ⟨du, h2⟩ := Option.isSome_iff_exists.1 h2
    obtain ⟨t, h3⟩ := Option.isSome_iff_exists.1 h3
    exact ⟨_, by rw [backup_eq, h1, h2, h3]⟩

theorem restore_of_backup {δ : Type} (cur v : Nat) (ok : Bool) (s pre : Db δ) (d : Doc δ)
    (hk : (s.ruv.map (·.1)).Nodup) (hb : backup v s = .ok d) :
    restore cur ok (some d) pre =
      if v != cur then (wiped pre s, .error .mismatchedVersion)
      else (restored pre s, if ok then .ok () else .error .consistency) := by
  obtain ⟨su, du, t, h1, h2, h3, rfl⟩ := backup_ok hb
  -- up to the RUV everything is computed from the shape of the document
  have : restore cur ok (some (docOf v su du t s)) pre =
      if v != cur then (wiped pre s, .error .mismatchedVersion)
      else
        let s3 := ruvRestore (s.ruv.map (·.1)) (wiped pre s)
        let rows := extend s3.rows (number firstId (s.rows.map (·.2)))
        ({ s3 with rows := rows, maxid := if rawWriteRefreshesMaxId then maxId rows else s3.maxid },
          if ok then .ok () else .error .consistency) := by
    unfold wiped
    rw [h1, h2, h3]
    rfl
  rw [this, ruvRestore_cleared (s.ruv.map (·.1)) (wiped pre s) hk rfl rfl]
  simp only [wiped, restored, extend_nil _ (number_ids_nodup _ _), maxId_number, List.length_map, List.map_map,
    Function.comp_def]

/-- **restore ∘ backup**: restoring (into any backend) the document `backup` wrote for any backend `s` that
holds its identifiers succeeds and leaves exactly `restored pre s`. -/
theorem restore_backup_roundtrip {δ : Type} (cur : Nat) (s pre : Db δ) (d : Doc δ)
    (hk : (s.ruv.map (·.1)).Nodup) (hb : backup cur s = .ok d) :
    restore cur true (some d) pre = (restored pre s, .ok ()) := by
  rw [restore_of_backup cur cur true s pre d hk hb]
  simp

/-- the restored entries are the original entries, in the original order, numbered from 1 -/
theorem restored_entries {δ : Type} (pre s : Db δ) :
    (restored pre s).rows.map (·.2) = s.rows.map (·.2) ∧
      (restored pre s).rows.map (·.1) = List.range' 1 s.rows.length := by
  simp [restored, number_payloads, number_ids, firstId]

/-- the id cache follows the restored rows (with `rawWriteRefreshesMaxId = false` the next created entry would take
id `pre.maxid + 1` and replace the restored entry of that id) -/
theorem restored_id_cache {δ : Type} (pre s : Db δ) :
    (restored pre s).maxid = s.rows.length ∧ ∀ r ∈ (restored pre s).rows, r.1 ≤ (restored pre s).maxid := by
  have h : (restored pre s).maxid = s.rows.length := by simp [restored, rawWriteRefreshesMaxId]
  refine ⟨h, ?_⟩
  intro r hr
  rw [h]
  have := mem_number_id (l := s.rows.map (·.2)) (n := firstId) hr
  simp only [firstId, List.length_map] at this
  omega

/-- identifiers, maximum change time and key handles are the original's -/
theorem restored_ids {δ : Type} (pre s : Db δ) :
    (restored pre s).sUuid = s.sUuid ∧ (restored pre s).dUuid = s.dUuid ∧
      (restored pre s).tsMax = s.tsMax ∧ (restored pre s).keys = s.keys := ⟨rfl, rfl, rfl, rfl⟩

/-! ## 3. commit, and reopening the database -/

/-- the previous `ruv` table lists only cids of the previous in-memory RUV (what `ruv_reload` and every commit
maintain) -/
def Coherent {δ : Type} (pre : Db δ) : Prop := ∀ c ∈ pre.dbRuv, c ∈ pre.ruv.map (·.1)

theorem commitRestore_dbRuv {δ : Type} (pre work : Db δ) :
    (commitRestore pre work).dbRuv =
      (work.ruv.map (·.1)).foldl addCid (pre.dbRuv.filter fun c => !(pre.ruv.map (·.1)).contains c) := rfl

theorem restored_ruv_cids {δ : Type} (pre s : Db δ) : (restored pre s).ruv.map (·.1) = s.ruv.map (·.1) :=
  List.map_map.trans rfl

/-- the `ruv` table after the commit of a restore, for ANY previous database: the old rows whose cid the old
in-memory RUV did not know, and every restored cid — also those that were in the old table -/
theorem commit_dbruv_mem {δ : Type} (pre s : Db δ) (c : Cid) :
    c ∈ (commitRestore pre (restored pre s)).dbRuv ↔
      (c ∈ pre.dbRuv ∧ c ∉ pre.ruv.map (·.1)) ∨ c ∈ s.ruv.map (·.1) := by
  rw [commitRestore_dbRuv, mem_foldl_addCid, List.mem_filter, restored_ruv_cids]
  simp

/-- … which, for a coherent (e.g. fresh) previous database, is exactly the backed-up cid list -/
theorem commit_dbruv_exact {δ : Type} (pre s : Db δ) (hc : Coherent pre) (hk : (s.ruv.map (·.1)).Nodup) :
    (commitRestore pre (restored pre s)).dbRuv = s.ruv.map (·.1) := by
  have hnil : pre.dbRuv.filter (fun c => !(pre.ruv.map (·.1)).contains c) = [] :=
    List.filter_eq_nil_iff.2 fun c hcm => by simp [hc c hcm]
  rw [commitRestore_dbRuv, hnil, restored_ruv_cids, foldl_addCid _ [] (by simpa using hk), List.nil_append]

/-- the state of a process that opens the database after restore + commit -/
def reopened {δ : Type} (cidsOf : δ → List Cid) (pre s : Db δ) : Db δ :=
  reload cidsOf (commitRestore pre (restored pre s))

/-- **the restored database, reopened** (coherent previous database): entries renumbered in order; identifiers,
time and keys as backed up; the `ruv` table and the in-memory RUV hold exactly the backed-up cids; each cid
lists exactly the restored entries whose change state mentions it; the ranges are exactly the projection of
the cids; the id cache is the entry count. -/
theorem reopened_state {δ : Type} (cidsOf : δ → List Cid) (pre s : Db δ) (hc : Coherent pre)
    (hk : (s.ruv.map (·.1)).Nodup) :
    let fin := reopened cidsOf pre s
    fin.rows = number firstId (s.rows.map (·.2)) ∧
    fin.sUuid = s.sUuid ∧ fin.dUuid = s.dUuid ∧ fin.tsMax = s.tsMax ∧ fin.keys = s.keys ∧
    fin.dbRuv = s.ruv.map (·.1) ∧
    fin.ruv.map (·.1) = s.ruv.map (·.1) ∧
    (∀ c x, x ∈ idsOf fin.ruv c ↔ (c ∈ s.ruv.map (·.1) ∧ ∃ r ∈ fin.rows, r.1 = x ∧ c ∈ cidsOf r.2)) ∧
    (∀ u t, t ∈ tsOf fin.ranged u ↔ (⟨t, u⟩ : Cid) ∈ s.ruv.map (·.1)) ∧
    fin.maxid = s.rows.length := by
  intro fin
  have hdb := commit_dbruv_exact pre s hc hk
  have hk' : (commitRestore pre (restored pre s)).dbRuv.Nodup := hdb ▸ hk
  refine ⟨rfl, rfl, rfl, rfl, rfl, hdb, ?_, fun c x => ?_, fun u t => ?_, ?_⟩
  · exact (reload_ruv_keys cidsOf _ hk').trans hdb
  · rw [← hdb]; exact mem_idsOf_reload cidsOf _ hk' c x
  · rw [← hdb]; exact mem_tsOf_reload cidsOf _ hk' u t
  · exact (maxId_number _).trans (List.length_map _)

/-- the RUV invariant of `ruv.rs` on the original: distinct cids, ranges = projection of the cids -/
structure RuvWF {δ : Type} (s : Db δ) : Prop where
  nodup : (s.ruv.map (·.1)).Nodup
  ranged : ∀ u t, t ∈ tsOf s.ranged u ↔ (⟨t, u⟩ : Cid) ∈ s.ruv.map (·.1)

theorem ruvWF_reload {δ : Type} (cidsOf : δ → List Cid) (w : Db δ) (hk : w.dbRuv.Nodup) :
    RuvWF (reload cidsOf w) ∧ Coherent (reload cidsOf w) := by
  have hkeys := reload_ruv_keys cidsOf w hk
  exact ⟨⟨hkeys ▸ hk, fun u t => by rw [hkeys]; exact mem_tsOf_reload cidsOf w hk u t⟩, fun c hc => hkeys ▸ hc⟩

/-- **replication metadata is the original's**: same cids (as lists), same ranges, and the invariant holds again -/
theorem reopened_ruv_same {δ : Type} (cidsOf : δ → List Cid) (pre s : Db δ) (hc : Coherent pre) (hs : RuvWF s) :
    (reopened cidsOf pre s).ruv.map (·.1) = s.ruv.map (·.1) ∧
      (∀ u t, t ∈ tsOf (reopened cidsOf pre s).ranged u ↔ t ∈ tsOf s.ranged u) ∧
      RuvWF (reopened cidsOf pre s) ∧ Coherent (reopened cidsOf pre s) := by
  have hdbRuv := commit_dbruv_exact pre s hc hs.nodup
  have hk : (commitRestore pre (restored pre s)).dbRuv.Nodup := hdbRuv ▸ hs.nodup
  exact ⟨(reload_ruv_keys cidsOf _ hk).trans hdbRuv,
    fun u t => by rw [hs.ranged, ← hdbRuv]; exact mem_tsOf_reload cidsOf _ hk u t, ruvWF_reload cidsOf _ hk⟩

/-- `ReplicationUpdateVector::verify` (ruv.rs l.383): for every cid present both in the RUV and in some entry's
change state, the ids rebuilt from the entries are among the ids the RUV holds -/
def verifyRuv {δ : Type} (cidsOf : δ → List Cid) (s : Db δ) : Bool :=
  s.rows.all (fun r => (cidsOf r.2).all (fun c =>
    match aget s.ruv c with
    | some idl => idl.contains r.1
    | none => true))

theorem verifyRuv_reload {δ : Type} (cidsOf : δ → List Cid) (w : Db δ) (hk : w.dbRuv.Nodup) :
    verifyRuv cidsOf (reload cidsOf w) = true := by
  unfold verifyRuv
  rw [List.all_eq_true]
  intro r hr
  rw [List.all_eq_true]
  intro c hcm
  cases hg : aget (reload cidsOf w).ruv c with
  | none => rfl
  | some idl =>
    have hmem : c ∈ (reload cidsOf w).ruv.map (·.1) := (aget_isSome_iff _ c).1 (by simp [hg])
    rw [reload_ruv_keys cidsOf w hk] at hmem
    have := (mem_idsOf_reload cidsOf w hk c r.1).2 ⟨hmem, r, hr, rfl, hcm⟩
    simp only [idsOf, hg, Option.getD_some] at this
    simpa using this

/-- the RUV part of the consistency check passes on the reopened database -/
theorem reopened_verify_ruv {δ : Type} (cidsOf : δ → List Cid) (pre s : Db δ) (hc : Coherent pre)
    (hk : (s.ruv.map (·.1)).Nodup) : verifyRuv cidsOf (reopened cidsOf pre s) = true :=
  verifyRuv_reload cidsOf _ (commit_dbruv_exact pre s hc hk ▸ hk)

/-! ## 4. refusals -/

theorem restore_ok_version {δ : Type} {cur : Nat} {ok : Bool} {doc : Option (Doc δ)} {pre : Db δ}
    (h : (restore cur ok doc pre).2 = .ok ()) :
    ∃ d n arm v, doc = some d ∧ classify d = some n ∧ restoreArm n = some arm ∧
      arm.version.bind d.get = some (.nat v) ∧ versionRefuse v cur = false := by
  revert h
  fun_cases restore cur ok doc pre
  case case4 d arm heq _ _ _ v hv hr => -- a version field, not refused: on to `restoreTail`
    simp only [Option.bind_eq_some_iff, Option.map_eq_some_iff, Prod.mk.injEq] at heq
    obtain ⟨d', hd, n, hn, a, ha, rfl, rfl⟩ := heq
    exact fun _ => ⟨d', n, a, v, hd, hn, ha, hv, by simpa using hr⟩
  case case6 h _ => exact absurd rfl h -- no version field and `noVersionRefused = false`
  all_goals exact nofun -- the four refusals

/-- **a restore that succeeds read a document of the variant `backup` writes, stamped with this server's
version**: every other document — other version, older format (no version field), not deserialisable — is
refused -/
theorem restore_ok_imp_current_version {δ : Type} (cur : Nat) (ok : Bool) (doc : Option (Doc δ)) (pre : Db δ)
    (h : (restore cur ok doc pre).2 = .ok ()) :
    ∃ d, doc = some d ∧ classify d = some backupVariant ∧ d.get .version = some (.nat cur) := by
  obtain ⟨d, n, arm, v, hd, hn, ha, hv, hr⟩ := restore_ok_version h
  -- only the arm of the variant `backup` writes names a version field
  have : n = backupVariant ∧ arm.version = some .version := by
    match n, ha with
    | 1, ha | 2, ha | 3, ha | 4, ha => cases ha; cases hv
    | 5, ha => cases ha; exact ⟨rfl, rfl⟩
  obtain ⟨rfl, hav⟩ := this
  rw [hav] at hv
  have : v = cur := by simpa [versionRefuse] using hr
  exact ⟨d, hd, hn, this ▸ hv⟩

/-- the result is the refusal `e` -/
def RefusedWith (r : Except Err Unit) (e : Err) : Prop := r = Except.error e

/-- a backup written by a server of another version is refused with `DB0001MismatchedRestoreVersion` -/
theorem other_version_refused {δ : Type} (cur v : Nat) (ok : Bool) (s pre : Db δ) (d : Doc δ) (hv : v ≠ cur)
    (hk : (s.ruv.map (·.1)).Nodup) (hb : backup v s = .ok d) :
    RefusedWith (restore cur ok (some d) pre).2 .mismatchedVersion := by
  rw [restore_of_backup cur v ok s pre d hk hb, if_pos (by simpa using hv)]
  rfl

/-- a file that does not deserialise (`doc = none`) is refused before anything is touched -/
theorem unparseable_untouched {δ : Type} (cur : Nat) (ok : Bool) (pre : Db δ) :
    (restore cur ok none pre).1 = pre ∧ RefusedWith (restore cur ok none pre).2 .serdeJson := ⟨rfl, rfl⟩

/-- **a refused restore leaves the database as it was**: the caller commits only after `Ok` -/
theorem refused_restore_leaves_db {δ : Type} (cur : Nat) (ok : Bool) (doc : Option (Doc δ)) (pre : Db δ)
    (h : (restore cur ok doc pre).2 ≠ .ok ()) :
    (restoreServer cur ok doc pre).1 = pre ∧ (restoreServer cur ok doc pre).2 = (restore cur ok doc pre).2 := by
  unfold restoreServer
  cases hr : (restore cur ok doc pre).2 with
  | ok u => exact absurd hr h
  | error e => simp [hr, commitOnlyOnOk]

/-- … and this matters: `restore` has already emptied the transaction's entries when it refuses a version -/
theorem refused_restore_has_mutated_txn {δ : Type} (cur v : Nat) (ok : Bool) (s pre : Db δ) (d : Doc δ) (hv : v ≠ cur)
    (hk : (s.ruv.map (·.1)).Nodup) (hb : backup v s = .ok d) :
    (restore cur ok (some d) pre).1.rows = [] ∧ (restore cur ok (some d) pre).1.sUuid = s.sUuid := by
  rw [restore_of_backup cur v ok s pre d hk hb, if_pos (by simpa using hv)]
  exact ⟨rfl, rfl⟩

/-- the whole caller: backup of `s`, restored by `restore_server_core` on a server of the same version -/
theorem restore_server_roundtrip {δ : Type} (cur : Nat) (s pre : Db δ) (d : Doc δ)
    (hk : (s.ruv.map (·.1)).Nodup) (hb : backup cur s = .ok d) :
    restoreServer cur true (some d) pre = (commitRestore pre (restored pre s), .ok ()) := by
  unfold restoreServer
  rw [restore_backup_roundtrip cur s pre d hk hb]

/-! ## 5. the rebuilt indexes mirror the restored entries, and every search answers as before -/

section Index
open Kanidm.Index Kanidm.Filter

/-- uuid and index keys of a stored entry: what C03's invariant and C01's semantics depend on -/
def pay (e : SEnt) : Nat × Kanidm.Filter.Entry := (e.uuid, e.attrs)

/-- the C03 / C01 view of the stored entries -/
def entsOf {δ : Type} (sview : δ → Nat × Kanidm.Filter.Entry) (s : Db δ) : List SEnt :=
  s.rows.map (fun r => ⟨r.1, (sview r.2).1, (sview r.2).2⟩)

theorem entsOf_pay {δ : Type} (sview : δ → Nat × Kanidm.Filter.Entry) (s : Db δ) :
    (entsOf sview s).map pay = s.rows.map (fun r => sview r.2) := by
  simp [entsOf, pay, List.map_map, Function.comp_def]

theorem entsOf_ids {δ : Type} (sview : δ → Nat × Kanidm.Filter.Entry) (s : Db δ) :
    (entsOf sview s).map (·.id) = s.rows.map (·.1) := by
  simp [entsOf, List.map_map, Function.comp_def]

/-- a clash that reads uuid and attributes only: two entries of `l'` clash only if the entries of `l` at their
positions do, and they are one entry if those are -/
theorem unique_renumber {l l' : List SEnt} (hp : l.map pay = l'.map pay) (hid : (l.map (·.id)).Nodup)
    (C : Nat × Kanidm.Filter.Entry → Nat × Kanidm.Filter.Entry → Prop)
    (h : ∀ e1 ∈ l, ∀ e2 ∈ l, C (pay e1) (pay e2) → e1 = e2)
    {e1' e2' : SEnt} (h1 : e1' ∈ l') (h2 : e2' ∈ l') (hc : C (pay e1') (pay e2')) : e1' = e2' := by
  have hlen : l.length = l'.length := by simpa using congrArg List.length hp
  obtain ⟨i, hi, rfl⟩ := List.mem_iff_getElem.1 h1
  obtain ⟨j, hj, rfl⟩ := List.mem_iff_getElem.1 h2
  have hpay : ∀ k (hk : k < l'.length), pay (l[k]'(hlen ▸ hk)) = pay l'[k] := fun k hk => by
    have := List.getElem_of_eq hp (i := k) (by simpa using hlen ▸ hk)
    simpa only [List.getElem_map] using this
  rw [← hpay i hi, ← hpay j hj] at hc
  have := h _ (List.getElem_mem _) _ (List.getElem_mem _) hc
  cases (List.getElem_inj (h₀ := by simpa using hlen ▸ hi) (h₁ := by simpa using hlen ▸ hj) hid).1 (by simp [this])
  rfl

/-- what the upper layers guarantee (C03's `WFn`) depends on uuids and attributes only, not on entry ids
(`masked`, `cands`, `extId` do not read the id, so each clause is stated of `⟨0, uuid, attrs⟩`) -/
theorem wfn_renumber {l l' : List SEnt} (hp : l.map pay = l'.map pay)
    (hid : (l.map (·.id)).Nodup) (hw : WFn l) : WFn l' := by
  refine ⟨fun e1' h1 e2' h2 m1 m2 hu =>
      unique_renumber hp hid (fun p q => masked ⟨0, p.1, p.2⟩ = false ∧ masked ⟨0, q.1, q.2⟩ = false ∧ p.1 = q.1)
        (fun e1 he1 e2 he2 c => hw.uuids e1 he1 e2 he2 c.1 c.2.1 c.2.2) h1 h2 ⟨m1, m2, hu⟩,
    fun e1' h1 e2' h2 m1 m2 n hn1 hn2 =>
      unique_renumber hp hid (fun p q => masked ⟨0, p.1, p.2⟩ = false ∧ masked ⟨0, q.1, q.2⟩ = false ∧
          n ∈ cands ⟨0, p.1, p.2⟩ ∧ n ∈ cands ⟨0, q.1, q.2⟩)
        (fun e1 he1 e2 he2 c => hw.names e1 he1 e2 he2 c.1 c.2.1 n c.2.2.1 c.2.2.2) h1 h2 ⟨m1, m2, hn1, hn2⟩,
    fun e1' h1 e2' h2 m1 m2 n hn1 hn2 =>
      unique_renumber hp hid (fun p q => masked ⟨0, p.1, p.2⟩ = false ∧ masked ⟨0, q.1, q.2⟩ = false ∧
          extId ⟨0, p.1, p.2⟩ = some n ∧ extId ⟨0, q.1, q.2⟩ = some n)
        (fun e1 he1 e2 he2 c => hw.ext e1 he1 e2 he2 c.1 c.2.1 n c.2.2.1 c.2.2.2) h1 h2 ⟨m1, m2, hn1, hn2⟩,
    fun e' he' a => ?_⟩
  obtain ⟨p, hpm, hpe⟩ := List.mem_map.1 (hp ▸ List.mem_map.2 ⟨e', he', rfl⟩ : pay e' ∈ l.map pay)
  have := hw.keys p hpm a
  rwa [(Prod.mk.inj hpe).2] at this

/-- the entries an answer (a list of ids) denotes -/
def entriesOf (be : BeState) (ids : List Nat) : List (Nat × Kanidm.Filter.Entry) :=
  ids.filterMap (fun id => (be.ents.find? (fun e => decide (e.id = id))).map pay)

theorem entriesOf_map_id {be : BeState} (hids : (be.ents.map (·.id)).Nodup) :
    ∀ {l : List SEnt}, (∀ e ∈ l, e ∈ be.ents) → entriesOf be (l.map (·.id)) = l.map pay
  | [], _ => rfl
  | e :: l, h => by
    rw [List.map_cons, entriesOf, List.filterMap_cons, find_id hids (h e List.mem_cons_self)]
    exact congrArg _ (entriesOf_map_id hids fun x hx => h x (List.mem_cons_of_mem _ hx))

/-- the exact answer of C01, as entries: the stored entries satisfying the filter, in storage order -/
theorem answer_entries (S : ValSem) (be : BeState) (hids : (be.ents.map (·.id)).Nodup) (f : F) :
    entriesOf be (answer S (world be) f) = (be.ents.map pay).filter (fun p => f.matches S p.2) := by
  rw [answer, show (world be).live = be.ents.map (·.id) from rfl, List.filter_map,
    entriesOf_map_id hids fun e he => (List.mem_filter.1 he).1, List.filter_map]
  exact congrArg _ (List.filter_congr fun e he => by
    rw [Function.comp_apply, Function.comp_apply, world_ent hids he]; rfl)

theorem search_entries (S : ValSem) (hS : SubSem S) (be : BeState) (hids : (be.ents.map (·.id)).Nodup)
    {idx : Idx} (hI : IdxSound (world be) idx) {rep : Rep} {lim : Limits} {f : F} (hf : f.safe = true)
    {r : List Nat} (h : search S lim (world be) idx rep f = .ok r) :
    entriesOf be r = (be.ents.map pay).filter (fun p => f.matches S p.2) := by
  rw [searchT_ok hS hI hf h]
  exact answer_entries S be hids f

variable {δ : Type} (sview : δ → Nat × Kanidm.Filter.Entry) (cidsOf : δ → List Cid)

/-- the restore then reindex of `restore_server_core` never fails on the index layer -/
theorem reindex_after_restore_isSome (m : List (Nat × IType)) (pre s : Db δ) :
    (reindexDb sview m (commitRestore pre (restored pre s))).isSome = true := by
  rw [reindexDb, Option.isSome_map]
  exact reindex_isSome _

theorem reindexDb_inv (m : List (Nat × IType)) (w s3 : Db δ) (hle : ∀ r ∈ w.rows, r.1 ≤ w.maxid)
    (hids : (w.rows.map (·.1)).Nodup) (hw : WFn (entsOf sview w)) (hre : reindexDb sview m w = some s3) :
    Inv (fun _ _ => False) (toBe sview m s3) ∧ (∀ a it, tblExists s3.tbl a it ↔ (a, it) ∈ m) ∧
      (toBe sview m s3).ents = entsOf sview w := by
  obtain ⟨be, hbe, rfl⟩ := Option.map_eq_some_iff.1 hre
  have hinv := reindex_establishes_inv (s := toBe sview m w)
    (fun e he => by obtain ⟨r, hr, rfl⟩ := List.mem_map.1 he; exact hle r hr) (by rwa [← entsOf_ids sview] at hids) hw hbe
  obtain ⟨t, rfl⟩ := reindex_some hbe
  exact ⟨hinv.1, hinv.2, rfl⟩

/-- to the index layer `Backend::new` is C03's `reopen`: only the id cache is recomputed -/
theorem toBe_reload (m : List (Nat × IType)) (w : Db δ) :
    toBe sview m (reload cidsOf w) = reopen (toBe sview m w) := by
  have h : maxId w.rows = (toBe sview m w).ents.foldl (fun m e => max m e.id) 0 := by
    rw [maxId, toBe, List.foldl_map, List.foldl_map]
  exact congrArg (fun n => ({ toBe sview m w with maxid := n } : BeState)) h

theorem inv_reload {stale : Nat → IType → Prop} (m : List (Nat × IType)) (w : Db δ)
    (h : Inv stale (toBe sview m w)) : Inv stale (toBe sview m (reload cidsOf w)) :=
  toBe_reload sview cidsOf m w ▸ inv_reopen h

theorem restored_index_inv (m : List (Nat × IType)) (pre s s3 : Db δ)
    (hidA : (s.rows.map (·.1)).Nodup) (hw : WFn (entsOf sview s))
    (hre : reindexDb sview m (commitRestore pre (restored pre s)) = some s3) :
    Inv (fun _ _ => False) (toBe sview m s3) ∧ (∀ a it, tblExists s3.tbl a it ↔ (a, it) ∈ m) ∧
      (toBe sview m s3).ents.map pay = (entsOf sview s).map pay := by
  have hpayeq : (entsOf sview (commitRestore pre (restored pre s))).map pay = (entsOf sview s).map pay := by
    rw [entsOf_pay, entsOf_pay]
    have := congrArg (List.map sview) (number_payloads (s.rows.map (·.2)) firstId)
    rw [List.map_map, List.map_map] at this
    exact this
  obtain ⟨h1, h2, h3⟩ := reindexDb_inv sview m (commitRestore pre (restored pre s)) s3 (restored_id_cache pre s).2
    (number_ids_nodup _ _) (wfn_renumber hpayeq.symm (by rw [entsOf_ids]; exact hidA) hw) hre
  exact ⟨h1, h2, h3 ▸ hpayeq⟩

/-- **the consistency of the restored server**: after restore, commit, reindex and reopening, C03's invariant
holds with no stale table — ids distinct and within the id cache, every index table that the index metadata
names exists and holds exactly the ids of the entries producing each key, the name tables hold exactly the
pairs of the live entries — provided the ORIGINAL entries respect the uniqueness the upper layers guarantee. -/
theorem reopened_index_inv (m : List (Nat × IType)) (pre s s3 : Db δ)
    (hidA : (s.rows.map (·.1)).Nodup) (hw : WFn (entsOf sview s))
    (hre : reindexDb sview m (commitRestore pre (restored pre s)) = some s3) :
    Inv (fun _ _ => False) (toBe sview m (reload cidsOf s3)) ∧
      (∀ a it, tblExists (reload cidsOf s3).tbl a it ↔ (a, it) ∈ m) ∧
      (toBe sview m (reload cidsOf s3)).ents.map pay = (entsOf sview s).map pay := by
  obtain ⟨h1, h2, h3⟩ := restored_index_inv sview m pre s s3 hidA hw hre
  exact ⟨inv_reload sview cidsOf m s3 h1, h2, h3⟩

/-- … and the same holds in the restoring process itself, before any reopening (`restore_server_core` starts
the server on the very backend it restored into): the id cache is already the restored maximum. -/
theorem same_process_index_inv (m : List (Nat × IType)) (pre s s3 : Db δ)
    (hidA : (s.rows.map (·.1)).Nodup) (hw : WFn (entsOf sview s))
    (hre : reindexDb sview m (commitRestore pre (restored pre s)) = some s3) :
    Inv (fun _ _ => False) (toBe sview m s3) :=
  (restored_index_inv sview m pre s s3 hidA hw hre).1

/-- **every search answers as the original did**: a safe filter (C01) evaluated by `Backend::search` on the
original — under any index tables that mirror its entries, any index metadata — and on the restored,
reindexed, reopened database returns, whenever both return an answer rather than `ResourceLimit`, the same
entries (uuid and attributes) in the same order; only the entry ids differ. -/
theorem restore_search_equal (S : ValSem) (hS : SubSem S) (m : List (Nat × IType)) (pre s s3 : Db δ)
    (hidA : (s.rows.map (·.1)).Nodup) (hw : WFn (entsOf sview s))
    (hre : reindexDb sview m (commitRestore pre (restored pre s)) = some s3)
    (mA : List (Nat × IType)) (idxA : Idx) (hIA : IdxSound (world (toBe sview mA s)) idxA)
    (repA repB : Rep) (limA limB : Limits) (f : F) (hf : f.safe = true) (ra rb : List Nat)
    (hA : search S limA (world (toBe sview mA s)) idxA repA f = .ok ra)
    (hB : search S limB (world (toBe sview m (reload cidsOf s3))) (getIdl (reload cidsOf s3).tbl) repB f = .ok rb) :
    entriesOf (toBe sview mA s) ra = entriesOf (toBe sview m (reload cidsOf s3)) rb := by
  obtain ⟨hinv, _, hpayeq⟩ := reopened_index_inv sview cidsOf m pre s s3 hidA hw hre
  rw [search_entries S hS _ ((entsOf_ids sview s) ▸ hidA) hIA hf hA,
    search_entries S hS _ hinv.idsNodup (idx_sound_of_inv hinv fun _ _ _ h => h) hf hB]
  exact congrArg _ hpayeq.symm

end Index

/-! ## 6. what loading a restored row yields (C12) -/

section Load
open Kanidm.StoreCodec Kanidm.Gen.StoreCodec

/-- hypotheses as in C12's `entry_storage_roundtrip_partial` (no empty valueset: its known finding) -/
theorem numbered_rows_load (single : VS → Option Nat) (uuidKey : Nat) (es : List Entry)
    (hwf : ∀ e ∈ es, e.wf ∧ (∀ kv ∈ e.attrs, kv.2.elems ≠ []) ∧ (e.attrs.lookup uuidKey).bind single = some e.uuid)
    (n k : Nat) (hk : k < es.length) :
    ∃ d, (number n (es.filterMap (toDbEntry valuesetDispatch changestate)))[k]? = some (n + k, d) ∧
      fromDbEntry valuesetDispatch changestate single uuidKey d (n + k) = some { es[k] with id := n + k } := by
  have hrt := fun e (he : e ∈ es) =>
    let ⟨hwfe, hne, huuid⟩ := hwf e he
    Option.bind_eq_some_iff.1 (entry_storage_roundtrip_partial single uuidKey e hwfe hne huuid)
  -- the stored form does not read the id: the `k`-th row also stores the entry under its new id, which C12 loads
  obtain ⟨hwfe, hne, huuid⟩ := hwf es[k] (List.getElem_mem hk)
  obtain ⟨d, hd, hload⟩ := Option.bind_eq_some_iff.1
    (entry_storage_roundtrip_partial single uuidKey { es[k] with id := n + k } hwfe hne huuid)
  refine ⟨d, ?_, hload⟩
  rw [number_getElem?, filterMap_getElem? _ es (fun e he => by obtain ⟨d, h, _⟩ := hrt e he; rw [h]; rfl),
    List.getElem?_eq_getElem hk, Option.bind_some]
  exact congrArg (Option.map _) hd

/-- **the restored entries load as the entries that were stored** (C12's `entry_storage_roundtrip_partial`
through backup and restore): if the original rows are the stored forms of in-memory entries `es` (well formed,
without empty valuesets — C12's known finding — and holding their uuid), then the `k`-th restored row loads, under
its new id `k + 1`, as the `k`-th original entry. -/
theorem restored_rows_load (single : VS → Option Nat) (uuidKey : Nat) (pre s : Db DbEntry) (es : List Entry)
    (hstored : s.rows.map (·.2) = es.filterMap (toDbEntry valuesetDispatch changestate))
    (hlen : es.length = s.rows.length)
    (hwf : ∀ e ∈ es, e.wf ∧ (∀ kv ∈ e.attrs, kv.2.elems ≠ []) ∧ (e.attrs.lookup uuidKey).bind single = some e.uuid)
    (k : Nat) (hk : k < es.length) :
    ∃ r, (restored pre s).rows[k]? = some r ∧ r.1 = k + 1 ∧
      fromDbEntry valuesetDispatch changestate single uuidKey r.2 r.1 = some { es[k] with id := k + 1 } := by
  obtain ⟨d, h1, h2⟩ := numbered_rows_load single uuidKey es hwf firstId k hk
  rw [Nat.add_comm firstId k, ← hstored] at h1
  exact ⟨(k + 1, d), h1, rfl, Nat.add_comm firstId k ▸ h2⟩

end Load

/-! ## 7. non-vacuity -/

section Examples

/-- a populated original: three entries with gaps in their ids, identifiers, a key handle, three RUV cids of
two servers (one of them an anchor no entry mentions), coherent ranges -/
def exA : Db Nat where
  rows := [(2, 70), (5, 71), (9, 72)]
  sUuid := some 11
  dUuid := some 12
  tsMax := some 300
  keys := [(0, 900)]
  dbRuv := [⟨100, 11⟩, ⟨200, 11⟩, ⟨150, 13⟩]
  tbl := Tables.empty
  idxVer := 1
  ruv := [(⟨100, 11⟩, [2, 5]), (⟨200, 11⟩, [9]), (⟨150, 13⟩, [])]
  ranged := [(11, [100, 200]), (13, [150])]
  maxid := 9

def exCids : Nat → List Cid
  | 70 => [⟨100, 11⟩]
  | 71 => [⟨100, 11⟩, ⟨50, 11⟩]
  | _ => [⟨200, 11⟩]

/-- a previous database that is not fresh: one entry, other identifiers, a RUV sharing a cid with the backup -/
def exPre : Db Nat where
  rows := [(4, 1)]
  sUuid := some 21
  dUuid := some 22
  tsMax := some 5
  keys := []
  dbRuv := [⟨100, 11⟩, ⟨7, 21⟩]
  tbl := Tables.empty
  idxVer := 3
  ruv := [(⟨100, 11⟩, [4]), (⟨7, 21⟩, [4])]
  ranged := [(11, [100]), (21, [7])]
  maxid := 4

example : RuvWF exA :=
  ⟨by decide, fun u t => (show exA.ranged = rangedOf (exA.ruv.map (·.1)) by decide) ▸ mem_rangedOf _ u t⟩
example : Coherent exPre := by simp [Coherent, exPre]
example : Coherent (Db.fresh : Db Nat) := by simp [Coherent, Db.fresh]

/-- the hypotheses of `restore_backup_roundtrip` are met and the outcome is as stated -/
example : ∃ d, backup 7 exA = .ok d ∧ (restore 7 true (some d) exPre).2 = .ok () ∧
    (restore 7 true (some d) exPre).1.rows = [(1, 70), (2, 71), (3, 72)] ∧
    (restore 7 true (some d) exPre).1.ruv = [(⟨100, 11⟩, []), (⟨200, 11⟩, []), (⟨150, 13⟩, [])] ∧
    (restore 7 true (some d) exPre).1.ranged = [(11, [100, 200]), (13, [150])] ∧
    (restore 7 true (some d) exPre).1.maxid = 3 := by
  refine ⟨_, rfl, ?_⟩
  decide +kernel

/-- commit into the non-fresh database keeps the shared cid, and reopening fills the id lists -/
example : (reopened exCids exPre exA).dbRuv = [⟨100, 11⟩, ⟨200, 11⟩, ⟨150, 13⟩] ∧
    (reopened exCids exPre exA).ruv = [(⟨100, 11⟩, [2, 1]), (⟨200, 11⟩, [3]), (⟨150, 13⟩, [])] ∧
    (reopened exCids exPre exA).maxid = 3 ∧ verifyRuv exCids (reopened exCids exPre exA) = true := by
  decide +kernel

/-- refusals: another version, each older format, a document of no variant -/
example : ∃ d, backup 6 exA = .ok d ∧ (restoreServer 7 true (some d) exPre).2 = .error .mismatchedVersion ∧
    (restore 7 true (some d) exPre).1.rows = [] := ⟨_, rfl, by decide +kernel⟩
example : (restore 7 true (some ⟨false, [(.sUuid, .nat 1), (.dUuid, .nat 2), (.tsMax, .nat 3), (.keys, .keys []),
    (.replMeta, .cids []), (.entries, .ents [70])]⟩) exPre).2 = .error .olderVersion := by decide +kernel
example : (restore 7 true (some ⟨true, [(.entries, .ents [70])]⟩) exPre).2 = .error .olderVersion := by decide +kernel
example : (restore 7 true (some ⟨false, [(.entries, .ents [70])]⟩) exPre).2 = .error .serdeJson := by decide +kernel
example : (restore 7 true (some ⟨false, [(.version, .nat 7), (.sUuid, .nat 1), (.dUuid, .nat 2), (.tsMax, .nat 3),
    (.keys, .keys []), (.entries, .ents [70])]⟩) exPre).2 = .error .olderVersion := by decide +kernel

/-- sensitivity: with the two `ruv` statements in the other order a shared cid would be lost -/
example : [Step.dbRuvInsert, Step.dbRuvRemove].foldl
    (dbRuvStep (exPre.ruv.map (·.1)) ((restored exPre exA).ruv.map (·.1))) exPre.dbRuv =
    [⟨200, 11⟩, ⟨150, 13⟩] := by decide +kernel

end Examples

end Kanidm.Backup
