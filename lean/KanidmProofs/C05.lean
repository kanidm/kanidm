import KanidmProofs.Lemmas.Crash
import KanidmProofs.C07
/-!
C05 — a crash at any point recovers to the before or after state.

Property theorems over `KanidmModel/Crash.lean`.  The orders and tables come from
`Generated/CrashOps.lean` and `Generated/CidCommit.lean` (regenerated from the source on every
run), so an edit of the commit layers or of a storage function re-states the theorems.
TRUSTED: `Kanidm.Crash.step` is SQLite's contract (a transaction is atomic and durable at COMMIT;
a statement outside a transaction commits on its own).
-/
namespace Kanidm.Crash
open Kanidm.Gen.Crash

/-! ## SQLite-level: any list of storage calls that keeps the bracket discipline -/

/-- For ANY operation list that keeps the bracket discipline (`shapeRun` does not fail) and ANY
number `k` of operations after which the process dies: the next process finds exactly the old
database when the `COMMIT` had not yet run, and exactly the final database otherwise. -/
theorem sqlite_atomic_flip (c : Nat) (ops : List Op) (q : Phase) (h : shapeRun c .idle ops = some q)
    (d : Disk) (k : Nat) :
    crashAt k ops d = if k ≤ commitIdx ops then d else after ops d := by
  show (run (ops.take k) (boot d)).disk
    = if k ≤ commitIdx ops then d else (run (ops.take ops.length) (boot d)).disk
  rw [List.take_length]
  exact disk_flip c ops .idle q (boot d) k h rfl

/-- A discipline-breaking list really loses atomicity in the model (the hypothesis above is
needed, the SQLite semantics is not trivially atomic): one write on a foreign connection in the
middle of the transaction survives a crash before `COMMIT`. -/
theorem foreign_write_breaks_atomicity :
    ∃ ops d k, crashAt k ops d ≠ d ∧ crashAt k ops d ≠ after ops d := by
  refine ⟨[.begin 0, .stmt 0 [⟨.id2entry, 1, some 1⟩], .stmt 1 [⟨.ruv, 1, some 1⟩], .commit 0], Disk.empty, 3, ?_, ?_⟩
  · intro h
    have := congrFun (congrFun h .ruv) 1
    revert this; decide
  · intro h
    have := congrFun (congrFun h .id2entry) 1
    revert this; decide

/-! ## The server's write transaction, from the regenerated orders -/

/-- In the generated order: every write-through call and every cache flush of the
three `commit()` layers precedes the single `COMMIT`, and only in-memory publications follow it. -/
theorem commit_layers_ok : flatOk false commitFlat = true := by decide

/-- The write transaction takes the write lock when it begins, and the database is in WAL mode
(the setting under which `H_sqlite_atomic` is claimed). -/
theorem begin_locks_and_wal : beginMode ≠ .deferred ∧ journalWal = true := by decide

/-- Whatever a transaction writes (`w` arbitrary): `BEGIN` comes
first, every write — entries, index lists, name tables, `db_ruv`, `ts_max`, versions — runs on
the transaction's connection between `BEGIN` and the single `COMMIT`, nothing is written after. -/
theorem everything_in_one_sql_txn (w : Workload) (hw : w.WF) :
    shapeRun txnConn .idle (txnOps w) = some .done := by
  have h1 := shape_stmts_inTxn w.direct hw.direct
  have h2 := shape_expandAll w hw commitFlat false commit_layers_ok
  simp only [txnOps, shapeRun, shapeStep, if_true]
  rw [shapeRun_append, h1]
  simpa using h2

/-- Sharp form of `crash_recovers_before_or_after`: the process dies after `k` storage /
memory operations of a write transaction: a restart finds the complete old database if `k` does
not include the `COMMIT`, the complete new one otherwise. -/
theorem crash_flip_at_commit (w : Workload) (hw : w.WF) (d : Disk) (k : Nat) :
    crashAt k (txnOps w) d = if k ≤ commitIdx (txnOps w) then d else after (txnOps w) d :=
  sqlite_atomic_flip txnConn (txnOps w) .done (everything_in_one_sql_txn w hw) d k

/-- For every transaction and every crash point the
recovered database is exactly the pre-state or exactly the post-state — never a mix. -/
theorem crash_recovers_before_or_after (w : Workload) (hw : w.WF) (d : Disk) (k : Nat) :
    crashAt k (txnOps w) d = d ∨ crashAt k (txnOps w) d = after (txnOps w) d := by
  rw [crash_flip_at_commit w hw d k]
  split
  · exact .inl rfl
  · exact .inr rfl

/-- The post-state is complete: it is the old database with EVERY write of the transaction
applied in program order (so "after" is the state a clean run leaves, not a part of it). -/
theorem after_is_all_writes (w : Workload) (hw : w.WF) (d : Disk) :
    after (txnOps w) d = d.apply (writesOf (txnOps w)) := by
  obtain ⟨hq, ht⟩ :=
    run_legal txnConn (txnOps w) .idle .done (boot d) (everything_in_one_sql_txn w hw) rfl
  rw [Sys.total_none hq] at ht
  show (run ((txnOps w).take (txnOps w).length) (boot d)).disk = _
  rw [List.take_length]
  exact ht

/-- Nothing in memory survives: whatever was published before the crash, the next process starts
from the database alone. -/
theorem memory_is_lost (k : Nat) (ops : List Op) (d : Disk) :
    boot (crashAt k ops d) = ⟨crashAt k ops d, none, []⟩ := rfl

/-- Everything the restarted server derives at startup is a function of the
database alone (`Backend::new`: `ruv_reload` = stored RUV + rebuild from ALL entries, index
metadata; `QueryServer::new`: server uuid, `ts_max`).  Hence any invariant linking the database
and the derived state that holds for the committed pre- and post-state (C03's index invariant,
`ruv = cids(entries) ∪ anchors`, …) holds after a crash at any point. -/
theorem restart_inv {σ : Type} (derive : Disk → σ) (Inv : Disk → σ → Prop)
    (w : Workload) (hw : w.WF) (d : Disk)
    (hbefore : Inv d (derive d)) (hafter : Inv (after (txnOps w) d) (derive (after (txnOps w) d))) (k : Nat) :
    Inv (crashAt k (txnOps w) d) (derive (crashAt k (txnOps w) d)) := by
  rcases crash_recovers_before_or_after w hw d k with h | h <;> rw [h] <;> assumption

/-! ## Change identifiers after the restart (on C07's machine) -/

open Kanidm.Cid (Server Txn Event Inv WorkPost runSteps cidLt runSteps_start orderOkAux_take commit_order_ok
  stamped_gt_all_committed)
open Kanidm.Gen.CidCommit (commitSteps)

/-- C07's `WorkPost` holds at the instant of the crash: a prefix of an admissible step list is admissible. -/
theorem crashCommit_post (s : Server) (t : Txn) (k : Nat) :
    WorkPost t.cid s.mem s.dbTs (runSteps t.cid (commitSteps.take k) 0 none
      { mem := s.mem, dbTs := s.dbTs, dbUuid := s.dbUuid, pendingTs := none,
        pendingUuid := t.pendingUuid, durable := false }).1 :=
  runSteps_start s t none _ (orderOkAux_take commitSteps k false false commit_order_ok)

/-- The instant of the crash, after any number of `commit()` steps, satisfies C07's invariant. -/
theorem crashCommit_inv (s : Server) (t : Txn) (k : Nat) (h : Inv s) (htx : s.txn = some t) :
    Inv (crashCommit s t k) :=
  h.seal (h.txnAbove t htx) (crashCommit_post s t k) _

/-- The process dies after `k` steps of `commit()` (any `k`), restarts
at ANY clock reading `ts` (earlier ones included), possibly runs further events, and opens a
write transaction: its change identifier is strictly greater than every identifier the server
had committed — including the crashed transaction's own, if its `COMMIT` got through. -/
theorem restart_cid_greater (s : Server) (t : Txn) (h : Inv s) (htx : s.txn = some t)
    (k ts : Nat) (evs : List Event) (t' : Txn)
    (ht' : (Kanidm.Cid.run (crashCommit s t k) (.restart ts :: evs)).txn = some t') :
    ∀ c ∈ (Kanidm.Cid.run (crashCommit s t k) (.restart ts :: evs)).hist, cidLt c t'.cid = true :=
  stamped_gt_all_committed (crashCommit s t k) (crashCommit_inv s t k h htx) (.restart ts :: evs) t' ht'

/-- The committed history after the crash is the old one, or the old one plus exactly the crashed
transaction — and in that case the durable `ts_max` is that transaction's timestamp. -/
theorem crash_history_before_or_after (s : Server) (t : Txn) (k : Nat) :
    ((crashCommit s t k).hist = s.hist ∧ (crashCommit s t k).dbTs = s.dbTs) ∨
    ((crashCommit s t k).hist = s.hist ++ [t.cid] ∧ (crashCommit s t k).dbTs = some t.cid.ts) := by
  rcases (crashCommit_post s t k).hist_cases s.hist with ⟨hh, hdb, _⟩ | h
  · exact .inr ⟨hh, hdb⟩
  · exact .inl h

/-! ## Non-vacuity -/

/-- A transaction touching every layer: a read and an index-table creation while the operation
runs, `ts_max`, two RUV rows, two entries, an index list, a name row. -/
def demoW : Workload where
  direct := [⟨1, []⟩, ⟨39, [⟨.idx, 7, some 0⟩]⟩]
  tsMax := [⟨.dbOpTs, 1, some 50⟩]
  beDirect := [⟨.ruv, 40, none⟩, ⟨.ruv, 50, some 50⟩]
  flush := fun i => match i with
    | 0 => [⟨22, [⟨.id2entry, 3, some 33⟩]⟩, ⟨23, [⟨.id2entry, 2, none⟩]⟩]
    | 1 => [⟨24, [⟨.idx, 7, some 3⟩]⟩]
    | 2 => [⟨26, [⟨.name2uuid, 9, some 3⟩]⟩]
    | _ => []

def demoD : Disk := fun t k => if t = .id2entry ∧ k = 2 then some 22 else if t = .ruv ∧ k = 40 then some 40 else none

theorem demoW_wf : demoW.WF where
  direct := by decide
  flush
    | 0 | 1 | 2 => by decide
    | _ + 3 => fun _ hs => (List.not_mem_nil hs).elim

example : commitIdx (txnOps demoW) = 14 ∧ (txnOps demoW).length = 25 := by decide +kernel

/-- Dying right before the `COMMIT` the new entry, the deleted entry, the RUV and `ts_max` are all
still old; one operation later all are new. -/
example : crashAt 14 (txnOps demoW) demoD .id2entry 3 = none ∧ crashAt 14 (txnOps demoW) demoD .id2entry 2 = some 22 ∧
    crashAt 14 (txnOps demoW) demoD .ruv 40 = some 40 ∧ crashAt 14 (txnOps demoW) demoD .dbOpTs 1 = none ∧
    crashAt 15 (txnOps demoW) demoD .id2entry 3 = some 33 ∧ crashAt 15 (txnOps demoW) demoD .id2entry 2 = none ∧
    crashAt 15 (txnOps demoW) demoD .ruv 40 = none ∧ crashAt 15 (txnOps demoW) demoD .ruv 50 = some 50 ∧
    crashAt 15 (txnOps demoW) demoD .dbOpTs 1 = some 50 ∧ crashAt 15 (txnOps demoW) demoD .name2uuid 9 = some 3 := by
  decide +kernel

/-- C07's demo server with an open transaction, killed after 0, 6 and 7 commit steps and restarted at
an EARLIER clock: the history is unchanged, unchanged, extended; the next cid is above it each time. -/
example :
    let s : Server := ⟨⟨5, 1⟩, some 5, 1, some ⟨⟨9, 1⟩, none⟩, [⟨5, 1⟩]⟩
    (crashCommit s ⟨⟨9, 1⟩, none⟩ 0).hist = [⟨5, 1⟩] ∧ (crashCommit s ⟨⟨9, 1⟩, none⟩ 6).hist = [⟨5, 1⟩] ∧
    (crashCommit s ⟨⟨9, 1⟩, none⟩ 7).hist = [⟨5, 1⟩, ⟨9, 1⟩] ∧
    (Kanidm.Cid.run (crashCommit s ⟨⟨9, 1⟩, none⟩ 7) [.restart 3, .begin 3]).txn = some ⟨⟨11, 1⟩, none⟩ ∧
    (Kanidm.Cid.run (crashCommit s ⟨⟨9, 1⟩, none⟩ 6) [.restart 3, .begin 3]).txn = some ⟨⟨7, 1⟩, none⟩ := by
  decide +kernel

end Kanidm.Crash
