import KanidmProofs.Lemmas.Privilege
/-!
# C33 — Write privilege is bounded in time and by login type

The model (`KanidmModel/Privilege.lean`) is the control flow of `issue_uat`, `to_userauthtoken`,
`to_reissue_userauthtoken`, the token's wire round trip, `process_authsessionrecord`,
`validate_and_parse_token_to_identity_token`, `check_user_auth_token_valid`,
`process_uat_to_identity`, `reauth_init` and `new_reauth`; every table, time sum and comparison
inside it is a *generated* definition (`Generated/AuthTypes.lean`) re-read from the source on
each run, so the statements below are about the current source.  The one exception is the match on
stored session state and token expiry in `tokenValid` (`check_user_auth_token_valid`), which is
transcribed; the theorems below never open it (the examples evaluate it).

Histories: any list of `Op` — `auth` (a login of any `AuthType`, privileged or not, any
policy), `reauth` (with any held token, any request, any credential type, any policy),
`advance` (time passes), `use`, `revoke` — from an empty world at any start instant.  `log` is
the ghost list of the successful logins / re-authentications of the history.
-/
namespace Kanidm.Privilege
open Kanidm.Gen.AuthTypes

/-- The auth types of an "ordinary" interactive login, written from the property statement:
everything except anonymous, OAuth2 trust (always read-only) and the generated service-account
password (always privileged). -/
def ordinaryTypes : List AuthType :=
  [.password, .passwordTotp, .passwordBackupCode, .passwordSecurityKey, .passkey, .attestedPasskey]

theorem reauthScope_iff (t : AuthType) : reauthScope t = some .privilegeCapable ↔ t ∈ ordinaryTypes := by
  cases t <;> decide

theorem reauthAllowed_iff (s : SessionScope) : reauthAllowed s = true ↔ s = .privilegeCapable := by
  cases s <;> decide

/-- Strictly after its expiry a token is refused, whichever strictness the regenerated comparison has at the
instant itself. -/
theorem uatExpired_of_lt {exp cot : Nat} (h : exp < cot) : uatExpired exp cot = true := by
  simp only [uatExpired, decide_eq_true_eq]; omega

/-- The regenerated tables and comparisons are the ones the property speaks about.  Adding an
auth type to the privilege-capable set, letting another stored scope re-authenticate, or
weakening `cot < expiry` makes this fail. -/
theorem scope_tables_are_spec :
    (∀ t p, initialScope t p = .readWrite ↔ (t = .generatedPassword ∨ (p = true ∧ t ∈ ordinaryTypes))) ∧
    (∀ t p, initialScope t p = .privilegeCapable ↔ (p = false ∧ t ∈ ordinaryTypes)) ∧
    (∀ t, reauthScope t = some .privilegeCapable ↔ t ∈ ordinaryTypes) ∧
    (∀ t, t ∉ ordinaryTypes → reauthScope t = none) ∧
    (∀ s, reauthAllowed s = true ↔ s = .privilegeCapable) ∧
    (∀ r, reauthRequestRw r = true ↔ r = .grantReadWrite) ∧
    (∀ p cot, uatAccessScope p cot = .readWrite ↔ ∃ x, p = .readWrite (some x) ∧ cot < x) ∧
    (∀ exp cot, exp < cot → uatExpired exp cot = true) := by
  refine ⟨?_, ?_, ?_, ?_, ?_, ?_, ?_, ?_⟩
  · intro t p; cases t <;> cases p <;> decide
  · intro t p; cases t <;> cases p <;> decide
  · exact reauthScope_iff
  · intro t; cases t <;> decide
  · exact reauthAllowed_iff
  · intro r; cases r <;> decide
  · exact uatAccessScope_rw_iff
  · exact fun _ _ => uatExpired_of_lt

/-- **Write access only inside a privilege window.**  For every history and every token ever
handed out: if presenting it *now* yields a read-write identity, then the history contains a
login or re-authentication `e` of the same session that grants privilege (`Event.grants`: a
login whose scope is `ReadWrite`, or a re-auth that asked for read-write with a credential
`issue_uat` re-issues for), and `e.time ≤ now < e.time + e.window`. -/
theorem rw_only_inside_window (now0 : Nat) (ops : List Op) (u : Uat)
    (hu : u ∈ (run (World.init now0) ops).tokens)
    (hrw : useUat (run (World.init now0) ops).sessions u (run (World.init now0) ops).now
            = .ok .readWrite) :
    ∃ e ∈ (run (World.init now0) ops).log,
      e.sessionId = u.sessionId ∧ e.grants = true ∧
      e.time ≤ (run (World.init now0) ops).now ∧
      (run (World.init now0) ops).now < e.time + e.window := by
  have hinv := (Inv.init now0).run ops
  obtain ⟨x, hp, hlt⟩ := useUat_rw hrw
  obtain ⟨e, he, h1, h2, h3⟩ := hinv.rwTok u hu x hp
  exact ⟨e, he, h1, h2, hinv.timeLog e he, by omega⟩

/-- Non-vacuity: an ordinary login at 2000000000.5 s, a re-authentication 10 s later, and
599.499999999 s after that, one nanosecond before 2000000610 s (the privilege expiry
2000000610.5 s as the wire form floors it). -/
def exWindow : World :=
  run (World.init 2000000000500000000)
    [.auth .password false false true ⟨86400, 600⟩, .advance 10000000000,
     .reauth 0 .grantReadWrite .password ⟨86400, 600⟩, .advance 599499999999]

example :
    (step exWindow (.use 1)).2 = .scope .readWrite ∧ (step exWindow (.use 0)).2 = .scope .readOnly ∧
    (step (step exWindow (.advance 1)).1 (.use 1)).2 = .scope .readOnly ∧
    exWindow.log.map (·.time) = [2000000000500000000, 2000000010500000000] := by
  decide +kernel

/-- **The window is bounded**: `min(authsession_expiry, LIMITED)` after a login, the policy's
`privilege_expiry` after a re-authentication; with the resolved policy's privilege expiry at
most `MAXIMUM_AUTH_PRIVILEGE_EXPIRY` (the start value of `fold_from`, C35) that is one hour. -/
theorem privilege_window_bounded (e : Event) :
    e.window ≤ max limitedExpirySecs e.pol.privSecs * nsPerSec ∧
    (e.pol.privSecs ≤ maxPrivilegeExpirySecs → e.window ≤ 3600 * nsPerSec) := by
  unfold Event.window
  cases e.reauth
  · have h : min e.pol.sessSecs limitedExpirySecs ≤ limitedExpirySecs := Nat.min_le_right _ _
    exact ⟨Nat.mul_le_mul_right _ (Nat.le_trans h (Nat.le_max_left _ _)),
      fun _ => Nat.mul_le_mul_right _ h⟩
  · exact ⟨Nat.mul_le_mul_right _ (Nat.le_max_right _ _), fun h => Nat.mul_le_mul_right _ h⟩

/-- **Anonymous and OAuth2-trust sessions are always read-only** — at every instant, whatever
re-authentications were attempted: a token whose session was opened by such a login never maps
to a read-write identity. -/
theorem listed_types_always_readonly (now0 : Nat) (ops : List Op) (u : Uat) (e0 : Event)
    (hu : u ∈ (run (World.init now0) ops).tokens)
    (he0 : e0 ∈ (run (World.init now0) ops).log) (hlogin : e0.reauth = false)
    (hsid : e0.sessionId = u.sessionId)
    (hlisted : e0.authType = .anonymous ∨ e0.authType = .oAuth2Trust) (ct : Nat) :
    useUat (run (World.init now0) ops).sessions u ct ≠ .ok .readWrite := by
  intro hrw
  have hinv := (Inv.init now0).run ops
  obtain ⟨x, hp, _⟩ := useUat_rw hrw
  obtain ⟨e, he, h1, h2, _⟩ := hinv.rwTok u hu x hp
  have hro : ∀ f, initialScope e0.authType f = .readOnly := by
    intro f; rcases hlisted with h | h <;> rw [h] <;> cases f <;> rfl
  rcases hinv.event_of_session he he0 hlogin (h1.trans hsid.symm) with rfl | ⟨_, g⟩
  · simp [Event.grants, hlogin, hro] at h2
  · simp [hro, reauthAllowed] at g

/-- Certificate identities, LDAP binds and read-only API tokens have a constant read-only scope. -/
theorem constant_scopes_readonly :
    certScope = .readOnly ∧ ldapScope = .readOnly ∧ (∀ ct, certUatAccess ct = .readOnly) ∧
    apiTokenAccess false = .readOnly := by
  refine ⟨rfl, rfl, ?_, rfl⟩
  intro ct; rfl

/-- Non-vacuity: privileged anonymous and OAuth2-trust logins, each followed by a re-auth attempt. -/
def exListed : World :=
  run (World.init 2000000000000000000)
    [.auth .anonymous true true true ⟨86400, 600⟩, .advance 5,
     .reauth 0 .grantReadWrite .password ⟨86400, 600⟩,
     .auth .oAuth2Trust true false true ⟨86400, 600⟩,
     .reauth 1 .grantReadWrite .password ⟨86400, 600⟩]

example :
    exListed.tokens.length = 2 ∧ exListed.log.map (·.authType) = [.anonymous, .oAuth2Trust] ∧
    (step exListed (.use 0)).2 = .scope .readOnly ∧ (step exListed (.use 1)).2 = .scope .readOnly := by
  decide +kernel

/-- **An ordinary (non-privileged) login is read-only until re-authentication**: if a token of
a session opened by a login whose scope was `PrivilegeCapable` maps to read-write now, then the
history contains a *re-authentication* of that session that asked for read-write with a
privilege-capable credential, and now lies within `privilege_expiry` of it. -/
theorem ordinary_login_ro_until_reauth (now0 : Nat) (ops : List Op) (u : Uat) (e0 : Event)
    (hu : u ∈ (run (World.init now0) ops).tokens)
    (he0 : e0 ∈ (run (World.init now0) ops).log) (hlogin : e0.reauth = false)
    (hsid : e0.sessionId = u.sessionId)
    (hord : initialScope e0.authType e0.flag = .privilegeCapable)
    (hrw : useUat (run (World.init now0) ops).sessions u (run (World.init now0) ops).now
            = .ok .readWrite) :
    ∃ e ∈ (run (World.init now0) ops).log,
      e.reauth = true ∧ e.sessionId = u.sessionId ∧ e.flag = true ∧
      reauthScope e.authType = some .privilegeCapable ∧
      e.time ≤ (run (World.init now0) ops).now ∧
      (run (World.init now0) ops).now < e.time + e.pol.privSecs * nsPerSec := by
  have hinv := (Inv.init now0).run ops
  obtain ⟨e, he, h1, h2, h3, h4⟩ := rw_only_inside_window now0 ops u hu hrw
  rcases hinv.event_of_session he he0 hlogin (h1.trans hsid.symm) with rfl | ⟨hr, _⟩
  · simp [Event.grants, hlogin, hord] at h2
  · simp only [Event.grants, hr, if_true, Bool.and_eq_true, decide_eq_true_eq] at h2
    simp only [Event.window, hr, if_true] at h4
    exact ⟨e, he, hr, h1, h2.1, h2.2, h3, h4⟩

/-- The token an ordinary login itself returns (`PrivilegeCapable` ⇒ `ReadWrite{None}`) is
read-only at every instant, in every world. -/
theorem ordinary_login_token_readonly (sid : Nat) (anon : Bool) (ct : Nat) (pol : Policy) (u : Uat)
    (h : toUat sid anon .privilegeCapable ct pol = some u)
    (sessions : List (Nat × Session)) (ct' : Nat) :
    useUat sessions (wire u) ct' ≠ .ok .readWrite := by
  intro hrw
  obtain ⟨x, hp, _⟩ := useUat_rw hrw
  obtain ⟨y, hy, _⟩ := wire_rw hp
  obtain ⟨_, _, _, hrwScope⟩ := toUat_spec h
  cases (hrwScope y hy).1

example :
    (step (run (World.init 2000000000000000000)
            [.auth .passwordTotp false false true ⟨86400, 600⟩, .advance 86399000000000]) (.use 0)).2
      = .scope .readOnly := by
  decide +kernel

/-- **Re-authentication never extends the session expiry**: every token of a session carries
exactly the expiry fixed by the login that opened it — at most `authsession_expiry` after that
login — and is refused (no identity is built) after it. -/
theorem reauth_keeps_session_expiry (now0 : Nat) (ops : List Op) (u : Uat)
    (hu : u ∈ (run (World.init now0) ops).tokens) :
    ∃ e0 ∈ (run (World.init now0) ops).log, e0.reauth = false ∧ e0.sessionId = u.sessionId ∧
      ∃ x, u.expiry = some x ∧ e0.expiry = some x ∧ x ≤ e0.time + e0.pol.sessSecs * nsPerSec ∧
        ∀ ct, x < ct → ∀ s, useUat (run (World.init now0) ops).sessions u ct ≠ .ok s := by
  have hinv := (Inv.init now0).run ops
  obtain ⟨e0, he0, hlogin, hsid, hexp⟩ := hinv.origTok u hu
  obtain ⟨x, hx, hle⟩ := hinv.origExp e0 he0 hlogin
  refine ⟨e0, he0, hlogin, hsid, x, by rw [hexp, hx], hx, hle, ?_⟩
  intro ct hct s
  have : expiredAt u ct = true := by
    simp only [expiredAt, hexp, hx]; exact uatExpired_of_lt hct
  simp [useUat, this]

/-- All tokens of one session — the login's and every re-issued one — expire together. -/
theorem session_tokens_share_expiry (now0 : Nat) (ops : List Op) (u1 u2 : Uat)
    (h1 : u1 ∈ (run (World.init now0) ops).tokens) (h2 : u2 ∈ (run (World.init now0) ops).tokens)
    (hs : u1.sessionId = u2.sessionId) : u1.expiry = u2.expiry := by
  have hinv := (Inv.init now0).run ops
  obtain ⟨e1, he1, hlogin1, hsid1, hexp1⟩ := hinv.origTok u1 h1
  obtain ⟨e2, he2, hlogin2, hsid2, hexp2⟩ := hinv.origTok u2 h2
  have := hinv.uniq e1 he1 e2 he2 hlogin1 hlogin2 (by rw [hsid1, hsid2, hs])
  subst this
  rw [hexp1, hexp2]

/-- Non-vacuity: a 1000 s session, re-authenticated after 900 s under a policy that would allow
a day, taken to one nanosecond before login + 1000 s. -/
def exExpiry : World :=
  run (World.init 2000000000000000000)
    [.auth .password false false true ⟨1000, 600⟩, .advance 900000000000,
     .reauth 0 .grantReadWrite .password ⟨86400, 3600⟩, .advance 99999999999]

example :
    exExpiry.tokens.map (·.expiry) = [some 2000001000000000000, some 2000001000000000000] ∧
    (step exExpiry (.use 1)).2 = .scope .readWrite ∧
    (step (step exExpiry (.advance 2)).1 (.use 1)).2 = .err .sessionExpired := by
  decide +kernel

/-- Non-vacuity of the `persist = false` histories: a privileged login whose session record is
lost is read-write inside the grace window and refused after it; it cannot re-authenticate. -/
def exLost : World :=
  run (World.init 2000000000000000000)
    [.auth .password true false false ⟨86400, 600⟩, .advance 299999999999]

example :
    (step exLost (.use 0)).2 = .scope .readWrite ∧
    (step (step exLost (.advance 1)).1 (.use 0)).2 = .err .sessionExpired ∧
    (stepReauth exLost 0 .grantReadWrite .password ⟨86400, 600⟩).2 = .err .invalidState := by
  decide +kernel

/-- **Re-authentication needs a live `PrivilegeCapable` session and a privilege-capable
credential**: whenever `reauth` returns a token, the presented token was valid, its session is
stored with scope `PrivilegeCapable` and not revoked, and the credential's auth type is one
`issue_uat` re-issues for; the new token belongs to the same session. -/
theorem reauth_requires_privilege_capable (w w' : World) (tok : Nat) (req : ReauthRequest)
    (t : AuthType) (pol : Policy) (u' : Uat)
    (h : stepReauth w tok req t pol = (w', .token u')) :
    ∃ u s sc, w.tokens[tok]? = some u ∧ useUat w.sessions u w.now = .ok sc ∧
      lookup u.sessionId w.sessions = some s ∧ s.scope = .privilegeCapable ∧
      s.state ≠ .revokedAt ∧ reauthScope t = some .privilegeCapable ∧ t ∈ ordinaryTypes ∧
      u'.sessionId = u.sessionId := by
  rcases stepReauth_cases w tok req t pol with ⟨e, he⟩ | ⟨u, s, sc, se, scope, uat, htok, huse, hl, hal, hse, hscope, hre, hs⟩
  · rw [he] at h; cases h
  · rw [hs] at h
    cases h
    obtain ⟨hsid, _, _, hpc, _⟩ := toReissue_spec hre
    subst hpc
    refine ⟨u, s, sc, htok, huse, hl, (reauthAllowed_iff _).mp hal, ?_, hscope,
      (reauthScope_iff t).mp hscope, hsid⟩
    intro hrev
    rw [hrev] at hse
    cases hse

/-- Non-vacuity: one ordinary passkey login; re-authentication then succeeds, is refused for a
credential type that may not re-authenticate, and is refused once the session is revoked. -/
def exReauth : World :=
  run (World.init 2000000000000000000) [.auth .passkey false false true ⟨86400, 600⟩]

example :
    (stepReauth exReauth 0 .grantReadWrite .passkey ⟨86400, 600⟩).2
      = .token ⟨0, 2000000000000000000, some 2000086400000000000,
                .readWrite (some 2000000600000000000), false⟩ ∧
    (stepReauth exReauth 0 .grantReadWrite .generatedPassword ⟨86400, 600⟩).2 = .err .au0006 ∧
    (stepReauth (step exReauth (.revoke 0)).1 0 .grantReadWrite .passkey ⟨86400, 600⟩).2
      = .err .sessionExpired := by
  decide +kernel

/-- **No other place hands out write access.**  Every non-test function under `idm/` and in
`server/identity.rs` that *produces* the value `AccessScope::ReadWrite` or calls
`project_with_scope`, re-scanned on every run: the UAT mapping (modelled above), the two `From`
impls (`&ApiTokenPurpose`: modelled; `&UatPurpose`: no caller found by reading), the internal identities
(`migration`, `message_queue`, `from_internal`, `from_impersonate_entry_readwrite` — never built
from a token), and `account_destroy_session_token`, which projects the caller's identity to
read-write so that a read-only session can end *itself* (the one deliberate exception, limited
to removing the caller-named session value). A new site changes this list and fails here. -/
theorem rw_scope_sites_are_known :
    rwScopeSites =
      [("idm/account.rs", "account_destroy_session_token", 2),
       ("idm/server.rs", "process_uat_to_identity", 1),
       ("server/identity.rs", "from", 2),
       ("server/identity.rs", "from_impersonate_entry_readwrite", 1),
       ("server/identity.rs", "from_internal", 1),
       ("server/identity.rs", "message_queue", 1),
       ("server/identity.rs", "migration", 1)] := rfl

/-- **API tokens are read-write exactly when issued so**: the identity scope of an API token is
`ReadWrite` iff `read_write` was requested at generation, and never `Synchronise`. -/
theorem api_rw_explicit (readWrite : Bool) :
    (apiTokenAccess readWrite = .readWrite ↔ readWrite = true) ∧
    apiTokenAccess readWrite ≠ .synchronise := by
  cases readWrite <;> simp [apiTokenAccess, apiScopeOfFlag, apiPurposeOfScope, apiAccessScope]

end Kanidm.Privilege
