import KanidmProofs.Lemmas.BaseProtect
/-
C20 — UUIDs are immutable and the system range is protected.

"No request from a user can change the UUID of an existing entry, create an entry whose UUID lies
in the reserved system range, or delete a built-in entry, regardless of the access controls
configured."

The theorems quantify over every identity of the stated kind, every set of access control
profiles (`acps`, per request), every sync agreement table, every stored state, every request
and — for the history theorems — every sequence of requests, every outcome of the stages the
model does not track (`Havoc`). The reserved range is *specified here* (`reservedBound = 2^48`,
i.e. uuids `00000000-0000-0000-0000-xxxxxxxxxxxx`) and tied to the generated constants by
`dynMin_is_reservedBound` / `ranges_agree`.
-/
namespace Kanidm.BaseProtect
open Kanidm.Filter
open Kanidm.Access.Write
open Kanidm.Gen.Access
open Kanidm.Gen.BaseProtect

/-- `00000000-0000-0000-0001-000000000000` as a number: everything below is the system range -/
def reservedBound : Nat := 2 ^ 48

/-- the uuid lies in the reserved system range / the entry is built in -/
def Reserved (u : Nat) : Prop := u < reservedBound

instance (u : Nat) : Decidable (Reserved u) := inferInstanceAs (Decidable (u < reservedBound))

theorem dynMin_is_reservedBound : dynamicRangeMinimum = reservedBound := by decide

theorem reserved_iff_lt_dynMin (u : Nat) : Reserved u ↔ u < dynamicRangeMinimum := by
  rw [dynMin_is_reservedBound]; rfl

theorem le_uuidAnonymous_iff_reserved (u : Nat) :
    u ≤ Kanidm.Gen.Access.uuidAnonymous ↔ Reserved u := by
  have := uuidAnonymous_succ.trans dynMin_is_reservedBound
  unfold Reserved; omega

/-- The access gates (`uuid <= UUID_ANONYMOUS`, create.rs / delete.rs) and the plugin gate
(`uuid < DYNAMIC_RANGE_MINIMUM_UUID`, base.rs) describe one and the same range, the one specified
above; the constant is read twice (by C24's and by this property's translator item) and agrees. -/
theorem ranges_agree :
    Kanidm.Gen.BaseProtect.uuidAnonymous = Kanidm.Gen.Access.uuidAnonymous ∧
    (∀ u, u ≤ Kanidm.Gen.Access.uuidAnonymous ↔ Reserved u) ∧
    (∀ u, createRangeCmp u dynamicRangeMinimum = true ↔ Reserved u) ∧
    (∀ u, createAnonCmp u Kanidm.Gen.Access.uuidAnonymous = true ↔ Reserved u) ∧
    (∀ u, deleteAnonCmp u Kanidm.Gen.Access.uuidAnonymous = true ↔ Reserved u) := by
  have h1 : Kanidm.Gen.Access.uuidAnonymous + 1 = reservedBound :=
    uuidAnonymous_succ.trans dynMin_is_reservedBound
  refine ⟨by decide, le_uuidAnonymous_iff_reserved, ?_, ?_, ?_⟩
  · intro u; rw [createRangeCmp_iff, dynMin_is_reservedBound]; rfl
  · intro u; unfold Reserved; simp [createAnonCmp]; omega
  · intro u; rw [deleteAnonCmp_iff]; unfold Reserved; omega

/-- A generated (`Uuid::new_v4()`) uuid is never in the reserved range: the version nibble sits
above bit 48. -/
theorem v4_not_reserved (r : Nat) : ¬ Reserved (v4 r) := by
  unfold Reserved v4
  have h : 0x00000000000040008000000000000000 ≤
      (r % 2 ^ 128 &&& 0xffffffffffff0fff3fffffffffffffff) ||| 0x00000000000040008000000000000000 :=
    Nat.right_le_or
  have h2 : reservedBound ≤ 0x00000000000040008000000000000000 := by decide
  omega

/-! ## 1. no request changes the uuid of an existing entry -/

/-- The four variants `apply_modlist` mutates with all count as touching when aimed at `uuid`;
`Assert` does not and cannot change a value set. -/
theorem touching_kinds (v : Nat) (vs : List Nat) :
    touches A.Uuid (.present A.Uuid v) = true ∧ touches A.Uuid (.removed A.Uuid v) = true ∧
    touches A.Uuid (.purged A.Uuid) = true ∧ touches A.Uuid (.set A.Uuid vs) = true ∧
    touches A.Uuid (.assert A.Uuid v) = false ∧
    ∀ a cur, stepAva a cur (.assert A.Uuid v) = cur := by
  refine ⟨by rfl, by rfl, by rfl, by rfl, by rfl, ?_⟩
  intro a cur
  apply stepAva_noop
  simp [touches, modKind, applyMutates]

/-- A modify whose modlist contains a present / removed / purged / set
of `uuid` — anywhere in the list — never gets past Base, for any identity (internal ones
included), any profiles, any candidates. -/
theorem user_cannot_touch_uuid (id : Ident) (acps : List AcpModify) (ag : List (Nat × List Nat))
    (cands : List Ent) (ml : List Mod) (h : ∃ m ∈ ml, touches A.Uuid m = true) :
    modifyStage id acps ag cands ml ≠ .proceed := by
  intro hp
  obtain ⟨m, hm, ht⟩ := h
  exact Bool.false_ne_true (((modifyStage_proceed hp).2 m hm).symm.trans ht)

/-- The same for batch modify: no modlist looked up for a candidate may touch `uuid`. -/
theorem batch_cannot_touch_uuid (id : Ident) (acps : List AcpModify) (ag : List (Nat × List Nat))
    (n : Nat) (pairs : List (Ent × Option (List Mod)))
    (h : ∃ p ∈ pairs, ∃ m ∈ p.2.getD [], touches A.Uuid m = true) :
    batchStage id acps ag n pairs ≠ .proceed := by
  intro hp
  obtain ⟨p, hpp, m, hm, ht⟩ := h
  exact Bool.false_ne_true (((batchStage_proceed hp p hpp).2 m hm).symm.trans ht)

/-- Under a profile that grants the modification, the refusal is Base's
`SystemProtectedAttribute` (not an access decision): whenever access, assertions and the
lifecycle guard pass, a touching modlist yields exactly `protectedAttr`. -/
theorem touching_uuid_yields_protectedAttr (id : Ident) (acps : List AcpModify)
    (ag : List (Nat × List Nat)) (cands : List Ent) (ml : List Mod)
    (h : ∃ m ∈ ml, touches A.Uuid m = true)
    (hne : cands ≠ [])
    (hacc : modifyAllowOperation id acps ag cands ml = true)
    (hass : ∀ e ∈ cands, assertsHold (some [e.uuid]) e.classes ml = true)
    (hmask : ∀ e ∈ cands, maskChanged e ml = false) :
    modifyStage id acps ag cands ml = .protectedAttr := by
  have hml : ml ≠ [] := fun e => by obtain ⟨m, hm, -⟩ := h; simp [e] at hm
  have h3 : (cands.any fun e => !assertsHold (some [e.uuid]) e.classes ml) = false :=
    List.any_eq_false.mpr fun e he => by simp [hass e he]
  have h4 : (cands.any fun e => maskChanged e ml) = false :=
    List.any_eq_false.mpr fun e he => by simp [hmask e he]
  simp [modifyStage, hml, hne, hacc, h3, h4, runPreModify_of_touch h]

/-! ## 2. no user request creates an entry in the reserved range -/

/-- The plugin gate on its own — "regardless of the access controls configured": for a
non-internal identity `Base::pre_create_transform` rejects every request that names a reserved
uuid anywhere in any entry's `uuid` value set. -/
theorem base_gate_rejects_reserved (fresh : Nat → Nat) (db : List Nat) (cands : List Cand)
    (h : ∃ c ∈ cands, ∃ us, c.uuids = some us ∧ ∃ u ∈ us, Reserved u) :
    ∀ l, basePreCreateTransform false fresh db cands ≠ .ok l := by
  intro l hok
  obtain ⟨c, hc, us, hus, u, hu, hr⟩ := h
  exact Nat.not_le_of_lt ((reserved_iff_lt_dynMin u).mp hr) ((base_ok_user hok).2 c hc us hus u hu)

/-- The access gate on its own: for a user (or the migration role) a request entry whose uuid is
reserved is denied before any profile is looked at, whatever the profiles grant. -/
theorem access_gate_rejects_reserved (id : Ident)
    (hid : (∃ u mo, id.origin = .user u mo) ∨ id.origin = .internal .migration)
    (acps : List AcpCreate) (ents : List NewEnt)
    (h : ∃ e ∈ ents, ∃ u, e.uuid = some u ∧ Reserved u) :
    createOp id acps ents = .accessDenied := by
  obtain ⟨e, he, u, hu, hr⟩ := h
  exact createOp_denied he (createAllow_of_deny
    (.inl (createProtected_deny hid (.inl ⟨u, hu, (le_uuidAnonymous_iff_reserved u).mpr hr⟩))))

/-- A create request of a non-internal identity (user or sync
token, any scope) that names a reserved uuid in any entry never gets past Base — for all
profiles, all stored states, all fresh-uuid streams. -/
theorem user_create_reserved_rejected (id : Ident) (hid : id.isInternal = false)
    (acps : List AcpCreate) (fresh : Nat → Nat) (db : List Nat) (reqs : List CreateReq)
    (h : ∃ r ∈ reqs, ∃ us, r.uuids = some us ∧ ∃ u ∈ us, Reserved u) :
    ∀ es, createStage id acps fresh db reqs ≠ .proceed es := by
  intro es hp
  obtain ⟨r, hr, us, hus, u, hu, hres⟩ := h
  exact base_gate_rejects_reserved fresh db _
    ⟨r.toCand, List.mem_map.mpr ⟨r, hr, rfl⟩, us, hus, u, hu, hres⟩ es (hid ▸ createStage_proceed hp)

/-- Whatever a non-internal identity does get created carries no reserved uuid — generated ones
included: Base's second loop checks them like the others. -/
theorem created_uuids_not_reserved (id : Ident) (hid : id.isInternal = false)
    (acps : List AcpCreate) (fresh : Nat → Nat) (db : List Nat) (reqs : List CreateReq)
    (es : List (Nat × List Nat)) (h : createStage id acps fresh db reqs = .proceed es) :
    ∀ p ∈ es, ¬ Reserved p.1 := by
  intro p hp hr
  exact Nat.not_le_of_lt ((reserved_iff_lt_dynMin _).mp hr)
    ((base_ok_user (hid ▸ createStage_proceed h)).1 p hp)

/-! ## 3. no user request deletes a built-in entry -/

/-- A delete whose candidates include a built-in entry is refused for
every identity except the internal system role — every profile set, every scope (`deleteStage_builtin`:
the protected gate's Deny is computed before the profiles and wins). -/
theorem builtin_delete_denied (id : Ident) (hns : id.origin ≠ .internal .system)
    (acps : List AcpDelete) (cands : List Ent) (h : ∃ e ∈ cands, Reserved e.uuid) :
    deleteStage id acps cands = .accessDenied := by
  obtain ⟨e, he, hr⟩ := h
  exact deleteStage_builtin hns he ((reserved_iff_lt_dynMin _).mp hr)

/-! ## 4. histories of requests -/

/-- Uuids are immutable: after any sequence of requests of any identity under any (changing)
profiles, every position still holds the uuid it held. -/
theorem history_uuids_immutable (id : Ident) :
    ∀ (hs : List (Havoc × Req)) (st : State) (i : Nat) (e : Ent), st[i]? = some e →
      ∃ e', (run id st hs)[i]? = some e' ∧ e'.uuid = e.uuid := by
  intro hs st i e he
  obtain ⟨e', h', k⟩ := (run_evol id hs st).kept i e he
  exact ⟨e', h', k.uuid⟩

/-- The reserved range is closed: after any history of requests of a non-internal identity, an
entry with a reserved uuid was there from the start, at the same position with the same uuid. -/
theorem history_no_new_reserved (id : Ident) (hid : id.isInternal = false) :
    ∀ (hs : List (Havoc × Req)) (st : State), (∀ hr ∈ hs, hr.2.freshOk) →
      ∀ (i : Nat) (e' : Ent), (run id st hs)[i]? = some e' → Reserved e'.uuid →
        ∃ e, st[i]? = some e ∧ e.uuid = e'.uuid := by
  intro hs st _ i e' he' hres
  rcases (run_evol id hs st).origin he' with ⟨e, he, k⟩ | ⟨-, hn⟩
  · exact ⟨e, he, k.uuid.symm⟩
  · exact absurd (hn hid) (Nat.not_le_of_lt ((reserved_iff_lt_dynMin _).mp hres))

/-- Built-in entries survive: after any history of requests of any identity but the internal
system role, every built-in entry is still there with its uuid and is neither recycled nor a
tombstone if it was not before. -/
theorem history_builtin_survive (id : Ident) (hns : id.origin ≠ .internal .system) :
    ∀ (hs : List (Havoc × Req)) (st : State) (i : Nat) (e : Ent), st[i]? = some e →
      Reserved e.uuid →
      ∃ e', (run id st hs)[i]? = some e' ∧ e'.uuid = e.uuid ∧
        maskedTs e'.classes = maskedTs e.classes := by
  intro hs st i e he hres
  obtain ⟨e', h', k⟩ := (run_evol id hs st).kept i e he
  exact ⟨e', h', k.uuid, k.lifecycle hns ((reserved_iff_lt_dynMin _).mp hres)⟩

/-! ## Non-vacuity: concrete states, a grant-everything profile, and the decisions -/
namespace Example

def g1 : Nat := 0x10000000000040008000000000000100
def alice : Ident := ⟨.user 0x10000000000040008000000000000200 (some [g1]), .readWrite⟩
def allAttrs : List Nat := [A.Class, A.Uuid, A.Name, A.Description, A.DisplayName]
def allClasses : List Nat := [C.Object, C.Person, C.Account, C.Group, C.Builtin]
/-- grant-everything profiles for group g1 -/
def mAcp : AcpModify := ⟨⟨.group [g1], some (.pres A.Class)⟩, allAttrs, allAttrs, allClasses, allClasses⟩
def cAcp : AcpCreate := ⟨⟨.group [g1], some (.pres A.Class)⟩, allAttrs, allClasses⟩
def dAcp : AcpDelete := ⟨⟨.group [g1], some (.pres A.Class)⟩⟩

def fe (cs : List Nat) : Filter.Entry := Entry.ofList [(A.Class, cs.map fun c => .str [c])]
def person : Ent := ⟨0x10000000000040008000000000000300, some [C.Object, C.Person], none, none,
  fe [C.Object, C.Person]⟩
def builtinGroup : Ent := ⟨0xffffff000001, some [C.Object, C.Group, C.Builtin], none, none,
  fe [C.Object, C.Group, C.Builtin]⟩
def newUuid : Nat := 0x10000000000040008000000000000999

-- the profile really grants: a description change proceeds, every uuid modification is stopped by
-- Base with SystemProtectedAttribute (not by access), an assert of the right uuid proceeds
example : modifyStage alice [mAcp] [] [person] [.set A.Description [0]] = .proceed := by decide +kernel
example : modifyStage alice [mAcp] [] [person] [.set A.Uuid [newUuid]] = .protectedAttr := by decide +kernel
example : modifyStage alice [mAcp] [] [person] [.present A.Uuid newUuid] = .protectedAttr := by decide +kernel
example : modifyStage alice [mAcp] [] [person] [.removed A.Uuid person.uuid] = .protectedAttr := by
  decide +kernel
example : modifyStage alice [mAcp] [] [person] [.purged A.Uuid] = .protectedAttr := by decide +kernel
example : modifyStage alice [mAcp] [] [person]
    [.set A.Description [0], .assert A.Uuid person.uuid, .purged A.Uuid] = .protectedAttr := by decide +kernel
example : modifyStage alice [mAcp] [] [person] [.assert A.Uuid person.uuid, .set A.Description [0]]
    = .proceed := by decide +kernel
example : modifyStage alice [mAcp] [] [person] [.assert A.Uuid newUuid, .set A.Description [0]]
    = .assertFailed := by decide +kernel
example : modifyStage alice [] [] [person] [.set A.Uuid [newUuid]] = .accessDenied := by decide +kernel
example : batchStage alice [mAcp] [] 1 [(person, some [.set A.Uuid [newUuid]])] = .protectedAttr := by
  decide +kernel
example : batchStage alice [mAcp] [] 1 [(person, some [.set A.Description [0]])] = .proceed := by
  decide +kernel
-- what would happen without Base: the value set, and with it the entry's uuid, changes
example : validateUuid (applyAva A.Uuid (some [person.uuid]) [.set A.Uuid [newUuid]]) = some newUuid := by
  decide +kernel

def req (us : Option (List Nat)) : CreateReq :=
  ⟨us, some [C.Object, C.Person], [A.Class, A.Uuid, A.Name], fe [C.Object, C.Person]⟩
-- create: dynamic uuids proceed, the boundary is exact, two values are refused by Base
example : createStage alice [cAcp] (fun _ => newUuid) [] [req (some [newUuid + 1])]
    = .proceed [(newUuid + 1, [C.Object, C.Person])] := by decide +kernel
example : createStage alice [cAcp] (fun _ => newUuid) [] [req none]
    = .proceed [(newUuid, [C.Object, C.Person])] := by decide +kernel
example : createStage alice [cAcp] (fun _ => newUuid) [] [req (some [2 ^ 48])]
    = .proceed [(2 ^ 48, [C.Object, C.Person])] := by decide +kernel
example : createStage alice [cAcp] (fun _ => newUuid) [] [req (some [2 ^ 48 - 1])] = .accessDenied := by
  decide +kernel
example : createStage alice [cAcp] (fun _ => newUuid) [] [req (some [5, newUuid])]
    = .base .uuidCount := by decide +kernel
example : basePreCreateTransform false (fun _ => newUuid) [] [⟨some [2 ^ 48 - 1], [C.Person]⟩]
    = .error .protectedRange := by rfl
example : basePreCreateTransform false (fun _ => newUuid) [] [⟨some [2 ^ 48], [C.Person]⟩]
    = .ok [(2 ^ 48, [C.Person, C.Object])] := by rfl
example : basePreCreateTransform true (fun _ => newUuid) [] [⟨some [5], [C.Group]⟩]
    = .ok [(5, [C.Group, C.Object, C.Builtin])] := by rfl
example : basePreCreateTransform false (fun _ => newUuid) [newUuid] [⟨some [newUuid], []⟩]
    = .error .existsInDb := by rfl

-- delete: granted for the person, denied for the built-in group under the same profile
example : deleteStage alice [dAcp] [person] = .proceed := by decide +kernel
example : deleteStage alice [dAcp] [builtinGroup] = .accessDenied := by decide +kernel
example : deleteStage alice [dAcp] [person, builtinGroup] = .accessDenied := by decide +kernel

-- a history: create, modify, delete succeed on the dynamic entry; the state really changes
def hv : Havoc := ⟨true, fun _ => person⟩
example : (run alice [builtinGroup, person]
    [(hv, .create [cAcp] (fun _ => newUuid) [req none]),
     (hv, .modify [mAcp] [] (fun i => i == 1) [.present A.Class C.Account]),
     (hv, .delete [dAcp] (fun i => i == 2)),
     (hv, .delete [dAcp] (fun i => i == 0)),
     (hv, .modify [mAcp] [] (fun i => i == 1) [.set A.Uuid [newUuid + 7]])]).map
      (fun e => (e.uuid, e.classes))
    = [(builtinGroup.uuid, some [C.Object, C.Group, C.Builtin]),
       (person.uuid, some [C.Object, C.Person, C.Account]),
       (newUuid, some [C.Object, C.Person, C.Recycled])] := by decide +kernel
example : Reserved builtinGroup.uuid ∧ ¬ Reserved person.uuid := by decide +kernel

end Example

end Kanidm.BaseProtect
