import KanidmProofs.Lemmas.ScimPrecedence
/-!
# C42 — SCIM filter text round-trips and honours precedence

Property theorems, and the chain of any number of operands (`parse_chain`) of which the precedence theorems
are the cases with three.  `printF`/`printC` transcribe
`Display for ScimFilter / ScimComplexFilter / AttrPath` (and `serde_json`'s `Display` for scalar
values), `parse`/`parseComplex` transcribe the `peg` grammar `scimfilter` including the code
`precedence!{}` expands to; keywords, operator tables and `SCIM_FILTER_MAX_DEPTH` are regenerated
from `proto/src/scim_v1/mod.rs` on every run (`Kanidm.Gen.ScimFilter`).
-/
namespace Kanidm.ScimFilter
open Kanidm.Gen.ScimFilter

/-- attribute / sub-attribute names are SCIM names (what `rule attrstring()` accepts), number
values are JSON number tokens; strings are arbitrary sequences of Unicode scalar values. -/
def WfFilter (f : Filter) : Prop := wfT wfFLeaf f
def WfComplex (c : CFilter) : Prop := wfT wfCLeaf c

/-- one more than the nesting of the printed form (each pair of parentheses, each `not (`, each `attr[` is one
level): the least depth limit under which `parse_depth` accepts it (`parseDepth_print`), since `parse_depth(d)`
fails at `d = 0` and hands `d - 1` on. -/
def nesting (f : Filter) : Nat := needT needF f + 1
def nestingC (c : CFilter) : Nat := needT (fun _ => 1) c + 1

/-- `parse_depth(d)` returns what `__infix_parse(0)` of `parse_inner(d - 1)` does. -/
theorem parseDepth_of_infix {d : Nat} {s : Str} {t : Filter} (hd : d ≠ 0)
    (h : Infix fKwG fLeafP (d - 1) 0 s (some (t, []))) : parseDepth d s = some t := by
  rw [parseDepth, if_neg hd, h.eq_fuelFor fLeafFuel]

/-- Round trip, at every depth limit: the printed form of a well-formed filter parses back to
the same filter whenever its nesting is within the limit. -/
theorem parseDepth_print (f : Filter) (hf : WfFilter f) (d : Nat) (hd : nesting f ≤ d) :
    parseDepth d (printF f) = some f := by
  unfold nesting at hd
  exact parseDepth_of_infix (by omega) (infix_print fKwOk fLeafOk f hf (by omega))

/-- **Round trip** (`ScimFilter`): `parse (print f) = f` for every well-formed filter of any
size whose printed nesting is below `SCIM_FILTER_MAX_DEPTH`. -/
theorem parse_print (f : Filter) (hf : WfFilter f) (hd : nesting f ≤ maxDepth) :
    parse (printF f) = some f :=
  parseDepth_print f hf maxDepth hd

/-- **Round trip** (`ScimComplexFilter`). -/
theorem parseComplex_print (c : CFilter) (hc : WfComplex c) (hd : nestingC c ≤ maxDepth) :
    parseComplex (printC c) = some c := by
  unfold nestingC at hd
  have h : Infix cKwG cLeafP (maxDepth - 1) 0 (printC c) (some (c, [])) :=
    infix_print cKwOk cLeafOk c hc (by omega)
  rw [parseComplex, parseCDepth, if_neg (by omega), h.eq_fuelFor cLeafFuel]

theorem parseDepth_deep (d : Nat) (s : Str) (h : d ≤ leadingParens s) : parseDepth d s = none := by
  unfold parseDepth
  split
  · rfl
  · next hd =>
    obtain ⟨g, hg⟩ : ∃ g, fuelFor s = g + 1 := ⟨fuelFor s - 1, by unfold fuelFor; omega⟩
    have hnone : atom fKwG fLeafP g (d - 1) s = none :=
      atom_deep_none fKwG fLeafP fKwOk.not_paren fLeafP_paren _ _ _ (by omega)
    rw [hg, infixP_succ, hnone]

/-- **Depth limit**: text that opens `SCIM_FILTER_MAX_DEPTH` or more parentheses in a row is
rejected, whatever follows. (Depth spent through `not (` and `attr[` is left to the harness's
depth oracle.) -/
theorem depth_limit_rejects (s : Str) (h : maxDepth ≤ leadingParens s) : parse s = none :=
  parseDepth_deep maxDepth s h

/-- the limit is a limit on the *argument* as well: `parse_depth(0)` accepts nothing. -/
theorem parseDepth_zero (s : Str) : parseDepth 0 s = none := parseDepth_deep 0 s (Nat.zero_le _)

/-! ## Precedence and associativity

Operands are printed filters (so: parenthesised groups, comparisons, `attr[…]`); the separators
are arbitrary `separator()+` runs.  `opText a w1 kw w2 b` is `a w1 kw w2 b`. -/

def opText (x w1 kw w2 y : Str) : Str := x ++ (w1 ++ (kw ++ (w2 ++ y)))

/-- a further operand of a chain with the separator runs in front of it: a well-formed filter whose printed
nesting is below `SCIM_FILTER_MAX_DEPTH`. -/
abbrev FLink := Link wfFLeaf needF maxDepth

/-- **Chains of any length**: `x (and y)* (or y (and y)*)*` is the left fold by `Or` of the left folds by `And`
of its groups. -/
theorem parse_chain (x : Filter) (hx : WfFilter x) (dx : nesting x ≤ maxDepth) (as : List FLink)
    (gs : List (FLink × List FLink)) :
    parse (printF x ++ andsText fKwD fKwG printFLeaf as (orsText fKwD fKwG printFLeaf gs))
      = some (orFold (andFold x as) gs) :=
  parseDepth_of_infix (by decide)
    (Infix.mk (atom_print fKwOk fLeafOk x hx _ _ (Nat.le_sub_one_of_lt dx))
      (Loop.ands fKwOk fLeafOk (Nat.zero_le 1) as x (Loop.ors fKwOk fLeafOk gs _)))

/-- **AND binds tighter than OR**: `a or b and c` is `Or a (And b c)`. -/
theorem and_tighter_than_or (a b c : Filter) (ha : WfFilter a) (hb : WfFilter b) (hc : WfFilter c)
    (da : nesting a ≤ maxDepth) (db : nesting b ≤ maxDepth) (dc : nesting c ≤ maxDepth)
    (w1 w2 w3 w4 : Str) (h1 : IsSepRun w1) (h2 : IsSepRun w2) (h3 : IsSepRun w3) (h4 : IsSepRun w4) :
    parse (opText (printF a) w1 gramOr w2 (opText (printF b) w3 gramAnd w4 (printF c)))
      = some (.or a (.and b c)) := by
  rw [← List.append_nil (printF c)]
  exact parse_chain a ha da [] [(⟨w1, w2, b, h1, h2, hb, db⟩, [⟨w3, w4, c, h3, h4, hc, dc⟩])]

/-- `a and b or c` is `Or (And a b) c`. -/
theorem and_then_or (a b c : Filter) (ha : WfFilter a) (hb : WfFilter b) (hc : WfFilter c)
    (da : nesting a ≤ maxDepth) (db : nesting b ≤ maxDepth) (dc : nesting c ≤ maxDepth)
    (w1 w2 w3 w4 : Str) (h1 : IsSepRun w1) (h2 : IsSepRun w2) (h3 : IsSepRun w3) (h4 : IsSepRun w4) :
    parse (opText (printF a) w1 gramAnd w2 (opText (printF b) w3 gramOr w4 (printF c)))
      = some (.or (.and a b) c) := by
  rw [← List.append_nil (printF c)]
  exact parse_chain a ha da [⟨w1, w2, b, h1, h2, hb, db⟩] [(⟨w3, w4, c, h3, h4, hc, dc⟩, [])]

/-- **`or` associates to the left**: `a or b or c` is `Or (Or a b) c`. -/
theorem or_left_assoc (a b c : Filter) (ha : WfFilter a) (hb : WfFilter b) (hc : WfFilter c)
    (da : nesting a ≤ maxDepth) (db : nesting b ≤ maxDepth) (dc : nesting c ≤ maxDepth)
    (w1 w2 w3 w4 : Str) (h1 : IsSepRun w1) (h2 : IsSepRun w2) (h3 : IsSepRun w3) (h4 : IsSepRun w4) :
    parse (opText (printF a) w1 gramOr w2 (opText (printF b) w3 gramOr w4 (printF c)))
      = some (.or (.or a b) c) := by
  rw [← List.append_nil (printF c)]
  exact parse_chain a ha da [] [(⟨w1, w2, b, h1, h2, hb, db⟩, []), (⟨w3, w4, c, h3, h4, hc, dc⟩, [])]

/-- **`and` associates to the left**: `a and b and c` is `And (And a b) c`. -/
theorem and_left_assoc (a b c : Filter) (ha : WfFilter a) (hb : WfFilter b) (hc : WfFilter c)
    (da : nesting a ≤ maxDepth) (db : nesting b ≤ maxDepth) (dc : nesting c ≤ maxDepth)
    (w1 w2 w3 w4 : Str) (h1 : IsSepRun w1) (h2 : IsSepRun w2) (h3 : IsSepRun w3) (h4 : IsSepRun w4) :
    parse (opText (printF a) w1 gramAnd w2 (opText (printF b) w3 gramAnd w4 (printF c)))
      = some (.and (.and a b) c) := by
  rw [← List.append_nil (printF c)]
  exact parse_chain a ha da [⟨w1, w2, b, h1, h2, hb, db⟩, ⟨w3, w4, c, h3, h4, hc, dc⟩] []

/-! ## The hypotheses are satisfiable by non-trivial filters -/

def exFilter : Filter :=
  .or
    (.and (.leaf (.cmp .Equal ⟨"mail".toList, some "value".toList⟩ (.str "a \"b\" or c".toList)))
          (.not (.leaf (.pres ⟨"x-y_1".toList, none⟩))))
    (.leaf (.complex "emails".toList
      (.and (.leaf (.cmp .NotEqual "type".toList .null)) (.leaf (.cmp .Equal "primary".toList (.bool true))))))

def exNum : Filter := .leaf (.cmp .GreaterOrEqual ⟨"gidnumber".toList, none⟩ (.num "-12.5e+3".toList))

theorem exFilter_wf : WfFilter exFilter ∧ nesting exFilter ≤ maxDepth := by
  refine ⟨?_, by decide +kernel⟩
  simp only [WfFilter, exFilter, wfT, wfFLeaf, wfCLeaf, validPath, wfVal]
  decide +kernel

theorem exNum_wf : WfFilter exNum ∧ nesting exNum ≤ maxDepth := by
  refine ⟨?_, by decide +kernel⟩
  simp only [WfFilter, exNum, wfT, wfFLeaf, validPath, wfVal]
  decide +kernel

example : parse (printF exFilter) = some exFilter := parse_print exFilter exFilter_wf.1 exFilter_wf.2
example : parse (printF exNum) = some exNum := parse_print exNum exNum_wf.1 exNum_wf.2
example : String.ofList (printF exFilter) =
    "(((mail.value eq \"a \\\"b\\\" or c\") and (not ((x-y_1 pr)))) or emails[((type ne null) and (primary eq true))])" :=
  -- evaluating the `String` equation makes the kernel decode the literal character by character, which is dear;
  -- the literal unfolds to `String.ofList` of its characters, so only the two lists are compared
  congrArg String.ofList (by decide +kernel : printF exFilter = _)
example : IsSepRun " \n\t".toList := by refine ⟨by decide, by decide⟩
example :
    parse (opText (printF exNum) " ".toList gramOr "\n".toList (opText (printF exFilter) "\t ".toList gramAnd " ".toList (printF exNum)))
      = some (.or exNum (.and exFilter exNum)) :=
  and_tighter_than_or exNum exFilter exNum exNum_wf.1 exFilter_wf.1 exNum_wf.1 exNum_wf.2 exFilter_wf.2 exNum_wf.2
    _ _ _ _ ⟨by decide, by decide⟩ ⟨by decide, by decide⟩ ⟨by decide, by decide⟩ ⟨by decide, by decide⟩

theorem leadingParens_replicate (n : Nat) (s : Str) : n ≤ leadingParens (List.replicate n '(' ++ s) := by
  induction n with
  | zero => exact Nat.zero_le _
  | succ n ih => simp only [List.replicate_succ, List.cons_append, leadingParens]; omega

example (s : Str) : parse (List.replicate maxDepth '(' ++ s) = none :=
  depth_limit_rejects _ (leadingParens_replicate _ _)

end Kanidm.ScimFilter
