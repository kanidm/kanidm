import KanidmProofs.Lemmas.DynGroup
/-!
# C18 — Dynamic groups contain exactly the matching entries

Model: `KanidmModel/DynGroup.lean` (`plugins/dyngroup.rs` with what delete and revive do to
`dynmember`; the add / remove tests, the mask, the `expect` flags and the order of the two halves of
both hooks are regenerated from the source on every run). Filter meaning, filter rewriting and
indexed search are C02's and C01's models and theorems, reused unchanged.

Vocabulary: `M env fc e` = the entry satisfies the stored filter (ordinary boolean reading);
`Exact env st` = every live dyngroup's `dynmember` is exactly the set of live stored entries that
satisfy its filter; `Inv` = `Exact` + distinct uuids + every live dyngroup cached with its current
filter + every stored filter is `goodB` + `NoDynMatch`; `safeRunB` = the executable scope test the driver
evaluates on every real history of the harness.

The property as stated is **false of the code** in two ways, each proved from a replayed witness:
D1 (a NOT that is not guarded by a positive AND sibling means the empty set to `Backend::search` but
the complement to `entry_match_no_index`) and F1 / D33 (the hooks partition dyngroup entries out
of the candidates). `dyn_exact_partial` is the property for every history that avoids these two
shapes and does not change `class` by a modify. A third shape, F2 / D34 (a revive compares the recycled entry with its revived
form under a filter that does not see the recycled state), does not arise: the incremental tests
carry `mask_recycled_ts` guards, which the model regenerates; its witness is a regression example
below.
-/
namespace Kanidm.DynGroup
open Kanidm.Filter

/-! ## 0. the regenerated operators are the ones the proofs are about -/

/-- `post_modify` adds an entry iff it matches now and did not before (unless forced), removes it
iff it matched before and does not now, where "matches" is guarded by `mask_recycled_ts` on both
sides and in `post_create`; `apply_dyngroup_change` masks recycled / tombstoned entries, expects new groups to be uncached and modified groups to be cached; `post_create` tests
existing groups first, `post_modify` re-evaluates changed groups first. -/
theorem ops_as_modelled :
    (∀ post pre force, addTest post pre force = (post && (force || !pre))) ∧
    (∀ post pre force, remTest post pre force = (pre && !post)) ∧
    fullMask = true ∧ maskCreate = true ∧ maskPre = true ∧ maskPost = true ∧
    expectCreate = false ∧ expectModify = true ∧
    createIncFirst = true ∧ modifyFullFirst = true :=
  ⟨fun _ _ _ => rfl, fun _ _ _ => rfl, rfl, rfl, rfl, rfl, rfl, rfl, rfl, rfl⟩

/-! ## 1. the full path decides what the incremental path decides (`full_means_filter`, `incremental_means_filter`) -/

/-- **The two paths agree** on every stored entry, for good filters and every index layout. -/
theorem incremental_eq_full (env : Env) (ents : List Ent) (hu : Uniq ents) (fc : FC) (ms : List Nat)
    (hg : goodB env fc = true) (h : fullEval env (worldOf ents) fc = some ms) :
    ∀ e ∈ ents, e.id ∈ ms ↔ (env.live e = true ∧ matchB env fc e.entry = true) := by
  intro e he
  rw [incremental_means_filter env fc _ (goodB_fcOk hg)]
  exact (full_means_filter env ents hu fc ms hg h e.id).trans (matches_self hu he fc)

/-! ## 2. every operation keeps the invariant -/

/-- the class value of dyngroups is not the one of recycled entries -/
def Env.wf (env : Env) : Prop := env.vDynGroup ≠ env.vRecycled

/-- **One committed operation** — create (candidates and / or dyngroups), modify (attributes or
the filter, of candidates and / or dyngroups), delete, revive — keeps `Inv`, provided it is in the
scope `opSafeB` (good filters, no change of `class`) and reaches a state in
which no live dyngroup satisfies a live dyngroup's filter. -/
theorem step_preserves (env : Env) (hwf : env.wf) (st st' : State) (op : Op) (hI : Inv env st)
    (h : step env st op = some st') (hs : opSafeB env st op = true)
    (hn : noDynB env st'.ents = true) : Inv env st' := by
  have hnd := noDynB_sound env _ hn
  cases op with
  | create news => exact create_preserves env st st' news hI h hs hnd
  | modify ids ch => exact modify_preserves env st st' ids ch hI h hs hnd
  | delete ids => exact delete_preserves env st st' ids hI h hnd
  | revive id => exact revive_preserves env st st' id hwf hI h hnd

/-! ## 3. the property, for every history in scope -/

theorem run_preserves (env : Env) (hwf : env.wf) :
    ∀ (ops : List Op) (st : State), Inv env st → safeRunB env st ops = true → Inv env (run env st ops) := by
  intro ops st
  fun_induction safeRunB env st ops with
  | case1 st => exact fun hI _ => hI  -- the history is over
  | case2 st op ops st' hstep ih =>  -- the operation commits
    intro hI hs
    simp only [Bool.and_eq_true] at hs
    obtain ⟨⟨hop, hnd⟩, hrest⟩ := hs
    rw [run, hstep]
    exact ih (step_preserves env hwf st st' op hI hstep hop hnd) hrest
  | case3 st op ops hstep ih =>  -- the operation fails: nothing changes
    rw [run, hstep]
    exact ih

/-- **C18, the part that is true.** From a freshly loaded server that satisfies the property
(`initB`), after *any* history of committed operations in scope — failed operations included,
histories of any length, any number of dyngroups and entries, any index layout — every live dynamic
group's `dynmember` is exactly the set of live entries satisfying its filter. Membership follows
changes of the candidates (create / modify / delete / revive) and of the groups' filters. -/
theorem dyn_exact_partial (env : Env) (hwf : env.wf) (ents : List Ent) (dyn mem rdmo : Nat → List Nat)
    (hinit : initB env (State.load env ents dyn mem rdmo) = true) (ops : List Op)
    (hs : safeRunB env (State.load env ents dyn mem rdmo) ops = true) :
    Exact env (run env (State.load env ents dyn mem rdmo) ops) :=
  (run_preserves env hwf ops _ (init_inv env ents dyn mem rdmo hinit) hs).exact

/-! ## 4. the property at full strength is false of the code: two witnesses; a third history is handled correctly -/

/-- The statement without the scope condition. -/
def dyn_exact_full : Prop :=
  ∀ (env : Env), env.wf → ∀ (ents : List Ent) (dyn mem rdmo : Nat → List Nat),
    initB env (State.load env ents dyn mem rdmo) = true → ∀ ops : List Op,
      Exact env (run env (State.load env ents dyn mem rdmo) ops)

/-- class = attribute 0 (equality and presence indexed), description = attribute 2 (not indexed);
class values: 1 recycled, 2 tombstone, 3 dyngroup, 4 group, 5 object -/
def wEnv : Env :=
  ⟨0, ⟨9, 1⟩, .str [1], .str [2], .str [3], .num 0, fun a t => a == 0 && (t == .equality || t == .presence)⟩

def wNil : Nat → List Nat := fun _ => []

def grp (id : Nat) (desc : List Nat) : Ent := ⟨id, [(0, [.str [4], .str [5]]), (2, [.str desc])], none⟩
def dynGrp (id : Nat) (fc : FC) : Ent := ⟨id, [(0, [.str [3], .str [4], .str [5]])], some fc⟩

theorem wEnv_wf : wEnv.wf := by
  unfold Env.wf wEnv
  decide

theorem wInit : initB wEnv (State.load wEnv [] wNil wNil wNil) = true := by decide +kernel

theorem not_full_of_inexact (ops : List Op)
    (h : exactB wEnv (run wEnv (State.load wEnv [] wNil wNil wNil) ops) = false) :
    ¬ dyn_exact_full := fun hfull =>
  Bool.false_ne_true (h.symm.trans ((exactB_is_exact _ _).mpr (hfull wEnv wEnv_wf [] wNil wNil wNil wInit ops)))

/-- D1: `And[Or[class = group, AndNot(description = 7)], AndNot(class = dyngroup)]` created over one
non-group entry that satisfies it through the NOT; the full path reads the isolated NOT as the empty
set -/
def d1Ops : List Op :=
  [.create [⟨1, [(0, [.str [5]]), (2, [.str [8]])], none⟩],
   .create [dynGrp 20 (.and [.or [.eq 0 (.str [4]), .andnot (.eq 2 (.str [7]))], .andnot (.eq 0 (.str [3]))])]]

theorem d1_inexact : exactB wEnv (run wEnv (State.load wEnv [] wNil wNil wNil) d1Ops) = false := by
  decide +kernel

theorem dyn_exact_full_false_D1 : ¬ dyn_exact_full :=
  not_full_of_inexact d1Ops d1_inexact

/-- F1: a dyngroup whose filter is `class = group`, then a second dyngroup is created: it is a live
group, but dyngroups are partitioned out of the candidates -/
def f1Ops : List Op :=
  [.create [dynGrp 20 (.eq 0 (.str [4]))], .create [dynGrp 21 (.eq 2 (.str [7]))]]

theorem f1_inexact : exactB wEnv (run wEnv (State.load wEnv [] wNil wNil wNil) f1Ops) = false := by
  decide +kernel

theorem dyn_exact_full_false_F1 : ¬ dyn_exact_full :=
  not_full_of_inexact f1Ops f1_inexact

/-- F2 / D34 (repaired): group 1 (description 7) is deleted, the dyngroup's filter changes to
`description = 7` while it is recycled, then it is revived: it satisfies the filter before and
after, and — `pre` being guarded — it is added -/
def f2Ops : List Op :=
  [.create [grp 1 [7]],
   .create [dynGrp 20 (.and [.eq 2 (.str [8]), .andnot (.eq 0 (.str [3]))])],
   .delete [1],
   .modify [20] (.filt (.and [.eq 2 (.str [7]), .andnot (.eq 0 (.str [3]))])),
   .revive 1]

theorem f2_repaired :
    exactB wEnv (run wEnv (State.load wEnv [] wNil wNil wNil) f2Ops) = true ∧
    (run wEnv (State.load wEnv [] wNil wNil wNil) f2Ops).dyn 20 = [1] ∧
    safeRunB wEnv (State.load wEnv [] wNil wNil wNil) f2Ops = true := by
  decide +kernel

/-- neither witness is in the scope of `dyn_exact_partial`: the D1 history is in scope up to its first
operation and out of it with the second, the creation of the dyngroup; the F1 history is out of scope,
and its last state has a live dyngroup satisfying a live dyngroup's filter -/
theorem witnesses_out_of_scope :
    safeRunB wEnv (State.load wEnv [] wNil wNil wNil) d1Ops = false ∧
    safeRunB wEnv (State.load wEnv [] wNil wNil wNil) (d1Ops.take 1) = true ∧
    safeRunB wEnv (State.load wEnv [] wNil wNil wNil) f1Ops = false ∧
    noDynB wEnv (run wEnv (State.load wEnv [] wNil wNil wNil) f1Ops).ents = false := by
  decide +kernel

/-! ## 5. the hypotheses are satisfiable by a non-trivial history -/

/-- candidates created before and after the group, one modified into and one out of the filter, the
filter changed, a member deleted and revived, the group itself deleted and revived -/
def exOps : List Op :=
  [.create [grp 1 [7], grp 2 [8]],
   .create [dynGrp 20 (.and [.eq 2 (.str [7]), .andnot (.eq 0 (.str [3]))])],
   .create [grp 3 [7]],
   .modify [2] (.attrs [(2, [.str [7]])]),
   .modify [1] (.attrs [(2, [.str [9]])]),
   .modify [20] (.filt (.and [.or [.eq 2 (.str [9]), .eq 2 (.str [7])], .andnot (.eq 0 (.str [3]))])),
   .delete [3],
   .revive 3,
   .delete [20],
   .create [grp 4 [9]],
   .revive 20]

theorem exOps_safe : safeRunB wEnv (State.load wEnv [] wNil wNil wNil) exOps = true := by
  decide +kernel

example : safeRunB wEnv (State.load wEnv [] wNil wNil wNil) exOps = true := exOps_safe
example : initB wEnv (State.load wEnv [] wNil wNil wNil) = true := wInit
example : Exact wEnv (run wEnv (State.load wEnv [] wNil wNil wNil) exOps) :=
  dyn_exact_partial wEnv wEnv_wf [] wNil wNil wNil wInit exOps exOps_safe
example : (run wEnv (State.load wEnv [] wNil wNil wNil) exOps).dyn 20 = [1, 2, 3, 4] := by
  decide +kernel
example : ((run wEnv (State.load wEnv [] wNil wNil wNil) (exOps.take 5)).dyn 20) = [3, 2] := by
  decide +kernel

end Kanidm.DynGroup
