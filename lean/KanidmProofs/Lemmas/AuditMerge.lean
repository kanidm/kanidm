import KanidmProofs.Lemmas.SessionMerge
/-!
The audit log of C11, with its obligations `audit_comm`, `audit_idem`, `audit_assoc`. As a list,
`mergemaps!(a, b)` is the merge loop into `a` with an always-true replace test; through `lookup` it
is the pick of the other value sets with `b` in the newer role and a test that never replaces, so
the values follow the same algebra (`H_cid_unique` is its tie hypothesis). `remove_oldest` sees of
a map only what `lookup` shows at its newest cids (`removeOldest_top`, from the counting fact
`star`): it respects `SEq` (`removeOldest_congr`), which carries that algebra to the truncated
merge, and truncating an operand first changes nothing (`absorb_newer`, `absorb_older`), which
associativity needs besides.
-/
namespace Kanidm.SessionMerge
open Kanidm.Gen.SessionOrd

variable {α : Type}

theorem insertOver_eq (m : List (Nat × α)) (k : Nat) (v : α) :
    insertOver m k v = mergeOne (fun _ _ => true) m k v := by
  fun_induction insertOver m k v with
  | case1 => rfl  -- empty map
  | case2 => simp [mergeOne]  -- key at the head
  | case3 _ _ _ _ _ hk ih => simp only [mergeOne, hk, if_false, ih]  -- other key at the head

theorem mergemaps_eq (a b : List (Nat × α)) : mergemaps a b = coreMerge (fun _ _ => true) a b := by
  unfold mergemaps coreMerge
  congr 1
  funext m e
  exact insertOver_eq m e.1 e.2

/-- The replace test of a merge in which the newer side always stands. Any two values are
incomparable under it, so a tie is an equality. -/
def never (_ _ : α) : Bool := false

theorem strictWeak_never : StrictWeak (never (α := α)) :=
  ⟨fun _ _ h => Bool.noConfusion h, fun _ _ _ _ _ => rfl⟩

/-- `mergemaps!(a, b)`: `b` is the side that stands. -/
theorem lookup_mergemaps (a b : List (Nat × α)) (hb : KeysNodup b) (j : Nat) :
    lookup (mergemaps a b) j = pickOpt never (lookup b j) (lookup a j) := by
  rw [mergemaps_eq, lookup_coreMerge _ _ _ hb]
  cases lookup a j <;> cases lookup b j <;> rfl

theorem keysNodup_mergemaps (a b : List (Nat × α)) (ha : KeysNodup a) : KeysNodup (mergemaps a b) := by
  rw [mergemaps_eq]; exact keysNodup_coreMerge _ _ _ ha

theorem mem_keys_mergemaps (a b : List (Nat × α)) (j : Nat) :
    j ∈ (mergemaps a b).map (·.1) ↔ j ∈ a.map (·.1) ∨ j ∈ b.map (·.1) := by
  rw [mergemaps_eq]; exact mem_keys_coreMerge _ a b j

/-- How many elements of `l` are above `k`. -/
def cnt (l : List Nat) (k : Nat) : Nat := (l.filter (fun j => decide (k < j))).length

theorem above_eq_cnt (m : List (Nat × α)) (k : Nat) : above m k = cnt (m.map (·.1)) k := by
  unfold above cnt
  rw [List.filter_map, List.length_map]
  rfl

theorem above_lt_length (m : List (Nat × α)) (k : Nat) (hk : k ∈ m.map (·.1)) :
    above m k < m.length := by
  rw [above_eq_cnt]
  unfold cnt
  have : ((m.map (·.1)).filter (fun j => decide (k < j))).length < (m.map (·.1)).length := by
    rw [List.length_filter_lt_length_iff_exists]
    exact ⟨k, hk, by simp⟩
  simpa using this

theorem length_filter_le_of_subset (Y X : List Nat) (hY : Y.Nodup) (p q : Nat → Bool)
    (h : ∀ y, y ∈ Y → p y = true → y ∈ X ∧ q y = true) :
    (Y.filter p).length ≤ (X.filter q).length := by
  apply List.Nodup.length_le_of_subset (hY.filter _)
  intro y hy
  rw [List.mem_filter] at hy ⊢
  exact h y hy.1 hy.2

theorem cnt_lt_of_mem {X : List Nat} {k x : Nat} (hx : x ∈ X) (hk : k < x) : cnt X x < cnt X k := by
  unfold cnt
  rw [show X.filter (fun j => decide (x < j)) =
      (X.filter (fun j => decide (k < j))).filter (fun j => decide (x < j)) from by
    rw [List.filter_filter]
    exact List.filter_congr fun a _ => by by_cases h : x < a <;> simp [h]; omega]
  exact List.length_filter_lt_length_iff_exists.2 ⟨x, List.mem_filter.2 ⟨hx, decide_eq_true hk⟩, by simp⟩

/-- The counting fact under every truncation lemma: a part of `X` that holds the top of `X`
counts like `X` up to `N`. -/
theorem star (X Y : List Nat) (N : Nat) (hX : X.Nodup) (hY : Y.Nodup)
    (hsub : ∀ y, y ∈ Y → y ∈ X) (htop : ∀ x, x ∈ X → cnt X x < N → x ∈ Y) (k : Nat) :
    cnt Y k < N ↔ cnt X k < N := by
  refine ⟨fun hlt => ?_, fun hlt => Nat.lt_of_le_of_lt ?_ hlt⟩
  · -- by induction on the number of elements of `X` above `k`: if `Y` has them all, count; if it
    -- lacks `x`, the claim for `x` says `x` has fewer than `N` above it, so `Y` has it
    induction hn : cnt X k using Nat.strongRecOn generalizing k with
    | ind n ih =>
      subst hn
      by_cases hall : ∀ x, x ∈ X → k < x → x ∈ Y
      · refine Nat.lt_of_le_of_lt ?_ hlt
        exact length_filter_le_of_subset X Y hX _ _ fun x hx hp => ⟨hall x hx (of_decide_eq_true hp), hp⟩
      · simp only [Classical.not_forall] at hall
        obtain ⟨x, hx, hkx, hxY⟩ := hall
        have hYx : cnt Y x ≤ cnt Y k := length_filter_le_of_subset Y Y hY _ _ fun y hy hp =>
          ⟨hy, decide_eq_true (Nat.lt_trans hkx (of_decide_eq_true hp))⟩
        exact absurd (htop x hx (ih _ (cnt_lt_of_mem hx hkx) x (Nat.lt_of_le_of_lt hYx hlt) rfl)) hxY
  · exact length_filter_le_of_subset Y X hY _ _ fun y hy hp => ⟨hsub y hy, hp⟩

theorem above_mono {α : Type} (m m' : List (Nat × α)) (hm : KeysNodup m)
    (h : ∀ j, j ∈ m.map (·.1) → j ∈ m'.map (·.1)) (k : Nat) : above m k ≤ above m' k := by
  rw [above_eq_cnt, above_eq_cnt]
  unfold cnt
  apply length_filter_le_of_subset _ _ hm
  intro y hy hp
  exact ⟨h y hy, hp⟩

theorem lookup_removeOldest (cap : Nat) (m : AMap) (hm : KeysNodup m) (k : Nat) :
    lookup (removeOldest cap m) k = if above m k < cap then lookup m k else none := by
  unfold removeOldest
  rw [lookup_filter_entry _ m hm k]
  cases lookup m k with
  | none => simp
  | some v => by_cases h : above m k < cap <;> simp [Option.filter, h]

theorem removeOldest_id (cap : Nat) (m : AMap) (h : m.length ≤ cap) : removeOldest cap m = m := by
  unfold removeOldest
  rw [List.filter_eq_self]
  intro e he
  have := above_lt_length m e.1 (List.mem_map_of_mem (f := (·.1)) he)
  simp only [decide_eq_true_eq]
  omega

theorem mem_keys_removeOldest (N : Nat) (m : AMap) (k : Nat) :
    k ∈ (removeOldest N m).map (·.1) ↔ k ∈ m.map (·.1) ∧ above m k < N := by
  unfold removeOldest
  simp only [List.mem_map, List.mem_filter, decide_eq_true_eq]
  constructor
  · rintro ⟨e, ⟨he, hlt⟩, rfl⟩
    exact ⟨⟨e, he, rfl⟩, hlt⟩
  · rintro ⟨⟨e, he, rfl⟩, hlt⟩
    exact ⟨e, ⟨he, hlt⟩, rfl⟩

theorem keysNodup_removeOldest (N : Nat) (m : AMap) (h : KeysNodup m) : KeysNodup (removeOldest N m) :=
  keysNodup_filter _ _ h

/-- Truncation sees of a map only its newest `N` entries. -/
theorem removeOldest_top (N : Nat) {u u' : AMap} (hu : KeysNodup u) (hu' : KeysNodup u')
    (hsub : ∀ k, lookup u k = none → lookup u' k = none)
    (htop : ∀ k, above u k < N → lookup u' k = lookup u k) :
    SEq (removeOldest N u') (removeOldest N u) := by
  intro k
  have hk : above u' k < N ↔ above u k < N := by
    rw [above_eq_cnt, above_eq_cnt]
    refine star _ _ N hu hu' (fun j hj => ?_) (fun j hj hlt => ?_) k
    · exact Decidable.byContradiction fun h =>
        lookup_eq_none_iff.1 (hsub j (lookup_eq_none_iff.2 h)) hj
    · exact Decidable.byContradiction fun h => lookup_eq_none_iff.1
        ((htop j (above_eq_cnt u j ▸ hlt)).symm.trans (lookup_eq_none_iff.2 h)) hj
  rw [lookup_removeOldest N u' hu', lookup_removeOldest N u hu]
  by_cases hlt : above u k < N
  · rw [if_pos hlt, if_pos (hk.2 hlt), htop k hlt]
  · rw [if_neg hlt, if_neg (hlt ∘ hk.1)]

theorem removeOldest_congr (N : Nat) {m m' : AMap} (hm : KeysNodup m) (hm' : KeysNodup m')
    (h : SEq m m') : SEq (removeOldest N m) (removeOldest N m') :=
  removeOldest_top N hm' hm (fun k hk => (h k).trans hk) fun k _ => h k

theorem lookup_trunc_of_lt (N : Nat) (m x : AMap) (hm : KeysNodup m)
    (hsub : ∀ j, j ∈ m.map (·.1) → j ∈ x.map (·.1)) (k : Nat) (hlt : above x k < N) :
    lookup (removeOldest N m) k = lookup m k := by
  rw [lookup_removeOldest N m hm, if_pos (Nat.lt_of_le_of_lt (above_mono m x hm hsub k) hlt)]

theorem absorb_newer (N : Nat) (x m : AMap) (hx : KeysNodup x) (hm : KeysNodup m) :
    SEq (removeOldest N (mergemaps x (removeOldest N m))) (removeOldest N (mergemaps x m)) := by
  refine removeOldest_top N (keysNodup_mergemaps _ _ hx) (keysNodup_mergemaps _ _ hx)
    (fun k => ?_) (fun k hlt => ?_) <;>
    rw [lookup_mergemaps _ _ hm, lookup_mergemaps _ _ (keysNodup_removeOldest N m hm)]
  · rw [pickOpt_eq_none, pickOpt_eq_none, lookup_removeOldest N m hm]
    exact fun ⟨h1, h2⟩ => ⟨by rw [h1, ite_self], h2⟩
  · rw [lookup_trunc_of_lt N m _ hm (fun j hj => (mem_keys_mergemaps _ _ j).2 (Or.inr hj)) k hlt]

theorem absorb_older (N : Nat) (m y : AMap) (hm : KeysNodup m) (hy : KeysNodup y) :
    SEq (removeOldest N (mergemaps (removeOldest N m) y)) (removeOldest N (mergemaps m y)) := by
  refine removeOldest_top N (keysNodup_mergemaps _ _ hm)
    (keysNodup_mergemaps _ _ (keysNodup_removeOldest N m hm)) (fun k => ?_) (fun k hlt => ?_) <;>
    rw [lookup_mergemaps _ _ hy, lookup_mergemaps _ _ hy]
  · rw [pickOpt_eq_none, pickOpt_eq_none, lookup_removeOldest N m hm]
    exact fun ⟨h1, h2⟩ => ⟨h1, by rw [h2, ite_self]⟩
  · rw [lookup_trunc_of_lt N m _ hm (fun j hj => (mem_keys_mergemaps _ _ j).2 (Or.inl hj)) k hlt]

theorem lookup_audit (newer older : AMap) (t : Nat) (hn : KeysNodup newer) (ho : KeysNodup older)
    (k : Nat) :
    lookup (auditReplMerge newer older t) k =
      if above (mergemaps older newer) k < auditCapacity
      then (lookup newer k).orElse (fun _ => lookup older k) else none := by
  unfold auditReplMerge
  rw [lookup_removeOldest _ _ (keysNodup_mergemaps _ _ ho), lookup_mergemaps _ _ hn]
  cases lookup newer k <;> cases lookup older k <;> rfl

/-- Same cid ⇒ same text. -/
def H_cid_unique (a b : AMap) : Prop :=
  ∀ k x y, lookup a k = some x → lookup b k = some y → x = y

theorem audit_comm (a b : AMap) (t : Nat) (ha : KeysNodup a) (hb : KeysNodup b)
    (hu : H_cid_unique a b) : SEq (auditReplMerge a b t) (auditReplMerge b a t) :=
  removeOldest_congr _ (keysNodup_mergemaps _ _ hb) (keysNodup_mergemaps _ _ ha) fun k => by
    rw [lookup_mergemaps _ _ ha, lookup_mergemaps _ _ hb,
      pickOpt_comm strictWeak_never _ _ fun x y hx hy _ _ => hu k x y hx hy]

theorem audit_idem (a : AMap) (t : Nat) (ha : KeysNodup a) (hc : a.length ≤ auditCapacity) :
    SEq (auditReplMerge a a t) a := fun k => by
  rw [auditReplMerge, removeOldest_congr _ (keysNodup_mergemaps _ _ ha) ha
    (fun j => by rw [lookup_mergemaps _ _ ha, pickOpt_idem strictWeak_never]) k, removeOldest_id _ _ hc]

/-- Associativity with the roles fixed — truncation to the newest `AUDIT_LOG_STRING_CAPACITY`
entries included; no uniqueness hypothesis needed: drop the inner truncation on either side
(`absorb_newer`, `absorb_older`) and reassociate the picks under the outer one. -/
theorem audit_assoc (a b c : AMap) (t : Nat) (ha : KeysNodup a) (hb : KeysNodup b)
    (hc : KeysNodup c) :
    SEq (auditReplMerge (auditReplMerge a b t) c t) (auditReplMerge a (auditReplMerge b c t) t) := by
  have nu1 : KeysNodup (mergemaps b a) := keysNodup_mergemaps _ _ hb
  have nu2 : KeysNodup (mergemaps c b) := keysNodup_mergemaps _ _ hc
  intro k
  refine (absorb_newer _ c _ hc nu1 k).trans (.trans ?_ (absorb_older _ _ a nu2 ha k).symm)
  refine removeOldest_congr _ (keysNodup_mergemaps _ _ hc) (keysNodup_mergemaps _ _ nu2) (fun j => ?_) k
  rw [lookup_mergemaps _ _ nu1, lookup_mergemaps _ _ ha, lookup_mergemaps _ _ ha, lookup_mergemaps _ _ hb,
    pickOpt_assoc strictWeak_never]

theorem audit_assoc_small (a b c : AMap) (t : Nat) (ha : KeysNodup a) (hb : KeysNodup b)
    (_hc : KeysNodup c) (hsz : a.length + b.length + c.length ≤ auditCapacity) :
    SEq (auditReplMerge (auditReplMerge a b t) c t) (auditReplMerge a (auditReplMerge b c t) t) := by
  have _ := hsz
  exact audit_assoc a b c t ha hb _hc

end Kanidm.SessionMerge
