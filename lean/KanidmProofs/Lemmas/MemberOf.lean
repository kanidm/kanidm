import KanidmModel.MemberOf
import KanidmProofs.Lemmas.Keyed
/-!
C17: the vocabulary the property is stated in (`Edge`, `Reach`, `WF`, `LCe`, `LC`, `Exact`, `Ranked`, `Inv`, `SafeOp`)
and the lemmas behind it, all phrased through list membership.  The argument: the passes of `apply_memberof`
keep the worklist invariant `J` (what is not locally consistent is queued), so a finished run ends in `LC`;
and the affected set of every operation covers what its edit left inconsistent (the `_J` lemmas).
-/
namespace Kanidm.MemberOf
open Kanidm.Gen.MemberOf

theorem mem_ins {a x : Nat} {l : List Nat} : x ∈ ins a l ↔ x = a ∨ x ∈ l := by
  induction l with
  | nil => simp [ins]
  | cons b l ih =>
    unfold ins
    split
    · exact List.mem_cons
    · split
      · rename_i h; rw [h, List.mem_cons, or_self_left]
      · rw [List.mem_cons, ih, List.mem_cons]; exact or_left_comm

theorem mem_union {x : Nat} {xs ys : List Nat} : x ∈ union xs ys ↔ x ∈ xs ∨ x ∈ ys := by
  induction xs with
  | nil => simp [union]
  | cons a xs ih =>
    show x ∈ ins a (union xs ys) ↔ _
    rw [mem_ins, ih, List.mem_cons, or_assoc]

theorem mem_norm {x : Nat} {xs : List Nat} : x ∈ norm xs ↔ x ∈ xs := by
  simp [norm, mem_union]

theorem mem_sdiff {x : Nat} {a b : List Nat} : x ∈ sdiff a b ↔ x ∈ a ∧ x ∉ b := by
  simp [sdiff]

theorem seteq_iff {a b : List Nat} : seteq a b = true ↔ ∀ x, x ∈ a ↔ x ∈ b := by
  simp only [seteq, Bool.and_eq_true, List.all_eq_true, List.contains_iff_mem]
  constructor
  · rintro ⟨h1, h2⟩ x; exact ⟨h1 x, h2 x⟩
  · intro h; exact ⟨fun x hx => (h x).mp hx, fun x hx => (h x).mpr hx⟩

theorem mem_foldr_union {α : Type} (f : α → List Nat) (l : List α) (x : Nat) :
    x ∈ l.foldr (fun e acc => union (f e) acc) [] ↔ ∃ e ∈ l, x ∈ f e := by
  induction l with
  | nil => simp
  | cons a l ih => simp only [List.foldr_cons, mem_union, ih, List.mem_cons, exists_eq_or_imp]

theorem exists_mem_map {α β : Type} {f : α → β} {l : List α} {P : β → Prop} :
    (∃ b ∈ l.map f, P b) ↔ ∃ a ∈ l, P (f a) := by
  constructor
  · rintro ⟨_, hb, hp⟩
    obtain ⟨a, ha, rfl⟩ := List.mem_map.mp hb
    exact ⟨a, ha, hp⟩
  · rintro ⟨a, ha, hp⟩
    exact ⟨f a, List.mem_map_of_mem ha, hp⟩

theorem mem_parents {s : State} {x : Nat} {g : Entry} :
    g ∈ parents s x ↔ g ∈ s ∧ isPar x g = true := by
  simp [parents]

theorem isPar_iff {x : Nat} {g : Entry} :
    isPar x g = true ↔ g.grp = true ∧ g.live = true ∧ x ∈ g.member := by
  simp [isPar, and_assoc]

theorem mem_dmoOf {s : State} {x p : Nat} :
    p ∈ dmoOf s x ↔ ∃ g ∈ s, isPar x g = true ∧ g.id = p := by
  simp only [dmoOf, mem_norm, List.mem_map, mem_parents]
  constructor
  · rintro ⟨g, ⟨hg, hp⟩, rfl⟩; exact ⟨g, hg, hp, rfl⟩
  · rintro ⟨g, hg, hp, rfl⟩; exact ⟨g, ⟨hg, hp⟩, rfl⟩

theorem mem_inherited {ps : List Entry} {q : Nat} :
    q ∈ inherited ps ↔ ∃ g ∈ ps, q ∈ g.mo := by
  simpa [inherited] using mem_foldr_union (fun g : Entry => g.mo) ps q

theorem mem_moOf {s : State} {x q : Nat} :
    q ∈ moOf s x ↔ ∃ g ∈ s, isPar x g = true ∧ (g.id = q ∨ q ∈ g.mo) := by
  simp only [moOf, mergeDmoIntoMo, if_true, mem_union, mem_dmoOf, mem_inherited, mem_parents]
  constructor
  · rintro (⟨g, hg, hp, rfl⟩ | ⟨g, ⟨hg, hp⟩, hq⟩)
    · exact ⟨g, hg, hp, Or.inl rfl⟩
    · exact ⟨g, hg, hp, Or.inr hq⟩
  · rintro ⟨g, hg, hp, (rfl | hq)⟩
    · exact Or.inl ⟨g, hg, hp, rfl⟩
    · exact Or.inr ⟨g, ⟨hg, hp⟩, hq⟩

theorem mem_leafMoOf {s : State} {x q : Nat} : q ∈ leafMoOf s x ↔ q ∈ moOf s x := by
  simp only [leafMoOf, moOf, leafInheritsGroupMo, mergeDmoIntoMo, if_true, mem_union]

theorem changed_eq_false_iff {e : Entry} {d m : List Nat} :
    changed e d m = false ↔ (∀ x, x ∈ e.mo ↔ x ∈ m) ∧ (∀ x, x ∈ e.dmo ↔ x ∈ d) := by
  simp only [changed, changedComb, Bool.or_eq_false_iff, Bool.not_eq_false', seteq_iff]


/-- `p` is a live group that lists `x` (a stored member link). -/
def Edge (s : State) (p x : Nat) : Prop := ∃ g ∈ s, isPar x g = true ∧ g.id = p

/-- `p` reaches `x` through one or more member links between live groups. -/
inductive Reach (s : State) : Nat → Nat → Prop
  | edge {p x : Nat} : Edge s p x → Reach s p x
  | step {p y x : Nat} : Reach s p y → Edge s y x → Reach s p x

def WF (s : State) : Prop := (s.map (·.id)).Nodup

/-- Local consistency of one entry: its stored values are what `do_group_memberof` would
compute now from its parents' *stored* values. -/
def LCe (s : State) (e : Entry) : Prop :=
  (∀ q, q ∈ e.mo ↔ q ∈ moOf s e.id) ∧ (∀ p, p ∈ e.dmo ↔ p ∈ dmoOf s e.id)

def LC (s : State) : Prop := ∀ e ∈ s, e.live = true → LCe s e

/-- The property: memberof = reachability closure, directmemberof = direct parents. -/
def Exact (s : State) : Prop :=
  ∀ e ∈ s, e.live = true → (∀ q, q ∈ e.mo ↔ Reach s q e.id) ∧ (∀ p, p ∈ e.dmo ↔ Edge s p e.id)

/-- The membership graph is acyclic: it has a topological ranking. -/
def Ranked (s : State) (rank : Nat → Nat) : Prop := ∀ p x, Edge s p x → rank p < rank x

/-- The member links are the table of the live groups' member lists, so a ranking of a concrete state is checked
entry by entry. -/
theorem ranked_of_members {s : State} {rank : Nat → Nat}
    (h : ∀ g ∈ s, g.grp = true → g.live = true → ∀ x ∈ g.member, rank g.id < rank x) : Ranked s rank := by
  rintro _ x ⟨g, hg, hp, rfl⟩
  obtain ⟨h1, h2, h3⟩ := isPar_iff.mp hp
  exact h g hg h1 h2 x h3

/-- `Reach s q ·` is the least predicate that holds of `x` as soon as some parent of `x` is `q` or satisfies it
(`Reach` has no reflexive case: this is its induction with the two constructors read as one). -/
theorem Reach.ind {s : State} {q : Nat} {M : Nat → Prop}
    (h : ∀ {p x}, Edge s p x → p = q ∨ M p → M x) {x : Nat} (hr : Reach s q x) : M x := by
  induction hr with
  | edge he => exact h he (.inl rfl)
  | step _ he ih => exact h he (.inr ih)

/-- The same from the other end. -/
theorem Reach.ind_head {s : State} {x : Nat} {P : Nat → Prop}
    (h : ∀ {p y}, Edge s p y → y = x ∨ P y → P p) {p : Nat} (hr : Reach s p x) : P p := by
  suffices ∀ y, Reach s p y → y = x ∨ P y → P p from this x hr (.inl rfl)
  intro y hy
  induction hy with
  | edge he => exact h he
  | step _ he ih => exact fun hy => ih (.inr (h he hy))

theorem Reach.head {s : State} {p q x : Nat} (he : Edge s p q) (hr : Reach s q x) : Reach s p x := by
  induction hr with
  | edge h => exact Reach.step (Reach.edge he) h
  | step _ h ih => exact Reach.step ih h

/-- Along `Reach` the rank strictly increases; that no entry reaches itself is `ranked_no_self_reach`. -/
theorem ranked_acyclic {s : State} {rank : Nat → Nat} (h : Ranked s rank) :
    ∀ p x, Reach s p x → rank p < rank x :=
  fun _ _ hr => hr.ind fun he hp => hp.elim (· ▸ h _ _ he) (Nat.lt_trans · (h _ _ he))

/-- `f` keeps the fields that decide who is whose parent. -/
structure SameSkel (f : Entry → Entry) : Prop where
  id : ∀ e, (f e).id = e.id
  grp : ∀ e, (f e).grp = e.grp
  live : ∀ e, (f e).live = e.live
  member : ∀ e, (f e).member = e.member

theorem isPar_map {f : Entry → Entry} (hf : SameSkel f) (x : Nat) (g : Entry) :
    isPar x (f g) = isPar x g := by
  simp [isPar, hf.grp, hf.live, hf.member]

theorem parents_map {f : Entry → Entry} {s : State} {x : Nat}
    (h : ∀ g ∈ s, isPar x (f g) = isPar x g) : parents (s.map f) x = (parents s x).map f := by
  unfold parents
  rw [List.filter_map]
  exact congrArg _ (List.filter_congr h)

theorem dmoOf_map {f : Entry → Entry} {s : State} {x : Nat}
    (h : ∀ g ∈ s, isPar x (f g) = isPar x g ∧ (f g).id = g.id) : dmoOf (s.map f) x = dmoOf s x := by
  unfold dmoOf
  rw [parents_map fun g hg => (h g hg).1, List.map_map]
  exact congrArg _ (List.map_congr_left fun g hg => (h g (mem_parents.mp hg).1).2)

/-- Of an entry the parent search for `x` reads whether it is a parent of `x` and its uuid, and of a
parent its stored memberof: a rewrite of the entries that keeps these keeps the result. -/
theorem moOf_map {f : Entry → Entry} {s : State} {x : Nat}
    (h : ∀ g ∈ s, isPar x (f g) = isPar x g ∧ (f g).id = g.id)
    (hmo : ∀ g ∈ s, isPar x g = true → (f g).mo = g.mo) : moOf (s.map f) x = moOf s x := by
  have hi : ∀ ps : List Entry, (∀ g ∈ ps, (f g).mo = g.mo) → inherited (ps.map f) = inherited ps := by
    intro ps hps
    induction ps with
    | nil => rfl
    | cons a ps ih =>
      show union (f a).mo (inherited (ps.map f)) = union a.mo (inherited ps)
      rw [hps a List.mem_cons_self, ih fun g hg => hps g (List.mem_cons_of_mem _ hg)]
  unfold moOf
  rw [dmoOf_map h, parents_map fun g hg => (h g hg).1,
    hi _ fun g hg => hmo g (mem_parents.mp hg).1 (mem_parents.mp hg).2]

theorem LCe.map {f : Entry → Entry} {s : State} {e : Entry} (h : LCe s e)
    (hpar : ∀ g ∈ s, isPar e.id (f g) = isPar e.id g ∧ (f g).id = g.id)
    (hmo : ∀ g ∈ s, isPar e.id g = true → (f g).mo = g.mo) : LCe (s.map f) e := by
  unfold LCe
  rwa [moOf_map hpar hmo, dmoOf_map hpar]

theorem LCe.append {s : State} {e n : Entry} (h : LCe s e) (hn : isPar e.id n = false) :
    LCe (s ++ [n]) e := by
  have hp : parents (s ++ [n]) e.id = parents s e.id := by
    simp [parents, List.filter_append, hn]
  unfold LCe moOf dmoOf at h ⊢
  rwa [hp]

theorem edge_map {f : Entry → Entry} (hf : SameSkel f) {s : State} {p x : Nat} :
    Edge (s.map f) p x ↔ Edge s p x := by
  refine mem_dmoOf.symm.trans (Iff.trans ?_ mem_dmoOf)
  rw [dmoOf_map fun g _ => ⟨isPar_map hf x g, hf.id g⟩]

/-- What a pass over the entries does, `f` being its rewrite of one entry from what it reads in `s`:
an entry outside the selection is left alone, a selected one is afterwards consistent with `s`,
whether it was rewritten or the change test found nothing to write. -/
structure Pass (s : State) (sel : Entry → Bool) (f : Entry → Entry) : Prop where
  skel : SameSkel f
  rest : ∀ e, sel e = false → f e = e
  done : ∀ e, sel e = true → LCe s (f e)

theorem groupUpd_pass (s : State) (w : List Nat) :
    Pass s (fun e => e.grp && e.live && w.contains e.id) (groupUpd s w) where
  -- the rewrite is an `if` both of whose branches have the fields of `e`
  skel := by constructor <;> intro e <;> exact (apply_ite _ _ _ _).trans (ite_self _)
  rest e h := by simp only [groupUpd, groupDirty, h, Bool.false_and, Bool.false_eq_true, if_false]
  done e h := by
    unfold groupUpd groupDirty
    rw [h, Bool.true_and]
    split
    · exact ⟨fun _ => Iff.rfl, fun _ => Iff.rfl⟩
    · rename_i hc
      exact changed_eq_false_iff.mp (Bool.eq_false_iff.mpr hc)

theorem leafUpd_pass (s : State) (all : List Nat) :
    Pass s (fun e => !e.grp && e.live && all.contains e.id) (leafUpd s all) where
  skel := by constructor <;> intro e <;> exact (apply_ite _ _ _ _).trans (ite_self _)
  rest e h := by simp only [leafUpd, leafDirty, h, Bool.false_and, Bool.false_eq_true, if_false]
  done e h := by
    unfold leafUpd leafDirty
    rw [h, Bool.true_and]
    split
    · exact ⟨fun _ => mem_leafMoOf, fun _ => Iff.rfl⟩
    · rename_i hc
      obtain ⟨h1, h2⟩ := changed_eq_false_iff.mp (Bool.eq_false_iff.mpr hc)
      exact ⟨fun q => (h1 q).trans mem_leafMoOf, h2⟩

/-- After a pass, an entry none of whose parents the pass rewrote is consistent if it was selected
or was consistent before: its recomputation reads what it read before the pass. -/
theorem Pass.lce {s : State} {sel : Entry → Bool} {f : Entry → Entry} (hp : Pass s sel f) {e : Entry}
    (hpar : ∀ g ∈ s, isPar e.id g = true → f g = g) (h : sel e = true ∨ LCe s e) :
    LCe (s.map f) (f e) := by
  have hs : LCe s (f e) := by
    cases hse : sel e with
    | true => exact hp.done e hse
    | false => rw [hp.rest e hse]; exact h.resolve_left (by simp [hse])
  refine hs.map ?_ ?_ <;> rw [hp.skel.id e]
  · exact fun g _ => ⟨isPar_map hp.skel _ g, hp.skel.id g⟩
  · exact fun g hg hpg => by rw [hpar g hg hpg]

theorem groupUpd_of_not_dirty {s : State} {w : List Nat} {e : Entry}
    (h : groupDirty s w e = false) : groupUpd s w e = e := by
  simp [groupUpd, h]

theorem mem_next_iff {s : State} {w : List Nat} {x : Nat} :
    x ∈ (roundStep s w).2 ↔ ∃ g ∈ s, groupDirty s w g = true ∧ x ∈ g.member := by
  simp only [roundStep, enqueueMembersOnChange, if_true]
  rw [mem_foldr_union (fun e : Entry => e.member)]
  constructor
  · rintro ⟨g, hg, hx⟩
    obtain ⟨h1, h2⟩ := List.mem_filter.mp hg
    exact ⟨g, h1, h2, hx⟩
  · rintro ⟨g, h1, h2, hx⟩
    exact ⟨g, List.mem_filter.mpr ⟨h1, h2⟩, hx⟩

/-- The invariant of the worklist: every live entry that is not locally consistent is
still queued (groups: in the work set; leaves: in the all-affected set). -/
def J (s : State) (w all : List Nat) : Prop :=
  ∀ e ∈ s, e.live = true → ¬ LCe s e →
    (e.grp = true ∧ e.id ∈ w) ∨ (e.grp = false ∧ e.id ∈ all)

theorem roundStep_J {s : State} {w all : List Nat} (hJ : J s w all) :
    J (roundStep s w).1 (roundStep s w).2 (union (roundStep s w).2 all) := by
  intro e' he' hlive hnlc
  have hp := groupUpd_pass s w
  obtain ⟨e, he, rfl⟩ := List.mem_map.mp he'
  rw [hp.skel.live e] at hlive
  rw [hp.skel.id e, hp.skel.grp e]
  by_cases hpar : ∃ g ∈ s, isPar e.id g = true ∧ groupDirty s w g = true
  · -- a parent changed: the round queues `e`
    obtain ⟨g, hg, hpg, hd⟩ := hpar
    have hx : e.id ∈ (roundStep s w).2 := mem_next_iff.mpr ⟨g, hg, hd, (isPar_iff.mp hpg).2.2⟩
    cases hgr : e.grp with
    | true => exact Or.inl ⟨rfl, hx⟩
    | false => exact Or.inr ⟨rfl, mem_union.mpr (Or.inl hx)⟩
  · -- no parent changed, so `e` was neither selected nor consistent: a leaf that stays queued
    have hnd : ¬ (_ ∨ LCe s e) := fun h => hnlc <| hp.lce
      (fun g hg hpg => groupUpd_of_not_dirty (Bool.eq_false_iff.mpr fun hd => hpar ⟨g, hg, hpg, hd⟩)) h
    rcases hJ e he hlive fun h => hnd (.inr h) with ⟨hg, hw⟩ | ⟨hg, ha⟩
    · exact absurd (.inl (by simp [hg, hlive, hw])) hnd
    · exact Or.inr ⟨hg, mem_union.mpr (Or.inr ha)⟩

theorem applyGroups_J {fuel : Nat} {s : State} {w all : List Nat} {s' : State} {all' : List Nat}
    (hJ : J s w all) (h : applyGroups fuel s w all = some (s', all')) :
    J s' [] all' ∧ s'.map (·.id) = s.map (·.id) := by
  fun_induction applyGroups fuel s w all with
  | case1 => cases h; exact ⟨hJ, rfl⟩  -- work set empty: done
  | case2 => cases h  -- out of fuel
  | case3 n s a w all ih =>  -- one round
    obtain ⟨h1, h2⟩ := ih (roundStep_J hJ) h
    exact ⟨h1, h2.trans (Keyed.map_key_map Entry.id fun e _ => (groupUpd_pass s (a :: w)).skel.id e)⟩

theorem leaf_LC {s : State} {all : List Nat} (hJ : J s [] all) : LC (s.map (leafUpd s all)) := by
  intro e' he' hlive
  have hp := leafUpd_pass s all
  obtain ⟨e, he, rfl⟩ := List.mem_map.mp he'
  rw [hp.skel.live e] at hlive
  -- parents are groups, which the leaf pass does not select
  refine hp.lce (fun g _ hpg => hp.rest g (by simp [(isPar_iff.mp hpg).1])) ?_
  refine Classical.or_iff_not_imp_right.mpr fun hn => ?_
  rcases hJ e he hlive hn with ⟨_, hw⟩ | ⟨hg, ha⟩
  · cases hw
  · simp [hg, hlive, ha]

theorem applyMemberOf_LC {fuel : Nat} {s s' : State} {aff : List Nat}
    (hJ : J s aff aff) (h : applyMemberOf fuel s aff = some s') :
    LC s' ∧ s'.map (·.id) = s.map (·.id) := by
  revert h
  fun_cases applyMemberOf fuel s aff with
  | case1 => nofun  -- the loop did not finish
  | case2 s1 all1 hg =>  -- loop finished, then the leaf pass
    rintro ⟨⟩
    obtain ⟨h1, h2⟩ := applyGroups_J hJ hg
    exact ⟨leaf_LC h1, (Keyed.map_key_map Entry.id fun e _ => (leafUpd_pass s1 all1).skel.id e).trans h2⟩


theorem J_of_mem {s : State} {aff : List Nat}
    (h : ∀ e ∈ s, e.live = true → ¬ LCe s e → e.id ∈ aff) : J s aff aff := by
  intro e he hl hn
  have := h e he hl hn
  cases hg : e.grp with
  | true => exact Or.inl ⟨rfl, this⟩
  | false => exact Or.inr ⟨rfl, this⟩

theorem J_map {f : Entry → Entry} {s : State} {aff : List Nat} (hid : ∀ e, (f e).id = e.id)
    (h : ∀ e ∈ s, (f e).live = true → e.id ∉ aff → LCe (s.map f) (f e)) : J (s.map f) aff aff := by
  apply J_of_mem
  intro e' he' hl hn
  obtain ⟨e, he, rfl⟩ := List.mem_map.mp he'
  rw [hid]
  exact Decidable.by_contra fun ha => hn (h e he hl ha)

theorem create_J {s : State} (hlc : LC s) (id : Nat) (grp : Bool) (ms : List Nat) :
    J (s ++ [⟨id, grp, true, ms, [], [], []⟩]) (id :: ms) (id :: ms) := by
  apply J_of_mem
  intro e he hl hn
  rcases List.mem_append.mp he with he | he
  · -- an old entry outside `ms`: the new entry is not its parent
    exact Decidable.by_contra fun hm => hn <| (hlc e he hl).append <|
      Bool.eq_false_iff.mpr fun hp => hm (List.mem_cons_of_mem _ (isPar_iff.mp hp).2.2)
  · rw [List.mem_singleton.mp he]
    exact List.mem_cons_self

theorem mem_symdiff {x : Nat} {a b : List Nat} :
    x ∈ applySetOp .symmetricDifference a b ↔ (x ∈ a ∧ x ∉ b) ∨ (x ∈ b ∧ x ∉ a) := by
  simp [applySetOp, mem_union, mem_sdiff]

theorem mem_modifyAffected {g x : Nat} {old nw : List Nat}
    (h : (x ∈ old ∧ x ∉ nw) ∨ (x ∈ nw ∧ x ∉ old)) : x ∈ modifyAffected g old nw := by
  unfold modifyAffected
  apply List.mem_cons_of_mem
  split
  · rw [mem_union]; rcases h with h | h
    · exact Or.inl h.1
    · exact Or.inr h.1
  · simp only [modifyDeltaOp]; exact mem_symdiff.mpr h

theorem setMem_J {s : State} (hlc : LC s) (hwf : WF s) {g : Nat} {e0 : Entry}
    (hf : find s g = some e0) (nw : List Nat) :
    J (setMem s g nw) (modifyAffected g e0.member nw) (modifyAffected g e0.member nw) := by
  refine J_map (fun e => by split <;> rfl) fun e he hl ha => ?_
  have hg : (e.id == g) = false := beq_false_of_ne fun h => ha (h ▸ List.mem_cons_self)
  simp only [hg] at hl ⊢
  have hx : e.id ∈ nw ↔ e.id ∈ e0.member :=
    ⟨fun h => Decidable.by_contra fun h' => ha (mem_modifyAffected (.inr ⟨h, h'⟩)),
      fun h => Decidable.by_contra fun h' => ha (mem_modifyAffected (.inl ⟨h, h'⟩))⟩
  obtain ⟨h0mem, h0id⟩ := Keyed.find_some Entry.id hf
  refine (hlc e he hl).map (fun g1 hg1 => ?_) fun g1 _ _ => by split <;> rfl
  split
  · rename_i h1
    cases Keyed.eq_of_key_eq Entry.id hwf hg1 h0mem ((beq_iff_eq.mp h1).trans h0id.symm)
    exact ⟨by simp [isPar, hx], rfl⟩
  · exact ⟨rfl, rfl⟩


theorem mem_deleteAffected {s : State} {t : List Nat} {x : Nat} :
    x ∈ deleteAffected s t ↔ ∃ g ∈ s, g.id ∈ t ∧ g.grp = true ∧ x ∈ g.member := by
  unfold deleteAffected
  rw [mem_foldr_union (fun e : Entry => e.member)]
  constructor
  · rintro ⟨g, hg, hx⟩
    obtain ⟨hg1, hg2⟩ := List.mem_filter.mp hg
    simp only [Bool.and_eq_true, List.contains_iff_mem] at hg2
    exact ⟨g, hg1, hg2.1, hg2.2, hx⟩
  · rintro ⟨g, hg, h1, h2, hx⟩
    refine ⟨g, List.mem_filter.mpr ⟨hg, ?_⟩, hx⟩
    simp [h1, h2]

theorem mem_moOf_map {f : Entry → Entry} {s : State} {x q : Nat} :
    q ∈ moOf (s.map f) x ↔ ∃ g ∈ s, isPar x (f g) = true ∧ ((f g).id = q ∨ q ∈ (f g).mo) :=
  mem_moOf.trans exists_mem_map

theorem isPar_unref {t : List Nat} {x : Nat} (hx : x ∉ t) (g : Entry) :
    isPar x (unref t g) = isPar x g := by
  have : (sdiff g.member t).contains x = g.member.contains x :=
    Bool.eq_iff_iff.mpr (by simp [mem_sdiff, hx])
  simp only [isPar, unref, this]

/-- `remove_references` of uuids that no live entry bears keeps an entry outside them consistent:
every stored set loses the same uuids, and none of them is a parent. -/
theorem unref_LCe {s : State} {t : List Nat} {e : Entry} (h : LCe s e) (he : e.id ∉ t)
    (hlive : ∀ g ∈ s, g.live = true → g.id ∉ t) : LCe (s.map (unref t)) (unref t e) := by
  have hpar : ∀ g ∈ s, isPar e.id (unref t g) = isPar e.id g ∧ (unref t g).id = g.id :=
    fun g _ => ⟨isPar_unref he g, rfl⟩
  have hnt : ∀ g ∈ s, isPar e.id g = true → g.id ∉ t :=
    fun g hg hp => hlive g hg (isPar_iff.mp hp).2.1
  refine ⟨fun q => ?_, fun p => ?_⟩
  · show q ∈ sdiff e.mo t ↔ q ∈ moOf (s.map (unref t)) e.id
    rw [mem_sdiff, h.1 q, mem_moOf, mem_moOf_map]
    simp only [isPar_unref he]
    show _ ↔ ∃ g ∈ s, isPar e.id g = true ∧ (g.id = q ∨ q ∈ sdiff g.mo t)
    simp only [mem_sdiff]
    constructor
    · rintro ⟨⟨g, hg, hp, hq⟩, hqt⟩
      exact ⟨g, hg, hp, hq.imp_right fun hq => ⟨hq, hqt⟩⟩
    · rintro ⟨g, hg, hp, hq⟩
      exact ⟨⟨g, hg, hp, hq.imp_right And.left⟩, hq.elim (fun h => h ▸ hnt g hg hp) And.right⟩
  · show p ∈ sdiff e.dmo t ↔ p ∈ dmoOf (s.map (unref t)) e.id
    rw [dmoOf_map hpar, mem_sdiff, h.2 p, mem_dmoOf]
    exact ⟨And.left, fun ⟨g, hg, hp, hid⟩ => ⟨⟨g, hg, hp, hid⟩, hid ▸ hnt g hg hp⟩⟩

theorem recycle_id (t : List Nat) (e : Entry) : (recycle t e).id = e.id := by
  unfold recycle; split <;> rfl

theorem recycle_of_not_mem {t : List Nat} {e : Entry} (h : e.id ∉ t) : recycle t e = e := by
  simp [recycle, h]

theorem recycle_live {t : List Nat} {e : Entry} (h : (recycle t e).live = true) :
    e.live = true ∧ e.id ∉ t := by
  by_cases ht : e.id ∈ t
  · simp [recycle, ht] at h
  · exact ⟨recycle_of_not_mem ht ▸ h, ht⟩

theorem recycle_LCe {s : State} {t : List Nat} {e : Entry} (h : LCe s e)
    (haff : e.id ∉ deleteAffected s t) : LCe (s.map (recycle t)) e := by
  have hnt : ∀ g ∈ s, isPar e.id g = true → recycle t g = g := fun g hg hp =>
    recycle_of_not_mem fun hgt => haff <|
      mem_deleteAffected.mpr ⟨g, hg, hgt, (isPar_iff.mp hp).1, (isPar_iff.mp hp).2.2⟩
  refine h.map (fun g hg => ⟨?_, recycle_id t g⟩) fun g hg hp => by rw [hnt g hg hp]
  cases hp : isPar e.id g with
  | true => rw [hnt g hg hp, hp]
  | false =>
    by_cases hgt : g.id ∈ t
    · simp [recycle, hgt, isPar]
    · rw [recycle_of_not_mem hgt, hp]

theorem delete_J {s : State} (hlc : LC s) (t : List Nat) :
    J ((s.map (recycle t)).map (unref t)) (deleteAffected s t) (deleteAffected s t) := by
  refine J_map (fun _ => rfl) fun e1 he1 hl haff => ?_
  obtain ⟨e, he, rfl⟩ := List.mem_map.mp he1
  obtain ⟨hlive, hnt⟩ := recycle_live (e := e) hl
  rw [recycle_of_not_mem hnt] at haff ⊢
  refine unref_LCe (recycle_LCe (hlc e he hlive) haff) hnt fun g1 hg1 hl1 => ?_
  obtain ⟨g, _, rfl⟩ := List.mem_map.mp hg1
  rw [recycle_id]
  exact (recycle_live hl1).2


/-- The first step of `revive_recycled`: the entry is live again, its stash is dropped. -/
def revUpd (x : Nat) (e : Entry) : Entry :=
  if e.id == x then { e with live := true, rdmo := [] } else e

theorem revUpd_id (x : Nat) (e : Entry) : (revUpd x e).id = e.id := by
  unfold revUpd; split <;> rfl

theorem revive_J {s : State} (hlc : LC s) {x : Nat}
    (hsafe : ∀ e ∈ s, e.id = x → e.grp = true → e.member = []) :
    J (s.map (revUpd x)) [x] [x] := by
  refine J_map (revUpd_id x) fun e he hl ha => ?_
  have hu : revUpd x e = e := if_neg (by simpa using ha)
  rw [hu] at hl ⊢
  refine (hlc e he hl).map (fun g hg => ⟨?_, revUpd_id x g⟩) fun g _ _ => by unfold revUpd; split <;> rfl
  unfold revUpd
  split
  · rename_i h1
    -- the revived entry is no one's parent: a leaf, or a group without members
    cases hgr : g.grp with
    | false => simp [isPar, hgr]
    | true => simp [isPar, hsafe g hg (beq_iff_eq.mp h1) hgr]
  · rfl


def Inv (s : State) : Prop := LC s ∧ WF s

/-- The one operation shape that breaks local consistency (D16): reviving a group that still
lists members.  Everything else is safe. -/
def SafeOp (s : State) : Op → Prop
  | .revive x => ∀ e ∈ s, e.id = x → e.grp = true → e.member = []
  | _ => True

theorem wf_map {f : Entry → Entry} (hf : ∀ e, (f e).id = e.id) {s : State} (h : WF s) : WF (s.map f) :=
  Keyed.nodup_map Entry.id (fun e _ => hf e) h

theorem applyMemberOf_inv {fuel : Nat} {s s' : State} {aff : List Nat} (hJ : J s aff aff) (hwf : WF s)
    (h : applyMemberOf fuel s aff = some s') : Inv s' := by
  obtain ⟨h1, h2⟩ := applyMemberOf_LC hJ h
  exact ⟨h1, by unfold WF; rw [h2]; exact hwf⟩

theorem applyMod_inv {fuel : Nat} {s s' : State} {g : Nat} {e0 : Entry} {nw : List Nat}
    (hinv : Inv s) (hf : find s g = some e0)
    (h : applyMod fuel s g e0.member nw = .ok s') : Inv s' := by
  revert h
  fun_cases applyMod fuel s g e0.member nw with
  | case1 => nofun  -- diverge
  | case2 s1 ha =>  -- `apply_memberof` finished
    rintro ⟨⟩
    exact applyMemberOf_inv (setMem_J hinv.1 hinv.2 hf nw) (wf_map (fun e => by split <;> rfl) hinv.2) ha

theorem opCreate_inv {fuel : Nat} {s s' : State} {id : Nat} {grp : Bool} {ms : List Nat}
    (hinv : Inv s) (h : opCreate fuel s id grp ms = .ok s') : Inv s' := by
  revert h
  fun_cases opCreate fuel s id grp ms with
  | case1 | case2 | case3 => nofun  -- uuid taken, a member not live, diverge
  | case4 ms' h1 _ s1 ha =>  -- created
    rintro ⟨⟩
    refine applyMemberOf_inv (create_J hinv.1 id grp ms')
      (Keyed.nodup_append Entry.id hinv.2 (List.pairwise_singleton ..) fun e he y hy => ?_) ha
    rw [List.mem_singleton.mp hy]
    exact (Keyed.find_none_iff Entry.id).mp (Option.not_isSome_iff_eq_none.mp h1) e he

theorem opSet_inv {fuel : Nat} {s s' : State} {g : Nat} {ms : List Nat}
    (hinv : Inv s) (h : opSet fuel s g ms = .ok s') : Inv s' := by
  revert h
  fun_cases opSet fuel s g ms with
  | case1 | case2 => rintro ⟨⟩; exact hinv  -- no such entry, or recycled: nothing happens
  | case3 | case4 => nofun  -- not a group, a new member not live
  | case5 e hf => exact applyMod_inv hinv hf  -- the modify

theorem opDelete_inv {fuel : Nat} {s s' : State} {ids : List Nat}
    (hinv : Inv s) (h : opDelete fuel s ids = .ok s') : Inv s' := by
  revert h
  fun_cases opDelete fuel s ids with
  | case1 | case2 => nofun  -- nothing live to delete, diverge
  | case3 t _ s1 ha =>  -- deleted
    rintro ⟨⟩
    exact applyMemberOf_inv (delete_J hinv.1 _)
      (wf_map (f := unref _) (fun _ => rfl) (wf_map (recycle_id _) hinv.2)) ha

theorem reviveMods_inv {fuel : Nat} {x : Nat} (gs : List Nat) (s s' : State)
    (hinv : Inv s) (h : reviveMods fuel x gs s = .ok s') : Inv s' := by
  revert h
  fun_induction reviveMods fuel x gs s with
  | case1 s => rintro ⟨⟩; exact hinv  -- no group left
  | case2 g gs s s1 ha ih =>  -- re-added to `g`, go on
    refine ih ?_
    revert ha
    fun_cases addMemberAny fuel s g x with
    | case1 => rintro ⟨⟩; exact hinv  -- `g` is gone: nothing happens
    | case2 e hf => exact applyMod_inv hinv hf  -- the modify
  | case3 g gs s hn => exact fun h => (hn _ h).elim  -- the re-add failed

theorem reviveTail_inv {fuel : Nat} {x : Nat} {e : Entry} {s1 s' : State}
    (hinv : Inv s1) (h : reviveTail fuel x e s1 = .ok s') : Inv s' := by
  revert h
  fun_cases reviveTail fuel x e s1 with
  | case1 => exact reviveMods_inv _ _ _ hinv  -- a group
  | case2 => nofun  -- a leaf, diverge
  | case3 _ s2 ha =>  -- a leaf: every live leaf is recomputed first
    -- nothing is inconsistent, whatever is queued
    exact reviveMods_inv _ _ _
      (applyMemberOf_inv (fun e he hl hn => absurd (hinv.1 e he hl) hn) hinv.2 ha)

theorem opRevive_inv {fuel : Nat} {s s' : State} {x : Nat}
    (hinv : Inv s) (hsafe : SafeOp s (.revive x)) (h : opRevive fuel s x = .ok s') : Inv s' := by
  revert h
  fun_cases opRevive fuel s x with
  | case1 | case2 | case3 => nofun  -- no such entry, not recycled, diverge
  | case4 e _ _ s1 ha =>  -- live again, then the re-adds
    exact reviveTail_inv
      (applyMemberOf_inv (revive_J hinv.1 hsafe) (wf_map (revUpd_id x) hinv.2) ha)


theorem step_inv {fuel : Nat} {s s' : State} {op : Op}
    (hinv : Inv s) (hsafe : SafeOp s op) (h : step fuel s op = .ok s') : Inv s' := by
  cases op with
  | create id grp ms => exact opCreate_inv hinv h
  | setMembers g ms => exact opSet_inv hinv h
  | delete ids => exact opDelete_inv hinv h
  | revive x => exact opRevive_inv hinv hsafe h


theorem groupDirty_spec {s : State} {w : List Nat} {g : Entry} (h : groupDirty s w g = true) :
    g.grp = true ∧ g.live = true ∧ g.id ∈ w := by
  simp only [groupDirty, Bool.and_eq_true, List.contains_iff_mem] at h
  exact ⟨h.1.1.1, h.1.1.2, h.1.2⟩

/-- On a ranked graph the work set climbs one rank per round, so `R + 1` rounds suffice
when no rank exceeds `R`. -/
theorem applyGroups_terminates_ranked (rank : Nat → Nat) (R fuel k : Nat) (s : State) (w all : List Nat)
    (hr : Ranked s rank) (hm : ∀ g ∈ s, ∀ m ∈ g.member, rank m ≤ R)
    (hw : ∀ x ∈ w, k ≤ rank x ∧ rank x ≤ R) (hk : R < fuel + k) :
    ∃ r, applyGroups fuel s w all = some r := by
  fun_induction applyGroups fuel s w all generalizing k with
  | case1 => exact ⟨_, rfl⟩  -- work set empty: done
  | case2 s a w all =>  -- out of fuel: excluded by `hk`
    have := hw a List.mem_cons_self
    omega
  | case3 n s a w all ih =>  -- one round
    refine ih (k + 1) ?_ ?_ ?_ (by omega)
    · intro p x he
      exact hr p x ((edge_map (groupUpd_pass s (a :: w)).skel).mp he)
    · intro g' hg' m hmem
      obtain ⟨g, hg, rfl⟩ := List.mem_map.mp hg'
      rw [(groupUpd_pass s (a :: w)).skel.member g] at hmem
      exact hm g hg m hmem
    · intro x hx
      obtain ⟨g, hg, hd, hxm⟩ := mem_next_iff.mp hx
      obtain ⟨h1, h2, h3⟩ := groupDirty_spec hd
      have := hr _ _ ⟨g, hg, isPar_iff.mpr ⟨h1, h2, hxm⟩, rfl⟩
      have := (hw g.id h3).1
      exact ⟨by omega, hm g hg x hxm⟩

theorem applyGroups_none_of_orbit (C : List (State × List Nat))
    (hC : ∀ c ∈ C, c.2 ≠ [] ∧ roundStep c.1 c.2 ∈ C) (fuel : Nat) (s : State) (w all : List Nat)
    (hc : (s, w) ∈ C) : applyGroups fuel s w all = none := by
  fun_induction applyGroups fuel s w all with
  | case1 => exact absurd rfl (hC _ hc).1  -- work set empty: not in the orbit
  | case2 => rfl  -- out of fuel
  | case3 n s a w all ih => exact ih (hC _ hc).2  -- one round

theorem mem_closureIter_succ {s : State} {x p k : Nat} :
    p ∈ closureIter s x (k + 1) ↔
      p ∈ closureIter s x k ∨ ∃ q ∈ closureIter s x k, Edge s p q := by
  show p ∈ union (closureIter s x k)
      ((closureIter s x k).foldr (fun q acc => union (dmoOf s q) acc) []) ↔ _
  rw [mem_union, mem_foldr_union (fun q : Nat => dmoOf s q)]
  constructor
  · rintro (h | ⟨q, hq, hp⟩)
    · exact Or.inl h
    · exact Or.inr ⟨q, hq, mem_dmoOf.mp hp⟩
  · rintro (h | ⟨q, hq, hp⟩)
    · exact Or.inl h
    · exact Or.inr ⟨q, hq, mem_dmoOf.mpr hp⟩

theorem reach_of_mem_closureIter {s : State} {x : Nat} :
    ∀ (k p : Nat), p ∈ closureIter s x k → Reach s p x := by
  intro k
  induction k with
  | zero => intro p h; exact Reach.edge (mem_dmoOf.mp h)
  | succ k ih =>
    intro p h
    rcases mem_closureIter_succ.mp h with h | ⟨q, hq, he⟩
    · exact ih p h
    · exact Reach.head he (ih q hq)

theorem mem_closureIter_of_reach {s : State} {x p : Nat} (hr : Reach s p x) :
    ∃ k, p ∈ closureIter s x k :=
  -- a parent of `x` is collected at once, a parent of what round `k` holds in round `k + 1`
  hr.ind_head (P := fun p => ∃ k, p ∈ closureIter s x k) fun he h =>
    h.elim (fun e => ⟨0, mem_dmoOf.mpr (e ▸ he :)⟩)
      fun ⟨k, hk⟩ => ⟨k + 1, mem_closureIter_succ.mpr (.inr ⟨_, hk, he⟩)⟩

end Kanidm.MemberOf
