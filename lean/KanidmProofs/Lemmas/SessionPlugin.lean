import KanidmModel.SessionPlugin
import KanidmProofs.Lemmas.SessionMerge
/-!
Lemmas about the session-plugin model for C36 and C39: `lookup` and membership through the maps that
rewrite values in place; `Evol`, all that a write does to the value of a session that stays on record;
the sweep selectors of `SessionConsistency::modify_inner`; the plugin in closed form (`plugin_eq`: a map
of sweeps `sw` over the values of each of the two session maps); the modlist on either session map in
closed form (`applyMod_uats`, `applyMod_o2s`: a per-key function over the sessions on record, and
`record` / `grant` fill a vacant id).
-/
namespace Kanidm.SessionPlugin
open Kanidm.Gen.SessionOrd Kanidm.SessionMerge Kanidm.Gen.SessionPlugin

def Live (s : Sess) : Prop := isRevoked s.state = false

instance (s : Sess) : Decidable (Live s) := by unfold Live; infer_instance

/-- What one sweep does to one session. -/
def sw (cid : Nat) (sel : Sess → Bool) (s : Sess) : Sess := if sel s then revoke cid s else s

def mapVals (f : Sess → Sess) (m : SMap) : SMap := m.map (fun e => (e.1, f e.2))

/-- A map over the values that may look at the key. -/
def mapKV (f : Nat → Sess → Sess) (m : SMap) : SMap := m.map (fun e => (e.1, f e.1 e.2))

theorem mem_mapKV {f : Nat → Sess → Sess} {m : SMap} {k : Nat} {s' : Sess} :
    (k, s') ∈ mapKV f m ↔ ∃ s, (k, s) ∈ m ∧ s' = f k s := by
  constructor
  · intro h
    obtain ⟨⟨k0, s0⟩, hm, he⟩ := List.mem_map.mp h
    cases he
    exact ⟨s0, hm, rfl⟩
  · rintro ⟨s, hm, rfl⟩
    exact List.mem_map.mpr ⟨(k, s), hm, rfl⟩

theorem lookup_mapKV (f : Nat → Sess → Sess) (m : SMap) (k : Nat) :
    lookup (mapKV f m) k = (lookup m k).map (f k) := lookup_map_val f m k

theorem lookup_mapVals (f : Sess → Sess) (m : SMap) (k : Nat) :
    lookup (mapVals f m) k = (lookup m k).map f := lookup_mapKV (fun _ => f) m k

theorem keys_mapVals (f : Sess → Sess) (m : SMap) : (mapVals f m).map (·.1) = m.map (·.1) := by
  simp [mapVals, List.map_map, Function.comp_def]

theorem mapVals_mapVals (f g : Sess → Sess) (m : SMap) : mapVals g (mapVals f m) = mapVals (g ∘ f) m := by
  simp [mapVals, List.map_map, Function.comp_def]

theorem revoke_revoked (cid : Nat) (s : Sess) : ∃ c, (revoke cid s).state = .revokedAt c := by
  unfold revoke
  cases h : s.state with
  | revokedAt c => exact ⟨c, by simp [h]⟩
  | expiresAt e => exact ⟨cid, by simp⟩
  | neverExpires => exact ⟨cid, by simp⟩

theorem revoke_of_revoked {cid : Nat} {s : Sess} {c : Nat} (h : s.state = .revokedAt c) : revoke cid s = s := by
  unfold revoke; simp [h]

theorem revoke_payload (cid : Nat) (s : Sess) : (revoke cid s).payload = s.payload := by
  unfold revoke; split <;> rfl

theorem revoke_issued (cid : Nat) (s : Sess) : (revoke cid s).issued = s.issued := by
  unfold revoke; split <;> rfl

theorem not_live_revoke (cid : Nat) (s : Sess) : ¬ Live (revoke cid s) := by
  obtain ⟨c, h⟩ := revoke_revoked cid s
  simp [Live, h, isRevoked]

theorem Live.not_revoked {s : Sess} (h : Live s) (c : Nat) : s.state ≠ .revokedAt c := by
  intro hs; simp [Live, hs, isRevoked] at h

theorem revoked_of_not_live {s : Sess} (h : ¬ Live s) : ∃ c, s.state = .revokedAt c := by
  cases hs : s.state with
  | revokedAt c => exact ⟨c, rfl⟩
  | expiresAt _ => exact absurd (by simp [Live, hs, isRevoked]) h
  | neverExpires => exact absurd (by simp [Live, hs, isRevoked]) h

/-- All a write does to the value of a session that stays on record: nothing, or revoke it now.
The modlist (`revoke`, `purge`) and each sweep of the plugin are of this kind, so a whole write is. -/
def Evol (cid : Nat) (s s' : Sess) : Prop := s' = s ∨ s' = revoke cid s

theorem Evol.trans {cid : Nat} {a b c : Sess} (h1 : Evol cid a b) (h2 : Evol cid b c) : Evol cid a c := by
  rcases h1 with rfl | rfl
  · exact h2
  · obtain ⟨x, hx⟩ := revoke_revoked cid a
    exact Or.inr (h2.elim id fun h => h.trans (revoke_of_revoked hx))

theorem Evol.payload {cid : Nat} {s s' : Sess} (h : Evol cid s s') : s'.payload = s.payload := by
  rcases h with rfl | rfl
  · rfl
  · exact revoke_payload cid s

theorem Evol.issued {cid : Nat} {s s' : Sess} (h : Evol cid s s') : s'.issued = s.issued := by
  rcases h with rfl | rfl
  · rfl
  · exact revoke_issued cid s

theorem Evol.eq_or_revoked {cid : Nat} {s s' : Sess} (h : Evol cid s s') :
    s' = s ∨ ∃ c, s'.state = .revokedAt c :=
  h.imp_right fun h => by rw [h]; exact revoke_revoked cid s

theorem Evol.of_revoked {cid : Nat} {s s' : Sess} {c : Nat} (h : Evol cid s s')
    (hs : s.state = .revokedAt c) : s' = s :=
  h.elim id fun h => h.trans (revoke_of_revoked hs)

theorem evol_sw (cid : Nat) (sel : Sess → Bool) (s : Sess) : Evol cid s (sw cid sel s) := by
  unfold sw; split
  · exact Or.inr rfl
  · exact Or.inl rfl

theorem sw_of_not_sel {cid : Nat} {sel : Sess → Bool} {s : Sess} (h : sel s = false) :
    sw cid sel s = s := by
  unfold sw; rw [h]; rfl

theorem sw_of_sel {cid : Nat} {sel : Sess → Bool} {s : Sess} (h : sel s = true) :
    sw cid sel s = revoke cid s := if_pos h

theorem sw_of_revoked {cid : Nat} {sel : Sess → Bool} {s : Sess} {c : Nat} (h : s.state = .revokedAt c) :
    sw cid sel s = s := (evol_sw cid sel s).of_revoked h

theorem live_sw {cid : Nat} {sel : Sess → Bool} {s : Sess} (h : Live (sw cid sel s)) :
    sel s = false ∧ sw cid sel s = s := by
  cases hs : sel s with
  | false => exact ⟨rfl, sw_of_not_sel hs⟩
  | true => exact absurd (sw_of_sel hs ▸ h) (not_live_revoke cid s)

theorem selCredGone_false_iff (creds : List Nat) (s : Sess) :
    selCredGone creds s = false ↔ (Live s → credOf s ∈ creds) := by
  unfold selCredGone credPassLiveArm credPassRevokedArm Live
  cases s.state <;> simp [isRevoked]

theorem selUatExpired_false_iff (ct : Nat) (s : Sess) :
    selUatExpired ct s = false ↔ ∀ exp, s.state = .expiresAt exp → ct < exp := by
  unfold selUatExpired uatExpiredGuard uatExpiredArm uatOtherArm
  cases s.state <;> simp

/-- The parent test of sweep 3 as a proposition. -/
def ParentLive (uats : Option SMap) (s : Sess) : Prop :=
  ∃ m, uats = some m ∧ (parentOf s = none ∨ ∃ p ps, parentOf s = some p ∧ lookup m p = some ps ∧ Live ps)

theorem parentValid_iff (uats : Option SMap) (s : Sess) : parentValid uats s = true ↔ ParentLive uats s := by
  cases uats with
  | none => simp [parentValid, parentNoSessionMap, ParentLive]
  | some m =>
    -- with the attribute present `ParentLive` is its second conjunct
    refine Iff.trans ?_ ⟨fun h => ⟨m, rfl, h⟩, fun ⟨_, h, hr⟩ => Option.some.inj h ▸ hr⟩
    unfold parentValid parentNoId parentNotFound parentFound
    cases hp : parentOf s with
    | none => simp
    | some p => cases hl : lookup m p <;> simp [hl, Live]

theorem selOrphan_false_iff (uats : Option SMap) (ct : Nat) (s : Sess) :
    selOrphan uats ct s = false ↔ (ParentLive uats s ∨ ct < s.issued + graceWindow) := by
  unfold selOrphan parentValidArm orphanArm
  rw [← parentValid_iff]
  cases parentValid uats s <;> simp

theorem selO2_false_iff (uats : Option SMap) (ct : Nat) (s : Sess) :
    selO2 uats ct s = false ↔
      (Live s → (∀ exp, s.state = .expiresAt exp → ct < exp) ∧
        (ParentLive uats s ∨ ct < s.issued + graceWindow)) := by
  rw [← selOrphan_false_iff]
  unfold selO2 o2ExpiredGuard o2ExpiredArm o2RevokedArm Live
  cases s.state with
  | revokedAt c => simp [isRevoked]
  | neverExpires => simp [isRevoked]
  | expiresAt x =>
    by_cases hx : x ≤ ct
    · simp [isRevoked, hx, Nat.not_lt.mpr hx]
    · simp [isRevoked, hx, Nat.lt_of_not_le hx]

/-- What the plugin does to one login session. -/
def uatPost (creds : List Nat) (ct cid : Nat) (s : Sess) : Sess :=
  sw cid (selUatExpired ct) (sw cid (selCredGone creds) s)

theorem evol_uatPost (creds : List Nat) (ct cid : Nat) (s : Sess) : Evol cid s (uatPost creds ct cid s) :=
  (evol_sw cid _ s).trans (evol_sw cid _ _)

theorem live_uatPost {creds : List Nat} {ct cid : Nat} {s : Sess} (h : Live (uatPost creds ct cid s)) :
    uatPost creds ct cid s = s ∧ credOf s ∈ creds ∧ (∀ exp, s.state = .expiresAt exp → ct < exp) := by
  unfold uatPost at h ⊢
  obtain ⟨h2, e2⟩ := live_sw h
  rw [e2] at h
  obtain ⟨h1, e1⟩ := live_sw h
  rw [e1] at h2 e2 h ⊢
  exact ⟨e2, (selCredGone_false_iff creds s).mp h1 h, (selUatExpired_false_iff ct s).mp h2⟩

theorem uatPost_healthy {creds : List Nat} {ct cid : Nat} {s : Sess}
    (hc : credOf s ∈ creds) (hx : ∀ exp, s.state = .expiresAt exp → ct < exp) :
    uatPost creds ct cid s = s := by
  unfold uatPost
  rw [sw_of_not_sel ((selCredGone_false_iff creds s).mpr fun _ => hc),
    sw_of_not_sel ((selUatExpired_false_iff ct s).mpr hx)]

/-- What the plugin does to one OAuth2 session, given the swept login sessions. -/
def o2Post (uats : Option SMap) (ct cid : Nat) (s : Sess) : Sess := sw cid (selO2 uats ct) s

theorem live_o2Post {uats : Option SMap} {ct cid : Nat} {s : Sess} (h : Live (o2Post uats ct cid s)) :
    o2Post uats ct cid s = s ∧ (∀ exp, s.state = .expiresAt exp → ct < exp) ∧
      (ParentLive uats s ∨ ct < s.issued + graceWindow) := by
  obtain ⟨h1, e1⟩ := live_sw h
  have hl : Live s := e1 ▸ h
  exact ⟨e1, (selO2_false_iff uats ct s).mp h1 hl⟩

theorem o2Post_healthy {uats : Option SMap} {ct cid : Nat} {s : Sess}
    (hx : ∀ exp, s.state = .expiresAt exp → ct < exp)
    (hp : ParentLive uats s ∨ ct < s.issued + graceWindow) : o2Post uats ct cid s = s :=
  sw_of_not_sel ((selO2_false_iff uats ct s).mpr fun _ => ⟨hx, hp⟩)

theorem o2Post_of_revoked {uats : Option SMap} {ct cid : Nat} {s : Sess} {c : Nat}
    (h : s.state = .revokedAt c) : o2Post uats ct cid s = s := sw_of_revoked h

theorem o2Post_payload (uats : Option SMap) (ct cid : Nat) (s : Sess) :
    (o2Post uats ct cid s).payload = s.payload := (evol_sw _ _ _).payload

theorem o2Post_issued (uats : Option SMap) (ct cid : Nat) (s : Sess) :
    (o2Post uats ct cid s).issued = s.issued := (evol_sw _ _ _).issued

theorem sweep_eq (cid : Nat) (sel : Sess → Bool) (m : SMap) : sweep cid sel m = mapVals (sw cid sel) m := by
  unfold sweep mapVals sw
  apply List.map_congr_left
  intro e _
  split <;> rfl

theorem plugin_eq (ct cid : Nat) (e : Entry) :
    plugin ct cid e =
      { e with
        uats := e.uats.map (mapVals (uatPost (credIds e) ct cid))
        o2s := mapVals (o2Post (e.uats.map (mapVals (uatPost (credIds e) ct cid))) ct cid) e.o2s } := by
  have hu : (e.uats.map (sweep cid (selCredGone (credIds e)))).map (sweep cid (selUatExpired ct)) =
      e.uats.map (mapVals (uatPost (credIds e) ct cid)) := by
    cases e.uats with
    | none => rfl
    | some m => exact congrArg some (by rw [sweep_eq, sweep_eq, mapVals_mapVals]; rfl)
  simp only [plugin, passOrder, List.foldl, applyPass]
  rw [hu, sweep_eq]
  rfl

theorem plugin_primary (ct cid : Nat) (e : Entry) : (plugin ct cid e).primary = e.primary := by
  rw [plugin_eq]
theorem plugin_passkeys (ct cid : Nat) (e : Entry) : (plugin ct cid e).passkeys = e.passkeys := by
  rw [plugin_eq]
theorem plugin_attested (ct cid : Nat) (e : Entry) : (plugin ct cid e).attested = e.attested := by
  rw [plugin_eq]
theorem plugin_oauth2Cred (ct cid : Nat) (e : Entry) : (plugin ct cid e).oauth2Cred = e.oauth2Cred := by
  rw [plugin_eq]
theorem plugin_apis (ct cid : Nat) (e : Entry) : (plugin ct cid e).apis = e.apis := by
  rw [plugin_eq]

theorem plugin_uats (ct cid : Nat) (e : Entry) :
    (plugin ct cid e).uats = e.uats.map (mapVals (uatPost (credIds e) ct cid)) := by
  rw [plugin_eq]

theorem plugin_o2s (ct cid : Nat) (e : Entry) :
    (plugin ct cid e).o2s = mapVals (o2Post (plugin ct cid e).uats ct cid) e.o2s := by
  rw [plugin_eq]

theorem mem_plugin_o2s {ct cid : Nat} {e : Entry} {k : Nat} {o : Sess} :
    (k, o) ∈ (plugin ct cid e).o2s ↔
      ∃ o0, (k, o0) ∈ e.o2s ∧ o = o2Post (plugin ct cid e).uats ct cid o0 := by
  rw [plugin_o2s]
  exact mem_mapKV (f := fun _ => o2Post (plugin ct cid e).uats ct cid)

theorem lookup_plugin_o2s (ct cid : Nat) (e : Entry) (k : Nat) :
    lookup (plugin ct cid e).o2s k = (lookup e.o2s k).map (o2Post (plugin ct cid e).uats ct cid) := by
  rw [plugin_o2s, lookup_mapVals]

theorem credIds_plugin (ct cid : Nat) (e : Entry) : credIds (plugin ct cid e) = credIds e := by
  rw [plugin_eq]; rfl

/-- What a modlist does to the value of a login session already on record. -/
def modUat (cid : Nat) (md : Mod) (k : Nat) (s : Sess) : Sess :=
  match md with
  | .revoke j => if k = j then revoke cid s else s
  | .purgeUats => revoke cid s
  | _ => s

theorem evol_modUat (cid : Nat) (md : Mod) (k : Nat) (s : Sess) : Evol cid s (modUat cid md k s) := by
  unfold modUat
  split
  · split
    · exact Or.inr rfl
    · exact Or.inl rfl
  · exact Or.inr rfl
  · exact Or.inl rfl

theorem revokeKey_eq (cid k : Nat) (m : SMap) :
    revokeKey cid k m = mapKV (fun a s => if a = k then revoke cid s else s) m := by
  unfold revokeKey mapKV
  apply List.map_congr_left
  intro e _
  show _ = (e.1, if e.1 = k then revoke cid e.2 else e.2)
  split <;> rfl

theorem applyMod_uats (cid : Nat) (e : Entry) (md : Mod) :
    (applyMod cid e md).uats =
      match md with
      | .record s cred exp issued =>
        some (insertVacant (e.uats.getD []) s ⟨stateOf exp, issued, cred⟩)
      | _ => e.uats.map (mapKV (modUat cid md)) := by
  have hid : e.uats = e.uats.map (mapKV fun _ s => s) := by
    cases e.uats with
    | none => rfl
    | some m => exact congrArg some (List.map_id' m).symm
  cases md with
  | record j c x i => rfl
  | revoke j => exact congrArg (Option.map · e.uats) (funext (revokeKey_eq cid j))
  | purgeUats => rfl
  | _ => exact hid

theorem lookup_insertVacant (m : SMap) (k j : Nat) (v : Sess) :
    lookup (insertVacant m k v) j = match lookup m j with | some x => some x | none => if j = k then some v else none := by
  unfold insertVacant
  cases hk : lookup m k with
  | some x =>
    simp only
    cases hj : lookup m j with
    | some y => rfl
    | none =>
      by_cases h : j = k
      · subst h; rw [hk] at hj; cases hj
      · simp [h]
  | none => simp only; rw [lookup_append_singleton]; cases lookup m j <;> rfl

theorem mem_insertVacant {m : SMap} {k : Nat} {v : Sess} {x : Nat × Sess} :
    x ∈ insertVacant m k v ↔ x ∈ m ∨ (lookup m k = none ∧ x = (k, v)) := by
  unfold insertVacant
  cases h : lookup m k with
  | some _ => simp
  | none => simp [List.mem_append]

/-- `insert_checked` of an OAuth2 session: what is on record under `k` gives way to a greater state,
and a vacant `k` is filled. -/
theorem insertO2_eq (m : SMap) (k : Nat) (v : Sess) :
    insertO2 m k v = insertVacant (mapKV (fun a s =>
      if a = k ∧ o2InsertReplaces (SState.cmp v.state s.state) = true then v else s) m) k v := by
  unfold insertO2 insertVacant
  rw [lookup_mapKV]
  cases hl : lookup m k with
  | some _ =>
    apply List.map_congr_left
    rintro ⟨a, b⟩ _
    by_cases h1 : a = k
    · by_cases h2 : o2InsertReplaces (SState.cmp v.state b.state) = true <;> simp [h1, h2]
    · simp [h1]
  | none =>
    -- no entry has key `k`, so the map changes nothing
    have hid : mapKV (fun a s =>
        if a = k ∧ o2InsertReplaces (SState.cmp v.state s.state) = true then v else s) m = m := by
      refine (List.map_congr_left fun e he => ?_).trans (List.map_id' m)
      have : e.1 ≠ k := fun h => lookup_eq_none_iff.mp hl (List.mem_map.mpr ⟨e, he, h⟩)
      simp [this]
    simp only [Option.map_none, hid]

/-- What a modlist does to the value of an OAuth2 session already on record. -/
def modO2 (cid : Nat) (md : Mod) (k : Nat) (s : Sess) : Sess :=
  match md with
  | .grant j p x i =>
    if k = j ∧ o2InsertReplaces (SState.cmp (stateOf x) s.state) = true then ⟨stateOf x, i, encParent p⟩ else s
  | .revokeO2 j => if k = j then revoke cid s else s
  | _ => s

/-- `RevokedAt` is the greatest state, so a grant does not replace a revoked session; a revocation
leaves it as it is. -/
theorem modO2_of_revoked {cid : Nat} {md : Mod} {k : Nat} {s : Sess} {c : Nat}
    (h : s.state = .revokedAt c) : modO2 cid md k s = s := by
  unfold modO2
  split
  · rename_i j p x i
    refine if_neg fun hrep => ?_
    rw [h] at hrep
    cases x <;> simp [stateOf, SState.cmp, o2InsertReplaces] at hrep
  · split
    · exact revoke_of_revoked h
    · rfl
  · rfl

theorem modO2_revokeO2 (cid k : Nat) (s : Sess) : modO2 cid (.revokeO2 k) k s = revoke cid s := if_pos rfl

theorem applyMod_o2s (cid : Nat) (e : Entry) (md : Mod) :
    (applyMod cid e md).o2s =
      match md with
      | .grant j p x i => insertVacant (mapKV (modO2 cid md) e.o2s) j ⟨stateOf x, i, encParent p⟩
      | _ => mapKV (modO2 cid md) e.o2s := by
  have hid : e.o2s = mapKV (fun _ s => s) e.o2s := (List.map_id' e.o2s).symm
  cases md with
  | grant j p x i => exact insertO2_eq e.o2s j ⟨stateOf x, i, encParent p⟩
  | revokeO2 j => exact revokeKey_eq cid j e.o2s
  | _ => exact hid

theorem mem_applyMod_o2s {cid : Nat} {e : Entry} {md : Mod} {k : Nat} {s1 : Sess} :
    (k, s1) ∈ (applyMod cid e md).o2s ↔
      (∃ s0, (k, s0) ∈ e.o2s ∧ s1 = modO2 cid md k s0) ∨
      (∃ p x i, md = .grant k p x i ∧ (∀ s0, (k, s0) ∉ e.o2s) ∧ s1 = ⟨stateOf x, i, encParent p⟩) := by
  have key := applyMod_o2s cid e md
  split at key
  · rename_i j p x i
    rw [key, mem_insertVacant, lookup_eq_none_iff_forall, mem_mapKV]
    refine or_congr Iff.rfl ⟨?_, ?_⟩
    · rintro ⟨hno, heq⟩
      cases heq
      exact ⟨p, x, i, rfl, fun s0 h0 => hno _ (mem_mapKV.mpr ⟨s0, h0, rfl⟩), rfl⟩
    · rintro ⟨p', x', i', hmd, hno, rfl⟩
      cases hmd
      exact ⟨fun s hs => let ⟨s0, h0, _⟩ := mem_mapKV.mp hs; hno s0 h0, rfl⟩
  · rename_i hn
    rw [key, mem_mapKV]
    exact (or_iff_left fun ⟨p, x, i, hm, _⟩ => hn k p x i hm).symm

theorem lookup_applyMod_o2s {cid : Nat} {e : Entry} {md : Mod} {k : Nat} {s : Sess}
    (h : lookup e.o2s k = some s) : lookup (applyMod cid e md).o2s k = some (modO2 cid md k s) := by
  have key := applyMod_o2s cid e md
  split at key <;> rw [key]
  · rw [lookup_insertVacant, lookup_mapKV, h]; rfl
  · rw [lookup_mapKV, h]; rfl

theorem lookup_revokeKey (cid k : Nat) (m : SMap) (j : Nat) :
    lookup (revokeKey cid k m) j = (lookup m j).map (fun s => if j = k then revoke cid s else s) := by
  rw [revokeKey_eq]
  exact lookup_map_val (fun a s => if a = k then revoke cid s else s) m j

theorem mem_revokeKey {cid j : Nat} {m : SMap} {k : Nat} {s' : Sess} :
    (k, s') ∈ revokeKey cid j m ↔ ∃ s, (k, s) ∈ m ∧ s' = if k = j then revoke cid s else s := by
  rw [revokeKey_eq]
  exact mem_mapKV (f := fun a s => if a = j then revoke cid s else s)

theorem lookup_revokeAll (cid : Nat) (m : SMap) (j : Nat) :
    lookup (revokeAll cid m) j = (lookup m j).map (revoke cid) := lookup_mapVals (revoke cid) m j

theorem lookup_insertO2 (m : SMap) (k j : Nat) (v : Sess) :
    lookup (insertO2 m k v) j =
      match lookup m j with
      | some x => some (if j = k ∧ o2InsertReplaces (SState.cmp v.state x.state) = true then v else x)
      | none => if j = k then some v else none := by
  rw [insertO2_eq, lookup_insertVacant, lookup_mapKV]
  cases lookup m j <;> rfl

end Kanidm.SessionPlugin
