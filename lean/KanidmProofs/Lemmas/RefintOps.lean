import KanidmProofs.Lemmas.Refint
import KanidmProofs.Lemmas.Ite
/-!
C16: the side conditions of a history (`stepOk`, `histOk`) and the proof that every server operation
of `KanidmModel/Refint.lean` except replication preserves `Inv` (`inv_create` … `inv_purgeTombstones`;
`inv_repl` is in `RefintRepl.lean`).
-/
namespace Kanidm.Refint
open Kanidm.Gen.Refint

def stateSids (s : State) : List Nat := s.flatMap (fun e => e.attrs.flatMap (·.2.sids))

/-- What the proofs need from the environment of one step:
* `delete`: no OAuth2 session id equals the uuid of an entry (`remove(Refer(u))` on a session map
  treats `u` as a session id first), and the `directmemberof` values memberof stashes are live;
* `repl`: no session id equals an entry uuid, a referenced uuid or a conflict uuid. -/
def stepOk (s : State) : Op → Bool
  | .delete _ stash =>
    (stateSids s).all (fun sid => !(s.map (·.uuid)).contains sid)
      && stash.all (fun p => p.2.all (isLive s))
  | .repl cand conflicts =>
    let s1 := upsertAll s cand
    (stateSids s1).all (fun sid =>
      !((s1.map (·.uuid)) ++ refSet cand ++ conflicts ++ cand.map (·.uuid)).contains sid)
  | _ => true

def histOk : State → List Op → Bool
  | _, [] => true
  | s, op :: ops => stepOk s op && histOk (apply s op) ops

theorem mem_stateSids {s : State} {u : Nat} :
    u ∈ stateSids s ↔ ∃ e ∈ s, ∃ p ∈ e.attrs, u ∈ p.2.sids := by
  simp only [stateSids, List.mem_flatMap]

theorem sidFree_of_all {s : State} {l us : List Nat}
    (h : (stateSids s).all (fun sid => !l.contains sid) = true) (hus : ∀ u ∈ us, u ∈ l) : SidFree us s := by
  intro e he p hp u hu hmem
  have := List.all_eq_true.mp h u (mem_stateSids.mpr ⟨e, he, p, hp, hmem⟩)
  simp only [Bool.not_eq_true', List.contains_eq_mem, decide_eq_false_iff_not] at this
  exact this (hus u hu)

theorem nodupNat_nodup {l : List Nat} (h : nodupNat l = true) : l.Nodup := by
  induction l with
  | nil => exact List.nodup_nil
  | cons x xs ih =>
    simp only [nodupNat, Bool.and_eq_true, Bool.not_eq_true', List.contains_eq_mem,
      decide_eq_false_iff_not] at h
    exact List.nodup_cons.mpr ⟨h.1, ih h.2⟩

theorem applyMod_edit {e e' : Entry} {m : Mod} (h : applyMod e m = some e') :
    e.Edit e.st (fun _ => True) e' := by
  revert h
  fun_cases applyMod e m with
  -- `present`: new attribute, or the value inserted into
  | case1 | case2 => rintro ⟨⟩; exact (Entry.Edit.refl e).withAttrs fun _ _ => .inr trivial
  | case3 => nofun -- `present` of a value of another syntax: refused
  -- `removed` / `purged` of an attribute that is not there
  | case4 | case6 => rintro ⟨⟩; exact .refl e
  -- `removed`, and `purged` of a session map (all sessions revoked): the value is `set`
  | case5 | case7 => rintro ⟨⟩; exact (Entry.Edit.refl e).set trivial
  | case8 => rintro ⟨⟩; exact (Entry.Edit.refl e).erase _ -- `purged` of anything else

theorem applyMods_edit {e e' : Entry} {ms : List Mod} (h : applyMods e ms = some e') :
    e.Edit e.st (fun _ => True) e' := by
  fun_induction applyMods e ms with
  | case1 => cases h; exact .refl _ -- no modification left
  | case2 _ _ _ _ h1 ih => exact (applyMod_edit h1).st ▸ (applyMod_edit h1).trans (ih h)
  | case3 => cases h -- the first modification is refused

theorem inv_apply {s : State} {op : Op} (hinv : Inv s) (h : ∀ s', step s op = .ok s' → Inv s') :
    Inv (apply s op) := by
  unfold apply
  cases hs : step s op with
  | ok s' => exact h s' hs
  | err _ => exact hinv

theorem nodup_create {s es : List Entry} (hn : (s.map (·.uuid)).Nodup)
    (h : ¬ (!nodupNat (es.map (·.uuid)) || (es.map (·.uuid)).any (inIndex s)) = true) :
    ((s ++ es).map (·.uuid)).Nodup := by
  simp only [Bool.or_eq_true, Bool.not_eq_true', not_or, Bool.not_eq_false, Bool.not_eq_true] at h
  exact Keyed.nodup_append Entry.uuid hn (nodupNat_nodup h.1) fun x hx y hy hab =>
    List.any_eq_false.mp h.2 _ (List.mem_map_of_mem hy) (inIndex_iff.mpr ⟨x, hx, hab⟩)

theorem opCreate_ok {s s' : State} {es : List Entry} (h : opCreate s es = .ok s') :
    s' = s ++ es.map (fun e => { e with st := .live }) ∧
    ¬ (!nodupNat ((es.map fun e => { e with st := .live }).map (·.uuid)) ||
        ((es.map fun e => { e with st := .live }).map (·.uuid)).any (inIndex s)) = true ∧
    postModifyInner s' none (es.map fun e => { e with st := .live }) = none := by
  revert h
  fun_cases opCreate s es with
  | case5 _ _ _ hdup _ _ hchk => exact fun h => Res.ok.inj h ▸ ⟨rfl, hdup, hchk⟩ -- the accepting arm
  | _ => nofun

theorem inv_create {s s' : State} (hinv : Inv s) {es : List Entry} (h : opCreate s es = .ok s') :
    Inv s' := by
  obtain ⟨rfl, hdup, hchk⟩ := opCreate_ok h
  refine inv_checked (pre := none) hinv (nodup_create hinv.1 hdup) (fun _ hp => nomatch hp) ?_
    (fun e he => List.mem_append.mp he) hchk
  intro u hu
  simp only [isLive, List.any_append, Bool.or_eq_true] at hu ⊢
  exact Or.inl hu

/-- `internal_modify` of the one entry the search `sel` finds: the common body of `opModify`
(search `filter!(uuid = u)`) and of `readd` (search `filter_all!(uuid = g)`). -/
def modifyOne (s : State) (sel : Entry → Bool) (ms : List Mod) : Res :=
  match s.find? sel with
  | none => .ok s
  | some e =>
    match applyMods e ms with
    | none => .err .invalid
    | some e' =>
      if !e'.schemaOk then .err .invalid
      else
      let s1 := s.map (fun x => if sel x then e' else x)
      match postModifyInner s1 (some [e]) [e'] with
      | some er => .err er
      | none => .ok s1

theorem opModify_eq (s : State) (u : Nat) (ms : List Mod) :
    opModify s u ms = modifyOne s (fun e => e.uuid == u && e.st == .live) ms := by
  unfold opModify modifyOne; rfl

theorem readd_eq (s : State) (g : Nat) (ms : List Nat) :
    readd s g ms =
      if (find s g).any (·.st == .tombstone) then .err .invalid
      else modifyOne s (·.uuid == g) (ms.map fun u => .present aMember (.key .refer u)) := by
  unfold readd modifyOne find
  cases s.find? (·.uuid == g) <;> rfl

theorem modifyOne_ok {s s' : State} {sel : Entry → Bool} {ms : List Mod} (h : modifyOne s sel ms = .ok s') :
    (s.find? sel = none ∧ s' = s) ∨
    ∃ e e', s.find? sel = some e ∧ applyMods e ms = some e' ∧
      s' = s.map (fun x => if sel x then e' else x) ∧ postModifyInner s' (some [e]) [e'] = none := by
  revert h
  fun_cases modifyOne s sel ms with
  | case1 hfind => rintro ⟨⟩; exact .inl ⟨hfind, rfl⟩ -- nothing found: accepted, nothing written
  | case5 e hfind e' hm _ _ hchk => -- found, modified, schema and check passed
    exact fun h => Res.ok.inj h ▸ .inr ⟨e, e', hfind, hm, rfl, hchk⟩
  | _ => nofun

/-- Uuids being distinct, a search that fixes the uuid selects the entry it found and no other, so
the write keeps every uuid and every state. -/
theorem modifyOne_spec {s : State} (hn : (s.map (·.uuid)).Nodup) {sel : Entry → Bool} {k : Nat}
    (hsel : ∀ x, sel x = true → x.uuid = k) {e e' : Entry} (hfind : s.find? sel = some e)
    {ms : List Mod} (hm : applyMods e ms = some e') {x : Entry} (hx : x ∈ s) :
    x.Edit x.st (fun _ => True) (if sel x then e' else x) ∧
      ((if sel x then e' else x) = x ∨ (if sel x then e' else x) = e') := by
  split
  · rename_i hc
    obtain rfl : x = e := Keyed.eq_of_key_eq Entry.uuid hn hx (List.mem_of_find?_eq_some hfind)
      ((hsel x hc).trans (hsel e (List.find?_some hfind)).symm)
    exact ⟨applyMods_edit hm, .inr rfl⟩
  · exact ⟨.refl x, .inl rfl⟩

theorem inv_modifyOne {s s' : State} (hinv : Inv s) {sel : Entry → Bool} {k : Nat}
    (hsel : ∀ x, sel x = true → x.uuid = k) {ms : List Mod} (h : modifyOne s sel ms = .ok s') :
    Inv s' := by
  rcases modifyOne_ok h with ⟨_, rfl⟩ | ⟨e, e', hfind, hm, rfl, hchk⟩
  · exact hinv
  refine inv_checked_map hinv (fun p hp => List.mem_singleton.mp hp ▸ List.mem_of_find?_eq_some hfind)
    (fun x hx => ?_) hchk
  obtain ⟨hed, hor⟩ := modifyOne_spec hinv.1 hsel hfind hm hx
  exact ⟨hed.uuid, hed.st.trans, hor.imp_right List.mem_singleton.mpr⟩

theorem inv_modify {s s' : State} (hinv : Inv s) {u : Nat} {mods : List Mod}
    (h : opModify s u mods = .ok s') : Inv s' :=
  inv_modifyOne hinv (fun _ hx => beq_iff_eq.mp (Bool.and_eq_true_iff.mp hx).1) (opModify_eq .. ▸ h)

theorem modifyOne_refuses {s : State} (hn : (s.map (·.uuid)).Nodup) {sel : Entry → Bool} {k : Nat}
    (hsel : ∀ x, sel x = true → x.uuid = k) {e e' : Entry} (hfind : s.find? sel = some e)
    {ms : List Mod} (hm : applyMods e ms = some e') {r : Nat} (hr : r ∈ e'.propRefs)
    (hnew : r ∉ e.propRefs) (hdead : isLive s r = false) : ∃ er, modifyOne s sel ms = .err er := by
  cases h : modifyOne s sel ms with
  | err er => exact ⟨er, rfl⟩
  | ok s' =>
    rcases modifyOne_ok h with ⟨hnone, _⟩ | ⟨e1, e1', hfind1, hm1, rfl, hchk⟩
    · rw [hfind] at hnone; cases hnone
    obtain rfl : e = e1 := Option.some.inj (hfind.symm.trans hfind1)
    obtain rfl : e' = e1' := Option.some.inj (hm.symm.trans hm1)
    -- the write keeps uuids and states, so `r` is as dead after it as before, yet it passed the check
    have hed := fun x hx => (modifyOne_spec (x := x) hn hsel hfind hm hx).1
    have hlive := existFast_sound (Keyed.nodup_map Entry.uuid (fun x hx => (hed x hx).uuid) hn)
      (postModifyInner_none hchk) (u := r) (mem_newRefs.mpr
        ⟨mem_refSet.mpr ⟨e', List.mem_singleton_self _, hr⟩, fun h => by
          obtain ⟨p, hp, hrp⟩ := mem_refSet.mp h
          exact hnew (List.mem_singleton.mp hp ▸ hrp)⟩)
    rw [isLive_map_congr (fun x hx => ⟨(hed x hx).uuid, by rw [(hed x hx).st]⟩) r, hdead] at hlive
    cases hlive

theorem recycle_edit (stash : List (Nat × List Nat)) (c : Bool) (e : Entry) :
    e.Edit .recycled (fun p => p.2.sids = [] ∧ ∀ r ∈ p.2.active, r ∈ stashOf stash e.uuid)
      (recycle stash c e) := by
  fun_cases recycle stash c e with
  | case1 e1 dmo e2 e3 =>
    have h1 : e.Edit e.st (fun p => p.2.sids = [] ∧ ∀ r ∈ p.2.active, r ∈ dmo) e1 := by
      unfold e1; split
      · split
        · -- the cascade mark has `Uuid` syntax: no session id, no reference
          exact ((Entry.Edit.refl e).erase aCascade).append ⟨rfl, fun _ hr => nomatch hr⟩
        · exact .refl e
      · exact .refl e
    have h2 := ((h1.erase aMemberOf).erase aDirectMemberOf).erase aRdmo
    refine Entry.Edit.withSt (σ := e.st) ?_ _
    unfold e3; split
    · exact h2
    · exact h2.set ⟨rfl, fun _ hr => hr⟩

theorem stashOf_live {s : State} {stash : List (Nat × List Nat)}
    (h : stash.all (fun p => p.2.all (isLive s)) = true) (u r : Nat) (hr : r ∈ stashOf stash u) :
    isLive s r = true := by
  unfold stashOf at hr
  split at hr
  · rename_i p hp
    exact List.all_eq_true.mp (List.all_eq_true.mp h p (List.mem_of_find?_eq_some hp)) r hr
  · cases hr

/-- What `recycleAll` does to one entry. -/
def recycleSel (stash : List (Nat × List Nat)) (tu cu : List Nat) (e : Entry) : Entry :=
  if e.st == .live && tu.contains e.uuid then recycle stash false e
  else if e.st == .live && cu.contains e.uuid then recycle stash true e
  else e

theorem recycleAll_eq (s : State) (stash : List (Nat × List Nat)) (tu cu : List Nat) :
    recycleAll s stash tu cu = s.map (recycleSel stash tu cu) := rfl

theorem recycleSel_spec (stash : List (Nat × List Nat)) (tu cu : List Nat) (e : Entry) :
    (∃ σ, e.Edit σ (fun p => p.2.sids = [] ∧ ∀ r ∈ p.2.active, r ∈ stashOf stash e.uuid)
      (recycleSel stash tu cu e)) ∧
    (recycleSel stash tu cu e = e ∨ e.uuid ∈ tu ++ cu) := by
  fun_cases recycleSel stash tu cu e with
  | case1 h => -- a live delete target
    simp only [Bool.and_eq_true, List.contains_eq_mem, decide_eq_true_eq] at h
    exact ⟨⟨_, recycle_edit ..⟩, .inr (List.mem_append_left _ h.2)⟩
  | case2 _ h => -- a live entry deleted by cascade
    simp only [Bool.and_eq_true, List.contains_eq_mem, decide_eq_true_eq] at h
    exact ⟨⟨_, recycle_edit ..⟩, .inr (List.mem_append_right _ h.2)⟩
  | case3 => exact ⟨⟨_, .refl e⟩, .inl rfl⟩ -- left alone

theorem weakInv_recycleAll {s : State} (hinv : Inv s) {stash : List (Nat × List Nat)}
    (hstash : stash.all (fun p => p.2.all (isLive s)) = true) (tu cu : List Nat) :
    WeakInv (tu ++ cu) (recycleAll s stash tu cu) := by
  rw [recycleAll_eq]
  refine ⟨Keyed.nodup_map Entry.uuid (fun x _ =>
    (recycleSel_spec stash tu cu x).1.elim fun _ h => h.uuid) hinv.1, ?_⟩
  intro e1 he1 r hr
  obtain ⟨e, he, rfl⟩ := List.mem_map.mp he1
  obtain ⟨⟨_, hed⟩, _⟩ := recycleSel_spec stash tu cu e
  have hl : isLive s r = true :=
    (hed.propRefs hr).elim (hinv.2 e he r) fun ⟨_, hq, hrp⟩ => stashOf_live hstash _ r (hq.2 r hrp)
  obtain ⟨x, hx, hxu, hxl⟩ := isLive_iff.mp hl
  rcases (recycleSel_spec stash tu cu x).2 with h | h
  · exact Or.inl (isLive_iff.mpr ⟨_, List.mem_map_of_mem hx, by rw [h]; exact ⟨hxu, hxl⟩⟩)
  · exact Or.inr (hxu ▸ h)

theorem sidFree_recycleAll {s : State} {us : List Nat}
    (hsid : (stateSids s).all (fun sid => !(s.map (·.uuid)).contains sid) = true)
    (hus : ∀ u ∈ us, u ∈ s.map (·.uuid)) (stash : List (Nat × List Nat)) (tu cu : List Nat) :
    SidFree us (recycleAll s stash tu cu) := by
  rw [recycleAll_eq]
  intro e1 he1 p hp u hu hmem
  obtain ⟨e, he, rfl⟩ := List.mem_map.mp he1
  obtain ⟨⟨_, hed⟩, _⟩ := recycleSel_spec stash tu cu e
  rcases hed.attrs p hp with h | h
  · exact sidFree_of_all hsid hus e he p h u hu hmem
  · rw [h.1] at hmem; cases hmem

theorem deleted_sub (s : State) (us : List Nat) :
    ∀ u ∈ deleteTargets s us ++ deleteCascade s (deleteTargets s us), u ∈ s.map (·.uuid) := by
  intro u hu
  have hf : ∀ q : Entry → Bool, u ∈ (s.filter q).map (·.uuid) → u ∈ s.map (·.uuid) :=
    fun q h => (List.filter_sublist.map _).subset h
  rcases List.mem_append.mp hu with h | h
  · exact hf _ h
  · unfold deleteCascade at h
    split at h
    · exact hf _ h
    · cases h

theorem removeReferences_some {s s' : State} {us : List Nat} (h : removeReferences s us = some s') :
    s' = removeRefsState s us := by
  unfold removeReferences at h
  split at h
  · cases h
  · exact (Option.some.inj h).symm

theorem opDelete_ok {s s2 : State} {us : List Nat} {stash : List (Nat × List Nat)}
    (h : opDelete s us stash = .ok s2) :
    s2 = removeRefsState
      (recycleAll s stash (deleteTargets s us) (deleteCascade s (deleteTargets s us)))
      (deleteTargets s us ++ deleteCascade s (deleteTargets s us)) := by
  revert h
  fun_cases opDelete s us stash with
  | case3 _ _ _ _ _ _ _ heq => -- the accepting arm: recycled, then swept
    exact fun h => Res.ok.inj h ▸ removeReferences_some heq
  | case5 _ _ _ _ _ hno => exact absurd rfl hno -- `postDeleteRemovesCandidates` is true
  | _ => nofun

theorem inv_delete {s s' : State} (hinv : Inv s) {us : List Nat} {stash : List (Nat × List Nat)}
    (hok : stepOk s (.delete us stash) = true) (h : opDelete s us stash = .ok s') : Inv s' := by
  simp only [stepOk, Bool.and_eq_true] at hok
  rw [opDelete_ok h]
  exact inv_removeRefs (weakInv_recycleAll hinv hok.2 _ _)
    (sidFree_recycleAll hok.1 (deleted_sub s us) _ _ _)

theorem reviveEntry_edit (e : Entry) : e.Edit .live (fun _ => True) (reviveEntry e) := by
  unfold reviveEntry
  refine Entry.Edit.withSt (σ := e.st) (((?_ : e.Edit e.st _ _).erase _).erase _) _
  split
  · exact ((Entry.Edit.refl e).erase _).set trivial
  · exact .refl e

theorem inv_readd {s s' : State} (hinv : Inv s) {g : Nat} {ms : List Nat}
    (h : readd s g ms = .ok s') : Inv s' := by
  rw [readd_eq] at h
  exact inv_modifyOne hinv (fun _ hx => beq_iff_eq.mp hx) (of_ite_eq h nofun).2

theorem inv_readdAll {s s' : State} (hinv : Inv s) {mods : List (Nat × List Nat)}
    (h : readdAll s mods = .ok s') : Inv s' := by
  fun_induction readdAll s mods with
  | case1 => cases h; exact hinv -- no group left
  | case2 _ _ _ _ _ h1 ih => exact ih (inv_readd hinv h1) h
  | case3 => cases h -- a re-add is refused

theorem inv_revive {s s' : State} (hinv : Inv s) {us : List Nat} (h : opRevive s us = .ok s') :
    Inv s' := by
  revert h
  fun_cases opRevive s us with
  | case4 pre _ _ _ _ hchk => -- the accepting arm: revived and checked, the re-adds remain
    have hpre_sub : ∀ p ∈ pre, p ∈ s := fun p hp =>
      (List.mem_append.mp hp).elim (fun h => (List.mem_filter.mp h).1) (fun h => (List.mem_filter.mp h).1)
    refine inv_readdAll (inv_checked_map hinv hpre_sub (fun x hx => ?_) hchk)
    split
    · rename_i hc
      simp only [Bool.and_eq_true, List.contains_eq_mem, decide_eq_true_eq, List.mem_map] at hc
      obtain ⟨_, z, hz, hzu⟩ := hc
      have : z = x := Keyed.eq_of_key_eq Entry.uuid hinv.1 (hpre_sub z hz) hx hzu
      exact ⟨(reviveEntry_edit x).uuid, fun _ => (reviveEntry_edit x).st,
        Or.inr (List.mem_map.mpr ⟨x, this ▸ hz, rfl⟩)⟩
    · exact ⟨rfl, id, Or.inl rfl⟩
  | _ => nofun

theorem inv_purgeRecycled {s s' : State} (hinv : Inv s) (h : opPurgeRecycled s = .ok s') : Inv s' := by
  cases h
  -- a tombstone has no attributes left, everything else (the live entries among it) is untouched
  refine ⟨Keyed.nodup_map Entry.uuid (fun x _ => ?_) hinv.1, fun e1 he1 r hr => ?_⟩
  · split <;> rfl
  obtain ⟨e, he, rfl⟩ := List.mem_map.mp he1
  split at hr
  · cases hr
  · refine isLive_map_mono (fun x _ => ?_) (hinv.2 e he r hr)
    split
    · rename_i hc
      exact ⟨rfl, fun hl => by rw [hl] at hc; cases hc⟩
    · exact ⟨rfl, id⟩

theorem inv_purgeTombstones {s s' : State} (hinv : Inv s) (h : opPurgeTombstones s = .ok s') :
    Inv s' := by
  cases h
  refine ⟨(List.filter_sublist.map _).nodup hinv.1, ?_⟩
  intro e he r hr
  obtain ⟨x, hx, hxu, hxl⟩ := isLive_iff.mp (hinv.2 e (List.mem_filter.mp he).1 r hr)
  exact isLive_iff.mpr ⟨x, List.mem_filter.mpr ⟨hx, by simp [hxl]⟩, hxu, hxl⟩

end Kanidm.Refint
