import KanidmModel.Filter.Idl
/-
C01's vocabulary (`Approx`, `SubSem`, `IdxSound`, `sem`) and the lemmas on `filter2idl`, arm by arm; at the end the
keys of a value set (`hasKeyL`, the vocabulary of C03's invariant) and `IdxSound` for tables that are exact for them.
-/
namespace Kanidm.Filter

theorem mem_interL {a b : List Nat} {x : Nat} : x ∈ interL a b ↔ x ∈ a ∧ x ∈ b := by
  simp [interL, List.mem_filter]
theorem mem_diffL {a b : List Nat} {x : Nat} : x ∈ diffL a b ↔ x ∈ a ∧ x ∉ b := by
  simp [diffL, List.mem_filter]
theorem mem_unionL {a b : List Nat} {x : Nat} : x ∈ unionL a b ↔ x ∈ a ∨ x ∈ b := by
  simp only [unionL, List.mem_append, List.mem_filter, List.contains_eq_mem, Bool.not_eq_eq_eq_not,
    Bool.not_true, decide_eq_false_iff_not]
  by_cases h : x ∈ a <;> simp [h]

theorem isEmpty_no_mem {l : List Nat} (h : l.isEmpty = true) (x : Nat) : x ∉ l := by
  cases l with
  | nil => simp
  | cons a t => simp at h

/-- What an id list claims about the set `P` of ids it stands for: `Indexed` = exactly `P`,
`Partial`/`PartialThreshold` = a superset of `P`, `AllIds` = nothing. -/
def Approx (P : Nat → Prop) (i : IdList) : Prop :=
  match i.kind with
  | .idxd => ∀ id, id ∈ i.ids ↔ P id
  | .part => ∀ id, P id → id ∈ i.ids
  | .thres => ∀ id, P id → id ∈ i.ids
  | .allIds => True

/-- An early `return` out of the `And` arm skips terms that could only shrink the set, so the
returned list has to approximate every subset of `P`. -/
def RetOk (P : Nat → Prop) (r : IdList) : Prop :=
  ∀ P' : Nat → Prop, (∀ id, P' id → P id) → Approx P' r

def StepOk (R : Nat → Prop) : Step → Prop
  | .ret r => RetOk R r
  | .cont c => Approx R c

theorem stepOk_congr {P Q : Nat → Prop} {s : Step} (h : ∀ id, P id ↔ Q id) (hs : StepOk P s) :
    StepOk Q s :=
  (funext fun id => propext (h id) : P = Q) ▸ hs

theorem approx_congr {P Q : Nat → Prop} {i : IdList} (h : ∀ id, P id ↔ Q id) (hp : Approx P i) :
    Approx Q i :=
  stepOk_congr (s := .cont i) h hp

theorem Approx.sup {P : Nat → Prop} {i : IdList} (h : Approx P i) (hk : i.kind ≠ .allIds) :
    ∀ id, P id → id ∈ i.ids := by
  obtain ⟨k, s, c⟩ := i
  cases k
  · exact absurd rfl hk
  · exact h
  · exact h
  · exact fun id => (h id).2

theorem retOk_mono {P Q : Nat → Prop} {r : IdList} (h : ∀ id, Q id → P id) (hp : RetOk P r) :
    RetOk Q r := fun P' hP' => hp P' (fun id hid => h id (hP' id hid))

theorem retOk_approx {P : Nat → Prop} {r : IdList} (hp : RetOk P r) : Approx P r :=
  hp P (fun _ h => h)

theorem retOk_empty {R : Nat → Prop} (h : ∀ id, ¬ R id) : RetOk R ⟨.idxd, [], false⟩ := by
  intro P' hP' id
  simp only [List.not_mem_nil, false_iff]
  exact fun hp => h id (hP' id hp)

theorem applyArm_ok (arm : Arm) (thres rem : Nat) (c i : IdList) (R : Nat → Prop)
    (hret : arm.thresRet = true ∨ arm.emptyRet = true → arm.out ≠ .allIds)
    (hout : Approx R ⟨arm.out, (arm.op.apply c i).1, (arm.op.apply c i).2⟩) :
    StepOk R (applyArm arm thres rem c i) := by
  fun_cases applyArm arm thres rem c i
  case case1 h =>  -- threshold return
    simp only [Bool.and_eq_true] at h
    exact fun P' hP' id hid => hout.sup (hret (Or.inl h.1.1)) id (hP' id hid)
  case case2 h =>  -- empty return
    simp only [Bool.and_eq_true] at h
    exact retOk_empty fun id hr => isEmpty_no_mem h.2 id (hout.sup (hret (Or.inr h.1)) id hr)
  case case3 => exact hout  -- continue

theorem andArm_ret (ck ik : Kind) :
    (andArm ck ik).thresRet = true ∨ (andArm ck ik).emptyRet = true → (andArm ck ik).out ≠ .allIds := by
  cases ck <;> cases ik <;> decide

theorem notArm_ret (ck ik : Kind) :
    (notArm ck ik).thresRet = true ∨ (notArm ck ik).emptyRet = true → (notArm ck ik).out ≠ .allIds := by
  cases ck <;> cases ik <;> decide

/- Arm by arm: ∩ and \ of exact sets are exact; a superset on either side leaves a superset. The conclusion is
`StepOk (fun id => P id ∧ Q id) (applyArm …)` unfolded. -/
theorem andArm_step {P Q : Nat → Prop} {c i : IdList} (thres rem : Nat)
    (hc : Approx P c) (hi : Approx Q i) :
    match applyArm (andArm c.kind i.kind) thres rem c i with
    | .ret r => RetOk (fun id => P id ∧ Q id) r
    | .cont c' => Approx (fun id => P id ∧ Q id) c' := by
  obtain ⟨ck, cs, cc⟩ := c
  obtain ⟨ik, is, ic⟩ := i
  apply applyArm_ok _ _ _ _ _ _ (andArm_ret ck ik)
  cases ck <;> cases ik <;> simp only [andArm, SetOp.apply, Approx, mem_interL] at hc hi ⊢ <;> grind

theorem notArm_step {P Q : Nat → Prop} {c i : IdList} (thres rem : Nat)
    (hc : Approx P c) (hi : Approx Q i) :
    match applyArm (notArm c.kind (notPre i).kind) thres rem c (notPre i) with
    | .ret r => RetOk (fun id => P id ∧ ¬ Q id) r
    | .cont c' => Approx (fun id => P id ∧ ¬ Q id) c' := by
  obtain ⟨ck, cs, cc⟩ := c
  obtain ⟨ik, is, ic⟩ := i
  apply applyArm_ok _ _ _ _ _ _ (notArm_ret ck _)
  cases ck <;> cases ik <;>
    simp only [notArm, notPre, notPreKind, SetOp.apply, Approx, mem_diffL] at hc hi ⊢ <;> grind

theorem firstCheck_ok {P : Nat → Prop} {c : IdList} (thres rem : Nat) (hc : Approx P c) :
    StepOk P (firstCheck thres rem c) := by
  fun_cases firstCheck thres rem c
  case case1 => exact hc  -- `AllIds`
  case case2 _ hk =>  -- threshold return
    exact fun P' hP' id hid => hc.sup (fun h => hk h) id (hP' id hid)
  case case3 _ h hk =>  -- empty return
    exact retOk_empty fun id hr => isEmpty_no_mem h id (hc.sup (fun h => hk h) id hr)
  case case4 => exact hc  -- continue

theorem andPosLoop_ok {α : Type} (Pp : α → Nat → Prop) (ip : α → IdList) (thres : Nat) :
    ∀ (ps : List α) (c : IdList) (rem : Nat) (P : Nat → Prop), Approx P c →
      (∀ x ∈ ps, Approx (Pp x) (ip x)) →
      StepOk (fun id => P id ∧ ∀ x ∈ ps, Pp x id) (andPosLoop thres c rem (ps.map ip)).1 := by
  intro ps
  induction ps with
  | nil =>
    intro c rem P hc _
    exact approx_congr (fun id => by simp) hc
  | cons x xs ih =>
    intro c rem P hc hall
    have hstep := andArm_step (P := P) (Q := Pp x) thres (rem - 1) hc (hall x List.mem_cons_self)
    simp only [List.map_cons, andPosLoop]
    cases hs : applyArm (andArm c.kind (ip x).kind) thres (rem - 1) c (ip x) with
    | ret r =>
      rw [hs] at hstep
      exact retOk_mono (fun id h => ⟨h.1, h.2 x List.mem_cons_self⟩) hstep
    | cont c' =>
      rw [hs] at hstep
      refine stepOk_congr (fun id => ?_) (ih c' (rem - 1) (fun id => P id ∧ Pp x id) hstep
        (fun y hy => hall y (List.mem_cons_of_mem _ hy)))
      simp only [List.mem_cons, forall_eq_or_imp, and_assoc]

theorem andNegLoop_ok {β : Type} (Pn : β → Nat → Prop) (inn : β → IdList) (thres : Nat) :
    ∀ (ns : List β) (c : IdList) (rem : Nat) (P : Nat → Prop), Approx P c →
      (∀ y ∈ ns, Approx (Pn y) (inn y)) →
      Approx (fun id => P id ∧ ∀ y ∈ ns, ¬ Pn y id) (andNegLoop thres c rem (ns.map inn)) := by
  intro ns
  induction ns with
  | nil =>
    intro c rem P hc _
    exact approx_congr (fun id => by simp) hc
  | cons y ys ih =>
    intro c rem P hc hall
    have hstep := notArm_step (P := P) (Q := Pn y) thres (rem - 1) hc (hall y List.mem_cons_self)
    simp only [List.map_cons, andNegLoop]
    cases hs : applyArm (notArm c.kind (notPre (inn y)).kind) thres (rem - 1) c (notPre (inn y)) with
    | ret r =>
      rw [hs] at hstep
      exact hstep _ (fun id h => ⟨h.1, h.2 y List.mem_cons_self⟩)
    | cont c' =>
      rw [hs] at hstep
      refine approx_congr (fun id => ?_) (ih c' (rem - 1) (fun id => P id ∧ ¬ Pn y id) hstep
        (fun z hz => hall z (List.mem_cons_of_mem _ hz)))
      simp only [List.mem_cons, forall_eq_or_imp, and_assoc]

theorem andCombine_approx {α β : Type} (Pp : α → Nat → Prop) (ip : α → IdList)
    (Pn : β → Nat → Prop) (inn : β → IdList) (thres : Nat) (pos : List α) (neg : List β)
    (hp : ∀ x ∈ pos, Approx (Pp x) (ip x)) (hn : ∀ y ∈ neg, Approx (Pn y) (inn y))
    (hne : pos ≠ []) :
    Approx (fun id => (∀ x ∈ pos, Pp x id) ∧ (∀ y ∈ neg, ¬ Pn y id))
      (andCombine thres (pos.map ip) (neg.map inn)) := by
  cases pos with
  | nil => exact absurd rfl hne
  | cons x xs =>
    simp only [List.map_cons, andCombine]
    generalize (ip x :: xs.map ip).length + (neg.map inn).length - 1 = rem
    have h1 := firstCheck_ok thres rem (hp x List.mem_cons_self)
    cases hf : firstCheck thres rem (ip x) with
    | ret r =>
      rw [hf] at h1
      exact h1 _ (fun id h => h.1 x List.mem_cons_self)
    | cont c =>
      rw [hf] at h1
      simp only
      have h2 := andPosLoop_ok Pp ip thres xs c rem (Pp x) h1
        (fun y hy => hp y (List.mem_cons_of_mem _ hy))
      cases hl : andPosLoop thres c rem (xs.map ip) with
      | mk st rem' =>
        rw [hl] at h2
        cases st with
        | ret r => exact h2 _ (fun id h => List.forall_mem_cons.mp h.1 : ∀ id, _ ∧ _ → _)
        | cont c' =>
          exact approx_congr (fun id => by rw [List.forall_mem_cons])
            (andNegLoop_ok Pn inn thres neg c' rem' _ h2 hn)

theorem orArm_some {k : Kind} {p t : Bool} (h : orArm k = some (p, t)) :
    k ≠ .allIds ∧ (p = false → k = .idxd) := by
  cases k <;> cases h <;> decide

/-- The hypothesis on the accumulator is `Approx A` of the list the loop would return now. -/
theorem orLoop_ok {α : Type} (Po : α → Nat → Prop) (io : α → IdList) :
    ∀ (l : List α) (acc : OrAcc) (A : Nat → Prop),
      (if acc.part then (∀ id, A id → id ∈ acc.result) else (∀ id, id ∈ acc.result ↔ A id)) →
      (∀ x ∈ l, Approx (Po x) (io x)) →
      Approx (fun id => A id ∨ ∃ x ∈ l, Po x id) (orLoop acc (l.map io)) := by
  intro l
  induction l with
  | nil =>
    intro ⟨r, c, p, t⟩ A hacc _
    refine approx_congr (P := A) (fun id => by simp) ?_
    simp only [List.map_nil, orLoop]
    cases p
    · exact hacc
    · cases t <;> exact hacc
  | cons x xs ih =>
    intro acc A hacc hall
    simp only [List.map_cons, orLoop]
    cases hk : orArm (io x).kind with
    | none => trivial
    | some pt =>
      have hx := hall x List.mem_cons_self
      have ⟨hne, hidx⟩ := orArm_some hk
      refine approx_congr (fun id => by simp only [List.mem_cons, exists_eq_or_imp, or_assoc])
        (ih _ (fun id => A id ∨ Po x id) ?_ (fun y hy => hall y (List.mem_cons_of_mem _ hy)))
      have hA : ∀ id, A id → id ∈ acc.result := by
        split at hacc
        · exact hacc
        · exact fun id => (hacc id).2
      split
      · exact fun id h => mem_unionL.mpr (h.imp (hA id) (hx.sup hne id))
      · rename_i hp
        simp only [Bool.or_eq_true, not_or, Bool.not_eq_true] at hp
        simp only [hp.1] at hacc
        simp only [Approx, hidx hp.2] at hx
        exact fun id => by rw [mem_unionL, hacc id, hx id]

theorem isInfix_iff (xs ys : List Nat) : isInfix xs ys = true ↔ xs <:+: ys := by
  induction ys with
  | nil => simp [isInfix, List.isEmpty_iff]
  | cons y ys ih =>
    simp only [isInfix, Bool.or_eq_true, ih, List.isPrefixOf_iff_prefix, List.infix_cons_iff]

theorem mem_windows {k : Nat} (hk : 1 ≤ k) {w : List Nat} :
    ∀ {l : List Nat}, w ∈ windows k l ↔ w.length = k ∧ w <:+: l
  | [] => by
    simp only [windows, List.not_mem_nil, false_iff, List.infix_nil]
    rintro ⟨hl, rfl⟩
    exact absurd hl (by simp only [List.length_nil]; omega)
  | x :: xs => by
    by_cases hlen : k ≤ (x :: xs).length
    · rw [windows, if_pos hlen, List.mem_cons, mem_windows hk, List.infix_cons_iff]
      constructor
      · rintro (rfl | ⟨hl, hin⟩)
        · exact ⟨by rw [List.length_take]; omega, Or.inl (List.take_prefix _ _)⟩
        · exact ⟨hl, Or.inr hin⟩
      · rintro ⟨hl, hpre | hin⟩
        · exact Or.inl (hl ▸ List.prefix_iff_eq_take.mp hpre)
        · exact Or.inr ⟨hl, hin⟩
    · rw [windows, if_neg hlen]
      simp only [List.not_mem_nil, false_iff]
      rintro ⟨hl, hin⟩
      exact hlen (hl ▸ hin.length_le)

theorem mem_trigraphs_infix {l m w : List Nat} (hlm : l <:+: m) (hw : w ∈ trigraphs l) :
    w ∈ trigraphs m := by
  have mono (k : Nat) (hk : 1 ≤ k) (h : w ∈ windows k l) : w ∈ windows k m :=
    (mem_windows hk).2 ⟨((mem_windows hk).1 h).1, ((mem_windows hk).1 h).2.trans hlm⟩
  simp only [trigraphs, List.mem_append] at hw ⊢
  exact hw.imp (Or.imp (mono 3 (by omega)) (mono 2 (by omega))) (mono 1 (by omega))

theorem trigraphs_ne_nil {l : List Nat} (h : l ≠ []) : trigraphs l ≠ [] := by
  cases l with
  | nil => exact absurd rfl h
  | cons x xs => simp [trigraphs, windows]

/-- How the per-value substring relations relate to index keys: whenever a stored value `x`
contains / starts with / ends with the needle `n`, every index key of the needle is among the
substring index keys of `x`. -/
def SubSem (S : ValSem) : Prop :=
  ∀ x n key, (S.sub x n = true ∨ S.stw x n = true ∨ S.enw x n = true) → subKey n = some key →
    ∀ w ∈ trigraphs key, w ∈ subKeysOf x

/-- The index tables that exist mirror the stored entries (C03's invariant, restricted to what
`filter2idl` reads). `uniform`: a table exists for all keys or for none. -/
structure IdxSound (w : World) (idx : Idx) : Prop where
  eq : ∀ a v s, idx a .equality v = some s →
    ∀ id, id ∈ s ↔ (id ∈ w.live ∧ (w.ent id a).contains v = true)
  pres : ∀ a s, idx a .presence presKey = some s →
    ∀ id, id ∈ s ↔ (id ∈ w.live ∧ (w.ent id a).isEmpty = false)
  sub : ∀ a k s, idx a .substring (.str k) = some s →
    ∀ id, id ∈ s ↔ (id ∈ w.live ∧ ∃ x ∈ w.ent id a, k ∈ subKeysOf x)
  uniform : ∀ a t k k', (idx a t k).isSome = (idx a t k').isSome

/-- `id` is a stored entry that satisfies `f` under ordinary boolean semantics. -/
def sem (S : ValSem) (w : World) (f : F) (id : Nat) : Prop :=
  id ∈ w.live ∧ f.matches S (w.ent id) = true

theorem subLoop_sup (get : List Nat → Option (List Nat × Bool)) (R : Nat → Prop) :
    ∀ (ks : List (List Nat)) (idl : List Nat × Bool), (∀ id, R id → id ∈ idl.1) →
      (∀ k ∈ ks, ∃ s, get k = some s ∧ ∀ id, R id → id ∈ s.1) →
      ∀ id, R id → id ∈ (subLoop get idl ks).1 := by
  intro ks
  induction ks with
  | nil => intro idl h _ id hr; simpa [subLoop] using h id hr
  | cons k ks ih =>
    intro idl h hall id hr
    obtain ⟨s, hs, hsup⟩ := hall k (List.mem_cons_self)
    simp only [subLoop, hs]
    have hin : ∀ id, R id → id ∈ interL s.1 idl.1 := fun id hr => mem_interL.mpr ⟨hsup id hr, h id hr⟩
    split
    · exact hin id hr
    · exact ih _ hin (fun k' hk' => hall k' (List.mem_cons_of_mem _ hk')) id hr

theorem idlSub_ok {w : World} {idx : Idx} (rep : Rep) (hI : IdxSound w idx) (a : Nat) (key : List Nat)
    (hne : key ≠ []) (R : Nat → Prop)
    (hR : ∀ id, R id → id ∈ w.live ∧ ∃ x ∈ w.ent id a, ∀ t ∈ trigraphs key, t ∈ subKeysOf x) :
    Approx R (idlSub idx rep a key) := by
  have hkey : ∀ k' ∈ trigraphs key, ∀ s, idx a .substring (.str k') = some s → ∀ id, R id → id ∈ s := by
    intro k' hk' s hs id hr
    obtain ⟨hl, x, hx, hall⟩ := hR id hr
    exact (hI.sub a k' s hs id).2 ⟨hl, x, hx, hall k' hk'⟩
  fun_cases idlSub idx rep a key
  case case1 ht => exact absurd ht (trigraphs_ne_nil hne)  -- no trigraph
  case case2 => trivial  -- table missing
  case case3 k ks ht idl h0 _ _ =>  -- long first list: the loop over the other trigraphs
    rw [ht] at hkey
    refine subLoop_sup _ R ks (idl, _) (hkey k List.mem_cons_self idl h0) fun k' hk' => ?_
    obtain ⟨s, hk2⟩ := Option.isSome_iff_exists.mp
      ((hI.uniform a .substring (.str k') (.str k)).trans (by rw [h0]; rfl))
    exact ⟨(s, rep a .substring (.str k')), by rw [hk2]; rfl, hkey k' (List.mem_cons_of_mem _ hk') s hk2⟩
  case case4 k ks ht idl h0 _ =>  -- short first list
    rw [ht] at hkey
    exact hkey k List.mem_cons_self idl h0

theorem needleOk_key {v : Val} {key : List Nat} (h : needleOk v = true) (hk : subKey v = some key) :
    key ≠ [] := by
  cases v with
  | num n => simp [subKey] at hk
  | str s =>
    cases s with
    | nil => simp [needleOk] at h
    | cons c cs => simp only [subKey, Option.some.injEq] at hk; subst hk; simp

theorem idlSubTerm_ok {S : ValSem} (hS : SubSem S) {w : World} {idx : Idx} (rep : Rep) (hI : IdxSound w idx)
    (a : Nat) (v : Val) (s : Option Nat) (hsafe : (s.isNone || needleOk v) = true)
    (rel : Val → Val → Bool)
    (hrel : ∀ x, rel x v = true → (S.sub x v = true ∨ S.stw x v = true ∨ S.enw x v = true)) :
    Approx (fun id => id ∈ w.live ∧ (w.ent id a).any (fun x => rel x v) = true)
      (idlSubTerm idx rep a v s) := by
  fun_cases idlSubTerm idx rep a v s
  case case1 key hk hs =>  -- marked indexed, needle has a key
    have hn : needleOk v = true := by
      cases s with
      | none => cases hs
      | some _ => exact hsafe
    refine idlSub_ok rep hI a key (needleOk_key hn hk) _ fun id ⟨hl, hany⟩ => ?_
    obtain ⟨x, hx, hr⟩ := List.any_eq_true.mp hany
    exact ⟨hl, x, hx, fun t ht => hS x v key (hrel x hr) hk t ht⟩
  case case2 => trivial  -- `AllIds`

theorem idlEq_ok {w : World} {idx : Idx} (rep : Rep) (hI : IdxSound w idx) (a : Nat) (v : Val) (s : Option Nat) :
    Approx (fun id => id ∈ w.live ∧ (w.ent id a).contains v = true) (idlEq idx rep a v s) := by
  fun_cases idlEq idx rep a v s
  · exact hI.eq a v _ ‹_›  -- table present
  · trivial  -- table missing
  · trivial  -- not marked indexed

theorem idlPres_ok {w : World} {idx : Idx} (rep : Rep) (hI : IdxSound w idx) (a : Nat) (s : Option Nat) :
    Approx (fun id => id ∈ w.live ∧ (!(w.ent id a).isEmpty) = true) (idlPres idx rep a s) := by
  fun_cases idlPres idx rep a s
  · exact fun id => by simp only [hI.pres a _ ‹_› id, Bool.not_eq_true']  -- table present
  · trivial  -- table missing
  · trivial  -- not marked indexed

theorem idlLt_ok {S : ValSem} {w : World} {idx : Idx} (rep : Rep) (hI : IdxSound w idx) (a : Nat) (v : Val)
    (s : Option Nat) :
    Approx (fun id => id ∈ w.live ∧ (w.ent id a).any (fun x => S.lt x v) = true)
      (idlLt idx rep a s) := by
  fun_cases idlLt idx rep a s
  · intro id ⟨hl, hany⟩  -- table present
    refine (hI.pres a _ ‹_› id).2 ⟨hl, ?_⟩
    cases hh : w.ent id a with
    | nil => rw [hh] at hany; cases hany
    | cons _ _ => rfl
  · trivial  -- table missing
  · trivial  -- not marked indexed

/-- the inner filter of an `AndNot` -/
def F.inner? : F → Option F
  | .andnot g _ => some g
  | _ => none

theorem isAndNot_eq (f : F) : f.isAndNot = f.inner?.isSome := by cases f <;> rfl

theorem matches_of_inner? {f g : F} (h : f.inner? = some g) (S : ValSem) (e : Entry) :
    f.matches S e = !g.matches S e := by
  cases f with
  | andnot g' s => cases h; exact F.matches_andnot S e _ s
  | _ => cases h

theorem idlPos_cons (idx : Idx) (rep : Rep) (thres : Nat) (f : F) (fs : List F) :
    F.idlPos idx rep thres (f :: fs) =
      if f.isAndNot then F.idlPos idx rep thres fs
      else f.idl idx rep thres :: F.idlPos idx rep thres fs := by
  cases f <;> rfl

theorem idlNeg_cons (idx : Idx) (rep : Rep) (thres : Nat) (f : F) (fs : List F) :
    F.idlNeg idx rep thres (f :: fs) =
      match f.inner? with
      | some g => g.idl idx rep thres :: F.idlNeg idx rep thres fs
      | none => F.idlNeg idx rep thres fs := by
  cases f <;> rfl

theorem safeAnd_cons (f : F) (fs : List F) :
    F.safeAnd (f :: fs) =
      ((match f.inner? with | some g => g.safe | none => f.safe) && F.safeAnd fs) := by
  cases f <;> rfl

theorem hasPos_cons (f : F) (fs : List F) : F.hasPos (f :: fs) = (!f.isAndNot || F.hasPos fs) := by
  cases f <;> rfl

theorem idlAll_eq (idx : Idx) (rep : Rep) (thres : Nat) (l : List F) :
    F.idlAll idx rep thres l = l.map (fun f => f.idl idx rep thres) := by
  induction l with
  | nil => rfl
  | cons f fs ih => rw [F.idlAll, ih, List.map_cons]

theorem idlPos_eq (idx : Idx) (rep : Rep) (thres : Nat) (l : List F) :
    F.idlPos idx rep thres l = (l.filter (fun f => !f.isAndNot)).map (fun f => f.idl idx rep thres) := by
  induction l with
  | nil => rfl
  | cons f fs ih =>
    rw [idlPos_cons, List.filter_cons, ih]
    cases f.isAndNot <;> rfl

theorem idlNeg_eq (idx : Idx) (rep : Rep) (thres : Nat) (l : List F) :
    F.idlNeg idx rep thres l = (l.filterMap F.inner?).map (fun f => f.idl idx rep thres) := by
  induction l with
  | nil => rfl
  | cons f fs ih =>
    rw [idlNeg_cons, List.filterMap_cons, ih]
    cases f.inner? <;> rfl

theorem safeAll_iff (l : List F) : F.safeAll l = true ↔ ∀ f ∈ l, f.safe = true := by
  induction l with
  | nil => simp [F.safeAll]
  | cons f fs ih => rw [F.safeAll, Bool.and_eq_true, ih, List.forall_mem_cons]

theorem safeAnd_iff (l : List F) : F.safeAnd l = true ↔
    ∀ f ∈ l, (f.isAndNot = false → f.safe = true) ∧ (∀ g, f.inner? = some g → g.safe = true) := by
  induction l with
  | nil => simp [F.safeAnd]
  | cons f fs ih =>
    rw [safeAnd_cons, Bool.and_eq_true, ih, List.forall_mem_cons, isAndNot_eq]
    cases f.inner? <;> simp

theorem hasPos_iff (l : List F) : F.hasPos l = true ↔ l.filter (fun f => !f.isAndNot) ≠ [] := by
  induction l with
  | nil => simp [F.hasPos]
  | cons f fs ih =>
    rw [hasPos_cons, List.filter_cons]
    cases f.isAndNot <;> simp [ih]

theorem safe_not_andnot {f : F} (h : f.safe = true) : f.isAndNot = false := by
  cases f with
  | andnot g s => cases h
  | _ => rfl

theorem sem_or {S : ValSem} {w : World} {l : List F} {s : Option Nat} {id : Nat} :
    sem S w (.or l s) id ↔ ∃ f ∈ l, sem S w f id := by
  simp only [sem, F.matches_or, List.any_eq_true]
  exact ⟨fun ⟨hl, f, hf, hm⟩ => ⟨f, hf, hl, hm⟩, fun ⟨f, hf, hl, hm⟩ => ⟨hl, f, hf, hm⟩⟩

/-- `hpos`: without a positive child nothing says that `id` is a stored entry. -/
theorem sem_and {S : ValSem} {w : World} {l : List F} {s : Option Nat} {id : Nat}
    (hpos : l.filter (fun f => !f.isAndNot) ≠ []) :
    sem S w (.and l s) id ↔
      (∀ f ∈ l.filter (fun f => !f.isAndNot), sem S w f id) ∧
        ∀ g ∈ l.filterMap F.inner?, ¬ sem S w g id := by
  simp only [sem, F.matches_and, List.all_eq_true, List.mem_filter, Bool.not_eq_true',
    List.mem_filterMap]
  constructor
  · rintro ⟨hl, hall⟩
    refine ⟨fun f hf => ⟨hl, hall f hf.1⟩, ?_⟩
    rintro g ⟨f, hf, hfg⟩ ⟨_, hm⟩
    have := hall f hf
    rw [matches_of_inner? hfg, hm] at this
    cases this
  · rintro ⟨hp, hn⟩
    obtain ⟨f0, hf0⟩ := List.exists_mem_of_ne_nil _ hpos
    simp only [List.mem_filter, Bool.not_eq_true'] at hf0
    have hlive := (hp f0 hf0).1
    refine ⟨hlive, fun f hf => ?_⟩
    cases hfi : f.inner? with
    | none => exact (hp f ⟨hf, by rw [isAndNot_eq, hfi]; rfl⟩).2
    | some g =>
      rw [matches_of_inner? hfi]
      cases hm : g.matches S (w.ent id) with
      | false => rfl
      | true => exact absurd ⟨hlive, hm⟩ (hn g ⟨f, hf, hfi⟩)

section
variable {S : ValSem} {w : World} {idx : Idx} {rep : Rep} {thres : Nat} {l : List F} {s : Option Nat}

theorem idlOr_ok (ih : ∀ f ∈ l, f.safe = true → Approx (sem S w f) (f.idl idx rep thres))
    (hsafe : (F.or l s).safe = true) : Approx (sem S w (.or l s)) ((F.or l s).idl idx rep thres) := by
  have := orLoop_ok (sem S w) (fun f => f.idl idx rep thres) l ⟨[], false, false, false⟩
    (fun _ => False) (by simp) (fun f hf => ih f hf ((safeAll_iff l).mp hsafe f hf))
  simp only [F.idl, idlAll_eq]
  exact approx_congr (fun id => by rw [sem_or, false_or]) this

theorem idlAnd_ok
    (ih : ∀ f ∈ l, (f.safe = true → Approx (sem S w f) (f.idl idx rep thres)) ∧
      ∀ g, f.inner? = some g → g.safe = true → Approx (sem S w g) (g.idl idx rep thres))
    (hsafe : (F.and l s).safe = true) : Approx (sem S w (.and l s)) ((F.and l s).idl idx rep thres) := by
  simp only [F.safe, Bool.and_eq_true] at hsafe
  have hpos := (hasPos_iff l).mp hsafe.1
  have hsa := (safeAnd_iff l).mp hsafe.2
  have := andCombine_approx (sem S w) (fun f => f.idl idx rep thres) (sem S w)
    (fun f => f.idl idx rep thres) thres (l.filter (fun f => !f.isAndNot)) (l.filterMap F.inner?)
    (fun f hf =>
      have hf := List.mem_filter.mp hf
      (ih f hf.1).1 ((hsa f hf.1).1 (Bool.not_eq_true' _ |>.mp hf.2)))
    (fun g hg =>
      have ⟨f, hf, hfg⟩ := List.mem_filterMap.mp hg
      (ih f hf).2 g hfg ((hsa f hf).2 g hfg))
    hpos
  simp only [F.idl, idlPos_eq, idlNeg_eq]
  exact approx_congr (fun id => (sem_and hpos).symm) this

end

/-- The second component carries the induction through `AndNot`: for such a child of an `And` it is
the inner filter whose id list the `And` arm computes. -/
theorem filter2idl_sound_aux (S : ValSem) (hS : SubSem S) (w : World) (idx : Idx) (rep : Rep)
    (hI : IdxSound w idx) (thres : Nat) :
    ∀ f : F, (f.safe = true → Approx (sem S w f) (f.idl idx rep thres)) ∧
      (∀ g, f.inner? = some g → g.safe = true → Approx (sem S w g) (g.idl idx rep thres)) := by
  intro f
  induction f using F.ind with
  | heq a v s => exact ⟨fun _ => idlEq_ok rep hI a v s, nofun⟩
  | hcnt a v s =>
    exact ⟨fun hsafe => idlSubTerm_ok hS rep hI a v s hsafe S.sub (fun x h => Or.inl h), nofun⟩
  | hstw a v s =>
    exact ⟨fun hsafe => idlSubTerm_ok hS rep hI a v s hsafe S.stw (fun x h => Or.inr (Or.inl h)), nofun⟩
  | henw a v s =>
    exact ⟨fun hsafe => idlSubTerm_ok hS rep hI a v s hsafe S.enw (fun x h => Or.inr (Or.inr h)), nofun⟩
  | hpres a s => exact ⟨fun _ => idlPres_ok rep hI a s, nofun⟩
  | hlt a v s => exact ⟨fun _ => idlLt_ok (S := S) rep hI a v s, nofun⟩
  | hor l s ih => exact ⟨idlOr_ok fun f hf => (ih f hf).1, nofun⟩
  | hand l s ih => exact ⟨idlAnd_ok ih, nofun⟩
  | hinv a => exact ⟨fun _ => retOk_approx (retOk_empty fun id h => Bool.false_ne_true h.2), nofun⟩
  | hinc l s ih => exact ⟨nofun, nofun⟩
  | hnot g s ih => exact ⟨nofun, fun g' h hs => by cases h; exact ih.1 hs⟩

end Kanidm.Filter

/-! ### tables that hold exactly the keys of the entries -/

namespace Kanidm.Index
open Kanidm.Filter

/-- the keys a value set is indexed under in a table of type `it` — the per-entry predicate of C01's `idxOf` -/
def hasKeyL (vs : List Val) (it : IType) (k : Val) : Prop :=
  match it with
  | .equality => k ∈ vs
  | .presence => k = presKey ∧ vs ≠ []
  | .substring => ∃ s, k = .str s ∧ ∃ x ∈ vs, s ∈ subKeysOf x
  | .ordering => False

theorem _root_.Kanidm.Filter.mem_idxOf (w : World) (cfg : Nat → IType → Bool) (a : Nat) (it : IType) (k : Val) (id : Nat) :
    (∃ l, idxOf w cfg a it k = some l ∧ id ∈ l) ↔
      (cfg a it = true ∧ id ∈ w.live ∧ hasKeyL (w.ent id a) it k) := by
  unfold idxOf
  by_cases hc : cfg a it = true
  · simp only [hc, if_true, Option.some.injEq, exists_eq_left', true_and]
    cases it <;> simp only [hasKeyL]
    · simp
    · cases k <;> simp
    · by_cases hk : k = presKey <;> simp [hk]
    · simp
  · simp [hc]

theorem _root_.Kanidm.Filter.idxOf_isSome (w : World) (cfg : Nat → IType → Bool) (a : Nat) (it : IType) (k : Val) :
    (idxOf w cfg a it k).isSome = cfg a it := by
  unfold idxOf
  cases h : cfg a it
  · rw [if_neg (by simp)]; rfl
  · rw [if_pos rfl]; rfl

/-- `IdxSound` is `hm` read at the three kinds of key `filter2idl` looks up. -/
theorem _root_.Kanidm.Filter.IdxSound.of_exact {w : World} {idx : Idx} (ex : Nat → IType → Bool)
    (hs : ∀ a it k, (idx a it k).isSome = ex a it)
    (hm : ∀ a it k id, (∃ l, idx a it k = some l ∧ id ∈ l) ↔
      (ex a it = true ∧ id ∈ w.live ∧ hasKeyL (w.ent id a) it k)) : IdxSound w idx := by
  have hm' : ∀ a it k l, idx a it k = some l → ∀ id, id ∈ l ↔ (id ∈ w.live ∧ hasKeyL (w.ent id a) it k) := by
    intro a it k l hl id
    have hex : ex a it = true := by rw [← hs a it k, hl]; rfl
    simpa only [hl, hex, Option.some.injEq, exists_eq_left', true_and] using hm a it k id
  exact {
    eq := fun a v l hl id => by rw [hm' a _ v l hl id]; simp [hasKeyL]
    pres := fun a l hl id => by rw [hm' a _ presKey l hl id]; simp [hasKeyL]
    sub := fun a k l hl id => by rw [hm' a _ _ l hl id]; simp [hasKeyL]
    uniform := fun a t k k' => (hs a t k).trans (hs a t k').symm }

end Kanidm.Index
