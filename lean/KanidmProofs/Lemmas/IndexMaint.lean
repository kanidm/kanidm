import KanidmModel.IndexMaint
import KanidmProofs.Lemmas.Filter
import KanidmProofs.Lemmas.FilterIdl
import KanidmProofs.Lemmas.Keyed
/-
C03 (index maintenance keeps every table equal to the rebuild from the entries): the predicates of its statements
(the keys of a value set, `hasKeyL`, are in `Lemmas/FilterIdl.lean`, beside C01's index hypothesis); `idx_diff` is
exact; one `entry_index` call keeps every table exact across the `Change` of the entry list it belongs to; the
`Change`s the operations make.
-/
namespace Kanidm.Index
open Kanidm.Filter

/-- `id` is in the id set stored under `(a, it, k)` -/
def memIdl (t : Tables) (a : Nat) (it : IType) (k : Val) (id : Nat) : Prop :=
  ∃ l, getIdl t a it k = some l ∧ id ∈ l

/-- the table `idx_<it>_<a>` exists -/
def tblExists (t : Tables) (a : Nat) (it : IType) : Prop := (aget t.idx (a, it)).isSome = true

def hasKey (e : Entry) (a : Nat) (it : IType) (k : Val) : Prop := hasKeyL (e a) it k

/-- the key is one of `oe`, the `pre` or `post` of `entry_index`; an absent entry has none -/
def hasKeyO (oe : Option SEnt) (a : Nat) (it : IType) (k : Val) : Prop :=
  ∃ e, oe = some e ∧ hasKey e.attrs a it k

/-- `generate_idx_eq_keys` returned no key twice (true of every set-backed value set) -/
def KeysNodup (e : SEnt) : Prop := ∀ a, (e.attrs a).Nodup

/-- `ents'` is `ents` with the entry of id `i` changed from `pre` to `post` (`none` = no such entry) -/
structure Change (ents ents' : List SEnt) (i : Nat) (pre post : Option SEnt) : Prop where
  hpre : ∀ e, (e ∈ ents ∧ e.id = i) ↔ pre = some e
  hpost : ∀ e, (e ∈ ents' ∧ e.id = i) ↔ post = some e
  hother : ∀ e, e.id ≠ i → (e ∈ ents ↔ e ∈ ents')

/-- table `(a, it)` holds exactly the keys of the stored entries -/
def Mirror (ents : List SEnt) (t : Tables) (a : Nat) (it : IType) : Prop :=
  ∀ k id, memIdl t a it k id ↔ ∃ e ∈ ents, e.id = id ∧ hasKey e.attrs a it k

section
variable {κ ν : Type} [DecidableEq κ]

/-- the table holds exactly the pairs the entries that are neither recycled nor tombstones produce -/
def KVInv (kv : SEnt → List (κ × ν)) (ents : List SEnt) (m : List (κ × ν)) : Prop :=
  ∀ k v, aget m k = some v ↔ ∃ e ∈ ents, masked e = false ∧ (k, v) ∈ kv e

/-- no two such entries produce the same key, and one entry produces a key once -/
def KVUniq (kv : SEnt → List (κ × ν)) (ents : List SEnt) : Prop :=
  ∀ e1 ∈ ents, ∀ e2 ∈ ents, masked e1 = false → masked e2 = false →
    ∀ k v1 v2, (k, v1) ∈ kv e1 → (k, v2) ∈ kv e2 → e1.id = e2.id ∧ v1 = v2

def kvO (kv : SEnt → List (κ × ν)) (oe : Option SEnt) : List (κ × ν) :=
  match oe with
  | none => []
  | some e => kv e

end

/-- the pairs of a name table: every key of the entry's key list, under the entry's one value -/
def keyed {κ ν : Type} (keys : SEnt → List κ) (val : SEnt → ν) (e : SEnt) : List (κ × ν) :=
  (keys e).map fun k => (k, val e)

def kvN2U (e : SEnt) : List (List Nat × Nat) := (cands e).map (fun n => (n, e.uuid))
def kvE2U (e : SEnt) : List (List Nat × Nat) := (extId e).toList.map (fun n => (n, e.uuid))
def kvU2S (e : SEnt) : List (Nat × NameV) := [(e.uuid, spnOf e)]
def kvU2R (e : SEnt) : List (Nat × NameV) := [(e.uuid, rdnOf e)]

-- The four are `keyed cands (·.uuid)`, `keyed (fun e => (extId e).toList) (·.uuid)`, `keyed (fun e => [e.uuid]) spnOf`
-- and `… rdnOf` by `rfl`; the lemmas about them are those about `keyed`.

structure NInv (ents : List SEnt) (t : Tables) : Prop where
  n2u : KVInv kvN2U ents t.n2u
  e2u : KVInv kvE2U ents t.e2u
  u2s : KVInv kvU2S ents t.u2s
  u2r : KVInv kvU2R ents t.u2r

/-- what the name tables need of the stored entries: `WFn` (C03.lean) read id by id -/
structure NUniq (ents : List SEnt) : Prop where
  uuids : ∀ e1 ∈ ents, ∀ e2 ∈ ents, masked e1 = false → masked e2 = false → e1.uuid = e2.uuid → e1.id = e2.id
  names : ∀ e1 ∈ ents, ∀ e2 ∈ ents, masked e1 = false → masked e2 = false →
    ∀ n, n ∈ cands e1 → n ∈ cands e2 → e1.id = e2.id ∧ e1.uuid = e2.uuid
  ext : ∀ e1 ∈ ents, ∀ e2 ∈ ents, masked e1 = false → masked e2 = false →
    ∀ n, extId e1 = some n → extId e2 = some n → e1.id = e2.id ∧ e1.uuid = e2.uuid
  same : ∀ e1 ∈ ents, ∀ e2 ∈ ents, e1.id = e2.id → e1 = e2

/-- the table part of the invariant: every existing index table that is not stale is configured
and exact; the four name tables are exact -/
structure TInv (stale : Nat → IType → Prop) (idxmeta : List (Nat × IType)) (ents : List SEnt) (t : Tables) :
    Prop where
  idx : ∀ a it, tblExists t a it → ¬ stale a it → (a, it) ∈ idxmeta ∧ Mirror ents t a it
  names : NInv ents t

section AMap
variable {κ ν : Type} [DecidableEq κ]

theorem aget_eq_find? (m : List (κ × ν)) (k : κ) : aget m k = (m.find? fun p => p.1 = k).map (·.2) := by
  induction m with
  | nil => rfl
  | cons p r ih => rw [aget, List.find?_cons]; by_cases h : p.1 = k <;> simp [h, ih]

theorem aget_adel (m : List (κ × ν)) (k k' : κ) :
    aget (adel m k) k' = if k' = k then none else aget m k' := by
  rw [aget_eq_find?, aget_eq_find?, adel, List.find?_filter]
  by_cases h : k' = k
  · rw [if_pos h, List.find?_eq_none.2 fun p _ => by simp [h], Option.map_none]
  · rw [if_neg h]
    exact congrArg (Option.map _) (congrArg (List.find? · m) (funext fun p => by by_cases hp : p.1 = k' <;> simp [hp, h]))

theorem aget_aset (m : List (κ × ν)) (k : κ) (v : ν) (k' : κ) :
    aget (aset m k v) k' = if k' = k then some v else aget m k' := by
  simp only [aset, aget, aget_adel]
  by_cases h : k = k'
  · subst h; simp
  · have : ¬ k' = k := fun e => h e.symm
    simp [h, this]

theorem aget_isSome_iff (m : List (κ × ν)) (k : κ) : (aget m k).isSome = true ↔ k ∈ m.map (·.1) := by
  rw [aget_eq_find?, Option.isSome_map, List.find?_isSome, List.mem_map]
  exact ⟨fun ⟨p, hp, hk⟩ => ⟨p, hp, of_decide_eq_true hk⟩, fun ⟨p, hp, hk⟩ => ⟨p, hp, decide_eq_true hk⟩⟩

theorem aget_none_of_not_mem (m : List (κ × ν)) (k : κ) (h : k ∉ m.map (·.1)) : aget m k = none :=
  Option.not_isSome_iff_eq_none.1 fun hs => h ((aget_isSome_iff m k).1 hs)

/-- however membership in `l` is decided: at `κ := List Nat` the instance in sight is not the one `DecidableEq κ` gives -/
theorem aget_foldl {g : List (κ × ν) → κ → List (κ × ν)} {c : Option ν}
    (hg : ∀ m n k, aget (g m n) k = if k = n then c else aget m k) (l : List κ) (m : List (κ × ν)) (k : κ)
    [Decidable (k ∈ l)] : aget (l.foldl g m) k = if k ∈ l then c else aget m k := by
  have h : ∀ (l : List κ) m, aget (l.foldl g m) k = if k ∈ l then c else aget m k := by
    intro l
    induction l with
    | nil => simp
    | cons y ys ih =>
      intro m
      rw [List.foldl_cons, ih, hg]
      by_cases h1 : k ∈ ys <;> by_cases h2 : k = y <;> simp [h1, h2]
  exact (h l m).trans (by congr)
end AMap

theorem getIdl_isSome (t : Tables) (a : Nat) (it : IType) (k : Val) :
    (getIdl t a it k).isSome = (aget t.idx (a, it)).isSome := by
  simp [getIdl]

theorem memIdl_exists {t : Tables} {a : Nat} {it : IType} {k : Val} {id : Nat}
    (h : memIdl t a it k id) : tblExists t a it := by
  obtain ⟨l, hl, _⟩ := h
  have := getIdl_isSome t a it k
  rw [hl] at this
  simpa [tblExists] using this.symm

theorem getIdl_writeIdl (t : Tables) (a : Nat) (it : IType) (k : Val) (ids : List Nat)
    (a' : Nat) (it' : IType) (k' : Val) :
    getIdl (writeIdl t a it k ids) a' it' k' =
      if (a', it') = (a, it) ∧ k' = k ∧ (aget t.idx (a, it)).isSome then some ids
      else getIdl t a' it' k' := by
  unfold writeIdl
  cases hr : aget t.idx (a, it) with
  | none => simp
  | some rows =>
    simp only [getIdl, aget_aset, Option.isSome_some, and_true]
    by_cases h1 : (a', it') = (a, it)
    · simp only [h1, if_true, Option.map_some, true_and]
      by_cases h2 : k' = k
      · simp [h2, aget_aset]
      · simp [h2, hr, aget_aset]
    · simp [h1]

theorem mem_insertId {id x : Nat} {l : List Nat} : x ∈ insertId id l ↔ x = id ∨ x ∈ l :=
  List.mem_insert_iff (l := l)

theorem mem_removeId {id x : Nat} {l : List Nat} : x ∈ removeId id l ↔ x ≠ id ∧ x ∈ l := by
  simp [removeId, and_comm]

theorem applyAct_exists (id : Nat) (t : Tables) (act : Act) (a : Nat) (it : IType) :
    tblExists (applyAct id t act) a it ↔ tblExists t a it := by
  unfold applyAct
  cases hg : getIdl t act.a act.it act.k with
  | none => simp
  | some idl =>
    simp only
    unfold tblExists writeIdl
    cases hr : aget t.idx (act.a, act.it) with
    | none => simp
    | some rows =>
      simp only [aget_aset]
      by_cases h : (a, it) = (act.a, act.it)
      · simp [h, hr]
      · simp [h]

theorem mem_newIdl (add : Bool) (id x : Nat) (l : List Nat) :
    x ∈ (if add then insertId id l else removeId id l) ↔ if x = id then add = true else x ∈ l := by
  by_cases hx : x = id <;> cases add <;> simp [mem_insertId, mem_removeId, hx]

theorem applyAct_mem (id : Nat) (t : Tables) (act : Act) (a : Nat) (it : IType) (k : Val) (x : Nat) :
    memIdl (applyAct id t act) a it k x ↔
      if (act.a, act.it, act.k) = (a, it, k) ∧ x = id then (act.add = true ∧ tblExists t a it)
      else memIdl t a it k x := by
  have hsome := getIdl_isSome t act.a act.it act.k
  unfold applyAct
  cases hg : getIdl t act.a act.it act.k with
  | none =>
    rw [hg] at hsome
    have hne : ¬ tblExists t act.a act.it := fun h => by rw [tblExists, ← hsome] at h; cases h
    by_cases h : (act.a, act.it, act.k) = (a, it, k) ∧ x = id
    · rw [if_pos h]
      cases h.1
      exact iff_of_false (fun hm => hne (memIdl_exists hm)) (fun he => hne he.2)
    · rw [if_neg h]
  | some idl =>
    rw [hg] at hsome
    have hex : tblExists t act.a act.it := hsome.symm
    simp only [memIdl, getIdl_writeIdl, show (aget t.idx (act.a, act.it)).isSome = true from hex, and_true]
    by_cases hk : (a, it) = (act.a, act.it) ∧ k = act.k
    · obtain ⟨h1, rfl⟩ := hk
      cases h1
      simp only [and_self, if_true, Option.some.injEq, exists_eq_left', true_and, mem_newIdl, hg]
      by_cases hx : x = id
      · simp only [hx, if_true, hex, and_true]
      · simp only [hx, if_false]
    · have h1 : ¬ ((act.a, act.it, act.k) = (a, it, k) ∧ x = id) := fun h => by
        cases h.1
        exact hk ⟨rfl, rfl⟩
      rw [if_neg h1, if_neg hk]

theorem applyActs_cons (id : Nat) (x : Act) (xs : List Act) (t : Tables) :
    applyActs id (x :: xs) t = applyActs id xs (applyAct id t x) := rfl

theorem applyActs_exists (id : Nat) (acts : List Act) (t : Tables) (a : Nat) (it : IType) :
    tblExists (applyActs id acts t) a it ↔ tblExists t a it := by
  induction acts generalizing t with
  | nil => rfl
  | cons x xs ih => rw [applyActs_cons, ih, applyAct_exists]

theorem applyActs_mem_other (id : Nat) (acts : List Act) (t : Tables) (a : Nat) (it : IType) (k : Val)
    (x : Nat) (hx : x ≠ id) : memIdl (applyActs id acts t) a it k x ↔ memIdl t a it k x := by
  induction acts generalizing t with
  | nil => rfl
  | cons y ys ih =>
    rw [applyActs_cons, ih, applyAct_mem, if_neg (fun h => hx h.2)]

theorem applyActs_mem_self (id : Nat) (acts : List Act) (t : Tables) (a : Nat) (it : IType) (k : Val)
    (hclash : ¬ ((⟨true, a, it, k⟩ : Act) ∈ acts ∧ (⟨false, a, it, k⟩ : Act) ∈ acts))
    (hex : tblExists t a it) :
    memIdl (applyActs id acts t) a it k id ↔
      ((⟨true, a, it, k⟩ : Act) ∈ acts ∨ ((⟨false, a, it, k⟩ : Act) ∉ acts ∧ memIdl t a it k id)) := by
  induction acts generalizing t with
  | nil => simp [applyActs]
  | cons x xs ih =>
    have hclash' : ¬ ((⟨true, a, it, k⟩ : Act) ∈ xs ∧ (⟨false, a, it, k⟩ : Act) ∈ xs) :=
      fun h => hclash ⟨List.mem_cons_of_mem _ h.1, List.mem_cons_of_mem _ h.2⟩
    rw [applyActs_cons, ih _ hclash' ((applyAct_exists id t x a it).2 hex), applyAct_mem]
    obtain ⟨b, a', it', k'⟩ := x
    by_cases hk : (a', it', k') = (a, it, k)
    · cases hk
      cases b with
      | true =>
        have hnr : (⟨false, a, it, k⟩ : Act) ∉ xs := fun h => hclash ⟨List.mem_cons_self, List.mem_cons_of_mem _ h⟩
        simp [hnr, hex]
      | false =>
        have hna : (⟨true, a, it, k⟩ : Act) ∉ xs := fun h => hclash ⟨List.mem_cons_of_mem _ h, List.mem_cons_self⟩
        simp [hna]
    · have hne : ∀ b', (⟨b, a', it', k'⟩ : Act) ≠ ⟨b', a, it, k⟩ := fun b' h => hk (by cases h; rfl)
      simp [hk, (hne true).symm, (hne false).symm]

def keyLt (a b : Val) : Prop := Val.cmp a b = .lt

theorem keyLt_irrefl (a : Val) : ¬ keyLt a a := fun h =>
  nomatch h.symm.trans (Std.ReflCmp.compare_self (cmp := Val.cmp))

theorem keyLe_iff {a b : Val} : keyLe a b = true ↔ (Val.cmp a b).isLE := by
  simp [keyLe, Ordering.ne_gt_iff_isLE]

theorem keyLe_trans (a b c : Val) (h1 : keyLe a b = true) (h2 : keyLe b c = true) : keyLe a c = true :=
  keyLe_iff.2 (Std.TransCmp.isLE_trans (keyLe_iff.1 h1) (keyLe_iff.1 h2))

theorem keyLe_total (a b : Val) : (keyLe a b || keyLe b a) = true := by
  simp only [keyLe, Std.OrientedCmp.eq_swap (cmp := Val.cmp) (a := b)]
  cases Val.cmp a b <;> rfl

theorem keyLt_of_le_ne {a b : Val} (h : keyLe a b = true) (hne : a ≠ b) : keyLt a b := by
  unfold keyLt
  cases hc : Val.cmp a b with
  | lt => rfl
  | eq => exact absurd (Std.LawfulEqCmp.eq_of_compare hc) hne
  | gt => rw [keyLe_iff, hc] at h; cases h

theorem not_mem_of_lt_head {a b : Val} {bs : List Val} (h : keyLt a b)
    (hs : (b :: bs).Pairwise keyLt) : a ∉ b :: bs := by
  intro hm
  rcases List.mem_cons.1 hm with rfl | hm
  · exact keyLt_irrefl _ h
  · exact keyLt_irrefl _ (Std.TransCmp.lt_trans h ((List.pairwise_cons.1 hs).1 a hm))

theorem mergeArm_removePre_iff (a b : Val) : mergeArm (Val.cmp a b) = .removePre ↔ keyLt a b := by
  unfold keyLt
  cases Val.cmp a b <;> simp [mergeArm]

theorem mergeArm_skipBoth_iff (a b : Val) : mergeArm (Val.cmp a b) = .skipBoth ↔ Val.cmp a b = .eq := by
  cases Val.cmp a b <;> simp [mergeArm]

theorem mergeArm_addPost_iff (a b : Val) : mergeArm (Val.cmp a b) = .addPost ↔ Val.cmp a b = .gt := by
  cases Val.cmp a b <;> simp [mergeArm]

theorem mergeLoop_spec (xs ys : List Val) (hx : xs.Pairwise keyLt) (hy : ys.Pairwise keyLt) (k : Val) :
    (k ∈ (mergeLoop xs ys).1 ↔ (k ∈ xs ∧ k ∉ ys)) ∧ (k ∈ (mergeLoop xs ys).2 ↔ (k ∈ ys ∧ k ∉ xs)) := by
  fun_induction mergeLoop xs ys with
  | case1 => simp  -- both exhausted
  -- `post` exhausted: the generated `mergeTailPreRemoves` is `true` (case3 is its other value)
  | case2 a as r _ ih => simp [r, ih (List.pairwise_cons.1 hx).2 hy]
  | case3 a as r h => exact absurd rfl h
  -- `pre` exhausted: `mergeTailPostAdds` is `true`
  | case4 b bs r _ ih => simp [r, ih hx (List.pairwise_cons.1 hy).2]
  | case5 b bs r h => exact absurd rfl h
  | case6 a as b bs hc r ih =>
    -- `removePre`: `a` is below everything left in `post`
    have ih := ih (List.pairwise_cons.1 hx).2 hy
    have ha : ¬ (a = b ∨ a ∈ bs) := fun h => not_mem_of_lt_head ((mergeArm_removePre_iff a b).1 hc) hy (List.mem_cons.2 h)
    simp only [r, List.mem_cons, ih]
    by_cases hk : k = a
    · subst hk; simp [ha]
    · simp [hk]
  | case7 a as b bs hc ih =>
    -- `skipBoth`
    have ih := ih (List.pairwise_cons.1 hx).2 (List.pairwise_cons.1 hy).2
    obtain rfl : a = b := Std.LawfulEqCmp.eq_of_compare ((mergeArm_skipBoth_iff a b).1 hc)
    have ha1 : a ∉ as := fun hm => keyLt_irrefl _ ((List.pairwise_cons.1 hx).1 a hm)
    have ha2 : a ∉ bs := fun hm => keyLt_irrefl _ ((List.pairwise_cons.1 hy).1 a hm)
    simp only [List.mem_cons, ih]
    by_cases hk : k = a
    · subst hk; simp [ha1, ha2]
    · simp [hk]
  | case8 a as b bs hc r ih =>
    -- `addPost`: `b` is below everything left in `pre`
    have ih := ih hx (List.pairwise_cons.1 hy).2
    have hb : ¬ (b = a ∨ b ∈ as) := fun h => not_mem_of_lt_head (Std.OrientedCmp.lt_of_gt ((mergeArm_addPost_iff a b).1 hc)) hx (List.mem_cons.2 h)
    simp only [r, List.mem_cons, ih]
    by_cases hk : k = b
    · subst hk; simp [hb]
    · simp [hk]

theorem mem_sortKeys {k : Val} {l : List Val} : k ∈ sortKeys l ↔ k ∈ l := List.mem_mergeSort

theorem sortKeys_sorted (l : List Val) : (sortKeys l).Pairwise (fun a b => keyLe a b = true) :=
  List.pairwise_mergeSort keyLe_trans keyLe_total l

theorem sortKeys_strict {l : List Val} (h : l.Nodup) : (sortKeys l).Pairwise keyLt := by
  have hn : (sortKeys l).Nodup := ((List.mergeSort_perm l keyLe).nodup_iff).2 h
  exact ((sortKeys_sorted l).and hn).imp (fun ⟨h1, h2⟩ => keyLt_of_le_ne h1 h2)

theorem mem_dedupAdj (k : Val) (l : List Val) : k ∈ dedupAdj l ↔ k ∈ l := by
  fun_induction dedupAdj l with
  | case1 => exact Iff.rfl  -- `[]`
  | case2 => exact Iff.rfl  -- `[a]`
  | case3 a r ih => simp [ih]  -- `a = b`: `a` dropped
  | case4 a b r h ih => simp [ih]  -- `a ≠ b`: `a` kept

theorem dedupAdj_strict (l : List Val) (h : l.Pairwise (fun a b => keyLe a b = true)) :
    (dedupAdj l).Pairwise keyLt := by
  fun_induction dedupAdj l with
  | case1 => exact List.Pairwise.nil  -- `[]`
  | case2 a => exact List.pairwise_singleton _ _  -- `[a]`
  | case3 a r ih => exact ih (List.pairwise_cons.1 h).2  -- `a = b`: `a` dropped
  | case4 a b r hab ih =>  -- `a ≠ b`: `a` kept
    obtain ⟨ha, hr⟩ := List.pairwise_cons.1 h
    refine List.pairwise_cons.2 ⟨fun x hx => ?_, ih hr⟩
    have hlt : keyLt a b := keyLt_of_le_ne (ha b (by simp)) hab
    rcases List.mem_cons.1 ((mem_dedupAdj x (b :: r)).1 hx) with rfl | hxr
    · exact hlt
    · exact Std.TransCmp.lt_of_lt_of_isLE hlt (keyLe_iff.1 ((List.pairwise_cons.1 hr).1 x hxr))

theorem keyLt_nodup {l : List Val} (h : l.Pairwise keyLt) : l.Nodup :=
  h.imp fun {a b} hlt (heq : a = b) => keyLt_irrefl _ (heq ▸ hlt)

theorem mem_subKeys {k : Val} {vs : List Val} :
    k ∈ subKeys vs ↔ ∃ s, k = .str s ∧ ∃ x ∈ vs, s ∈ subKeysOf x := by
  simp only [subKeys, mem_dedupAdj, mem_sortKeys, List.mem_map, List.mem_flatMap]
  constructor
  · rintro ⟨s, ⟨x, hx, hs⟩, rfl⟩; exact ⟨s, rfl, x, hx, hs⟩
  · rintro ⟨s, rfl, x, hx, hs⟩; exact ⟨s, ⟨x, hx, hs⟩, rfl⟩

/-- `generate_idx_sub_keys` never repeats a key -/
theorem sub_keys_nodup (vs : List Val) : (subKeys vs).Nodup :=
  keyLt_nodup (dedupAdj_strict _ (sortKeys_sorted _))

theorem hasKeyL_nil (it : IType) (k : Val) : ¬ hasKeyL [] it k := by
  cases it <;> simp [hasKeyL]

theorem hasKeyO_none (a : Nat) (it : IType) (k : Val) : ¬ hasKeyO none a it k := by simp [hasKeyO]

theorem hasKeyO_some (e : SEnt) (a : Nat) (it : IType) (k : Val) :
    hasKeyO (some e) a it k ↔ hasKeyL (e.attrs a) it k := by simp [hasKeyO, hasKey]

/-- the generator every "all keys of this value set" arm must use -/
def allSrc : IType → KeySrc
  | .equality => .eq
  | .presence => .underscore
  | .substring => .sub
  | .ordering => .ord

theorem arms_all (it : IType) :
    armEntryRemoved it = (false, allSrc it) ∧ armEntryAdded it = (true, allSrc it) ∧
      armAttrRemoved it = (false, allSrc it) ∧ armAttrAdded it = (true, allSrc it) := by
  cases it <;> exact ⟨rfl, rfl, rfl, rfl⟩

theorem mem_keysOf_all {vs : List Val} (hvs : vs ≠ []) (it : IType) (k : Val) :
    k ∈ keysOf (allSrc it) vs ↔ hasKeyL vs it k := by
  cases it <;> simp only [allSrc, keysOf, hasKeyL]
  · exact mem_subKeys
  · simp [hvs]
  · simp

theorem mem_map_act {b : Bool} {a : Nat} {it : IType} {l : List Val} {x : Act} :
    x ∈ l.map (fun k => (⟨b, a, it, k⟩ : Act)) ↔ x.add = b ∧ x.a = a ∧ x.it = it ∧ x.k ∈ l := by
  cases x
  simp only [List.mem_map, Act.mk.injEq]
  constructor
  · rintro ⟨k, hk, rfl, rfl, rfl, rfl⟩; exact ⟨rfl, rfl, rfl, hk⟩
  · rintro ⟨rfl, rfl, rfl, hk⟩; exact ⟨_, hk, rfl, rfl, rfl, rfl⟩

theorem mem_signed {b : Bool} {a : Nat} {it : IType} {vs : List Val} (x : Act) :
    x ∈ signed (b, allSrc it) a it vs ↔ x.add = b ∧ x.a = a ∧ x.it = it ∧ hasKeyL vs it x.k := by
  unfold signed
  by_cases hvs : vs = []
  · simp [hvs, hasKeyL_nil]
  · rw [if_neg (by simpa using hvs), mem_map_act, mem_keysOf_all hvs]

theorem signed_of_isEmpty (arm : Bool × KeySrc) (a : Nat) (it : IType) (vs : List Val) :
    (if vs.isEmpty then [] else signed arm a it vs) = signed arm a it vs := by
  unfold signed; split <;> simp [*]

theorem bothKeys_strict {vs : List Val} (hn : vs.Nodup) (it : IType) :
    (sortKeys (keysOf (armBothSrc it) vs)).Pairwise keyLt := by
  apply sortKeys_strict
  cases it
  · exact hn
  · exact sub_keys_nodup vs
  · exact List.nodup_nil
  · exact List.nodup_nil

/-- for presence both sets have the one key and nothing is emitted -/
theorem mem_bothKeys {vs : List Val} (it : IType) (hit : it ≠ .presence) (k : Val) :
    k ∈ sortKeys (keysOf (armBothSrc it) vs) ↔ hasKeyL vs it k := by
  rw [mem_sortKeys]
  cases it <;> simp only [armBothSrc, keysOf, hasKeyL]
  · exact mem_subKeys
  · exact absurd rfl hit
  · simp

theorem mem_signed_lost (a : Nat) (it : IType) (pv : List Val) (x : Act) :
    x ∈ signed (false, allSrc it) a it pv ↔ x.a = a ∧ x.it = it ∧
      (if x.add then hasKeyL [] it x.k ∧ ¬ hasKeyL pv it x.k else hasKeyL pv it x.k ∧ ¬ hasKeyL [] it x.k) := by
  rw [mem_signed]
  cases x.add <;> simp [hasKeyL_nil]

theorem mem_signed_gained (a : Nat) (it : IType) (qv : List Val) (x : Act) :
    x ∈ signed (true, allSrc it) a it qv ↔ x.a = a ∧ x.it = it ∧
      (if x.add then hasKeyL qv it x.k ∧ ¬ hasKeyL [] it x.k else hasKeyL [] it x.k ∧ ¬ hasKeyL qv it x.k) := by
  rw [mem_signed]
  cases x.add <;> simp [hasKeyL_nil]

theorem mem_bothArm {pv qv : List Val} (hp : pv ≠ []) (hq : qv ≠ []) (hpn : pv.Nodup) (hqn : qv.Nodup)
    (a : Nat) (it : IType) (x : Act) :
    x ∈ (let r := mergeLoop (sortKeys (keysOf (armBothSrc it) pv)) (sortKeys (keysOf (armBothSrc it) qv))
        if armBothEmits it then
          r.1.map (fun k => (⟨false, a, it, k⟩ : Act)) ++ r.2.map (fun k => ⟨true, a, it, k⟩)
        else []) ↔
      x.a = a ∧ x.it = it ∧
        (if x.add then hasKeyL qv it x.k ∧ ¬ hasKeyL pv it x.k else hasKeyL pv it x.k ∧ ¬ hasKeyL qv it x.k) := by
  by_cases hit : it = .presence
  · subst hit
    cases x.add <;> simp [armBothEmits, hasKeyL, hp, hq]
  · have hem : armBothEmits it = true := by cases it <;> first | rfl | exact absurd rfl hit
    have hm := mergeLoop_spec _ _ (bothKeys_strict hpn it) (bothKeys_strict hqn it) x.k
    simp only [mem_bothKeys it hit] at hm
    simp only [hem, if_true, List.mem_append, mem_map_act, hm]
    cases x.add <;> simp

theorem mem_diffKey (pre post : Option SEnt) (a : Nat) (it : IType) (x : Act)
    (hpre : ∀ e, pre = some e → KeysNodup e) (hpost : ∀ e, post = some e → KeysNodup e) :
    x ∈ diffKey pre post a it ↔
      x.a = a ∧ x.it = it ∧
        (if x.add then hasKeyO post a it x.k ∧ ¬ hasKeyO pre a it x.k
         else hasKeyO pre a it x.k ∧ ¬ hasKeyO post a it x.k) := by
  obtain ⟨hER, hEA, hAR, hAA⟩ := arms_all it
  unfold diffKey
  cases pre with
  | none =>
    cases post with
    | none => cases x.add <;> simp [hasKeyO_none]
    | some q => simpa only [hEA, hasKeyO_some, hasKeyO_none, hasKeyL_nil] using mem_signed_gained a it (q.attrs a) x
  | some p =>
    cases post with
    | none => simpa only [hER, hasKeyO_some, hasKeyO_none, hasKeyL_nil] using mem_signed_lost a it (p.attrs a) x
    | some q =>
      simp only [signed_of_isEmpty]
      simp only [hasKeyO_some, hAR, hAA, List.isEmpty_iff]
      by_cases hp : p.attrs a = []
      · rw [if_pos hp, hp]; exact mem_signed_gained a it _ x
      · rw [if_neg hp]
        by_cases hq : q.attrs a = []
        · rw [if_pos hq, hq]; exact mem_signed_lost a it _ x
        · rw [if_neg hq]; exact mem_bothArm hp hq (hpre p rfl a) (hpost q rfl a) a it x

/-- `Entry::idx_diff` emits `add (a, it, k)` exactly for the configured keys the new entry produces and the
old one does not, and `remove` exactly for the converse — in every one of its nine arms -/
theorem idx_diff_exact (idxmeta : List (Nat × IType)) (pre post : Option SEnt) (x : Act)
    (hpre : ∀ e, pre = some e → KeysNodup e) (hpost : ∀ e, post = some e → KeysNodup e) :
    x ∈ idxDiff idxmeta pre post ↔
      (x.a, x.it) ∈ idxmeta ∧
        (if x.add then hasKeyO post x.a x.it x.k ∧ ¬ hasKeyO pre x.a x.it x.k
         else hasKeyO pre x.a x.it x.k ∧ ¬ hasKeyO post x.a x.it x.k) := by
  simp only [idxDiff, List.mem_flatMap, mem_diffKey pre post _ _ x hpre hpost]
  constructor
  · rintro ⟨⟨a, it⟩, hm, h1, h2, h3⟩
    simp only at h1 h2 h3
    subst h1 h2
    exact ⟨hm, h3⟩
  · rintro ⟨hm, h3⟩
    exact ⟨(x.a, x.it), hm, rfl, rfl, h3⟩

theorem memIdl_congr {t t' : Tables} (h : t'.idx = t.idx) (a : Nat) (it : IType) (k : Val) (id : Nat) :
    memIdl t' a it k id ↔ memIdl t a it k id := by
  unfold memIdl getIdl; rw [h]

theorem tblExists_congr {t t' : Tables} (h : t'.idx = t.idx) (a : Nat) (it : IType) :
    tblExists t' a it ↔ tblExists t a it := by
  unfold tblExists; rw [h]

theorem mirror_step {ents ents' : List SEnt} {i : Nat} {pre post : Option SEnt}
    (hc : Change ents ents' i pre post) (idxmeta : List (Nat × IType)) (t : Tables) (a : Nat) (it : IType)
    (hpre : ∀ e, pre = some e → KeysNodup e) (hpost : ∀ e, post = some e → KeysNodup e)
    (hmeta : (a, it) ∈ idxmeta) (hex : tblExists t a it) (hm : Mirror ents t a it) :
    Mirror ents' (applyActs i (idxDiff idxmeta pre post) t) a it := by
  intro k id
  by_cases hid : id = i
  · subst hid
    have hclash : ¬ ((⟨true, a, it, k⟩ : Act) ∈ idxDiff idxmeta pre post ∧
        (⟨false, a, it, k⟩ : Act) ∈ idxDiff idxmeta pre post) := by
      rw [idx_diff_exact _ _ _ _ hpre hpost, idx_diff_exact _ _ _ _ hpre hpost]
      simp only [if_true, Bool.false_eq_true, if_false]
      intro ⟨⟨_, h1, h2⟩, ⟨_, h3, _⟩⟩
      exact h2 h3
    rw [applyActs_mem_self id _ t a it k hclash hex, idx_diff_exact _ _ _ _ hpre hpost,
      idx_diff_exact _ _ _ _ hpre hpost, hm k id]
    simp only [if_true, Bool.false_eq_true, if_false, hmeta, true_and]
    have hPQ : ∀ (es : List SEnt) (oe : Option SEnt), (∀ e, (e ∈ es ∧ e.id = id) ↔ oe = some e) →
        ((∃ e ∈ es, e.id = id ∧ hasKey e.attrs a it k) ↔ hasKeyO oe a it k) := fun es oe h =>
      ⟨fun ⟨e, he, hid, hk⟩ => ⟨e, (h e).1 ⟨he, hid⟩, hk⟩, fun ⟨e, he, hk⟩ => ⟨e, ((h e).2 he).1, ((h e).2 he).2, hk⟩⟩
    rw [hPQ ents pre hc.hpre, hPQ ents' post hc.hpost]
    by_cases h1 : hasKeyO post a it k <;> by_cases h2 : hasKeyO pre a it k <;> simp [h1, h2]
  · rw [applyActs_mem_other i _ t a it k id hid, hm k id]
    constructor
    · rintro ⟨e, he, hei, hk⟩; exact ⟨e, (hc.hother e (hei ▸ hid)).1 he, hei, hk⟩
    · rintro ⟨e, he, hei, hk⟩; exact ⟨e, (hc.hother e (hei ▸ hid)).2 he, hei, hk⟩

section KV
variable {κ ν : Type} [DecidableEq κ]

theorem bind_mask_eq_some {oe : Option SEnt} {e : SEnt} :
    oe.bind mask = some e ↔ oe = some e ∧ masked e = false := by
  cases oe with
  | none => simp
  | some x =>
    cases h : masked x <;> simp only [Option.bind_some, mask, h, Option.some.injEq, Bool.false_eq_true, if_false,
      if_true, reduceCtorEq, false_iff, not_and]
    · exact ⟨fun hx => ⟨hx, hx ▸ h⟩, And.left⟩
    · rintro rfl; simp [h]

omit [DecidableEq κ] in
theorem mem_kvO_mask (kv : SEnt → List (κ × ν)) (oe : Option SEnt) (p : κ × ν) :
    p ∈ kvO kv (oe.bind mask) ↔ ∃ e, oe = some e ∧ masked e = false ∧ p ∈ kv e := by
  cases oe with
  | none => simp [kvO]
  | some x => cases h : masked x <;> simp [kvO, mask, h]

omit [DecidableEq κ] in
theorem exists_kv_split (kv : SEnt → List (κ × ν)) {es : List SEnt} {oe : Option SEnt} {i : Nat}
    (hoe : ∀ e, (e ∈ es ∧ e.id = i) ↔ oe = some e) (p : κ × ν) :
    (∃ e ∈ es, masked e = false ∧ p ∈ kv e) ↔
      (p ∈ kvO kv (oe.bind mask) ∨ ∃ e ∈ es, e.id ≠ i ∧ masked e = false ∧ p ∈ kv e) := by
  rw [mem_kvO_mask]
  constructor
  · rintro ⟨e, he, hm, hp⟩
    by_cases hid : e.id = i
    · exact Or.inl ⟨e, (hoe e).1 ⟨he, hid⟩, hm, hp⟩
    · exact Or.inr ⟨e, he, hid, hm, hp⟩
  · rintro (⟨e, he, hm, hp⟩ | ⟨e, he, _, hm, hp⟩)
    · exact ⟨e, ((hoe e).2 he).1, hm, hp⟩
    · exact ⟨e, he, hm, hp⟩

omit [DecidableEq κ] in
theorem kvO_unique {kv : SEnt → List (κ × ν)} {es : List SEnt} {oe : Option SEnt} {i : Nat} (hu : KVUniq kv es)
    (hoe : ∀ e, (e ∈ es ∧ e.id = i) ↔ oe = some e) {k : κ} {v' : ν} (h : (k, v') ∈ kvO kv (oe.bind mask)) (v : ν) :
    ((k, v) ∈ kvO kv (oe.bind mask) → v' = v) ∧ ¬ ∃ e ∈ es, e.id ≠ i ∧ masked e = false ∧ (k, v) ∈ kv e := by
  obtain ⟨q, hq1, hq2, hq3⟩ := (mem_kvO_mask kv oe (k, v')).1 h
  have hqin := (hoe q).2 hq1
  refine ⟨fun h => ?_, fun ⟨e, he, hid, hm, hp⟩ => hid ((hu q hqin.1 e he hq2 hm k v' v hq3 hp).1 ▸ hqin.2)⟩
  obtain ⟨q', hq1', hq2', hq3'⟩ := (mem_kvO_mask kv oe (k, v)).1 h
  rw [hq1] at hq1'; cases hq1'
  exact (hu q hqin.1 q hqin.1 hq2 hq2 k v' v hq3 hq3').2

theorem kv_step (kv : SEnt → List (κ × ν)) {ents ents' : List SEnt} {i : Nat} {pre post : Option SEnt}
    (hc : Change ents ents' i pre post) {m m' : List (κ × ν)}
    (hinv : KVInv kv ents m) (hu : KVUniq kv ents) (hu' : KVUniq kv ents')
    (S1 : ∀ k v, (k, v) ∈ kvO kv (post.bind mask) → aget m' k = some v)
    (S2 : ∀ k, (∃ v, (k, v) ∈ kvO kv (pre.bind mask)) → (¬ ∃ v, (k, v) ∈ kvO kv (post.bind mask)) →
      aget m' k = none)
    (S3 : ∀ k, (¬ ∃ v, (k, v) ∈ kvO kv (pre.bind mask)) → (¬ ∃ v, (k, v) ∈ kvO kv (post.bind mask)) →
      aget m' k = aget m k) :
    KVInv kv ents' m' := by
  intro k v
  have hO : (∃ e ∈ ents', e.id ≠ i ∧ masked e = false ∧ (k, v) ∈ kv e) ↔
      (∃ e ∈ ents, e.id ≠ i ∧ masked e = false ∧ (k, v) ∈ kv e) := exists_congr fun e =>
    ⟨fun ⟨he, hid, h⟩ => ⟨(hc.hother e hid).2 he, hid, h⟩, fun ⟨he, hid, h⟩ => ⟨(hc.hother e hid).1 he, hid, h⟩⟩
  rw [exists_kv_split kv hc.hpost]
  by_cases hq : ∃ v', (k, v') ∈ kvO kv (post.bind mask)
  · obtain ⟨v', hv'⟩ := hq
    obtain ⟨h1, h2⟩ := kvO_unique hu' hc.hpost hv' v
    rw [S1 k v' hv']
    exact ⟨fun h => by cases h; exact Or.inl hv', fun h => h.elim (fun h => congrArg some (h1 h)) (fun h => absurd h h2)⟩
  · by_cases hp : ∃ v', (k, v') ∈ kvO kv (pre.bind mask)
    · rw [S2 k hp hq, hO]
      obtain ⟨v', hv'⟩ := hp
      simp only [reduceCtorEq, false_iff, not_or]
      exact ⟨fun h => hq ⟨v, h⟩, (kvO_unique hu hc.hpre hv' v).2⟩
    · rw [S3 k hp hq, hinv k v, exists_kv_split kv hc.hpre, hO, or_iff_right fun h => hp ⟨v, h⟩,
        or_iff_right fun h => hq ⟨v, h⟩]

def keysO (keys : SEnt → List κ) (oe : Option SEnt) : List κ :=
  match oe with
  | none => []
  | some e => keys e

/-- what `entry_index` leaves under `k` in a name table that held `old`: the value of `post` under the keys of
`post`, nothing under the keys only `pre` had -/
def rekeyed (kp kq : List κ) (vq old : Option ν) (k : κ) : Option ν :=
  if k ∈ kq then vq else if k ∈ kp then none else old

omit [DecidableEq κ] in
theorem mem_keyed {keys : SEnt → List κ} {val : SEnt → ν} {e : SEnt} {k : κ} {v : ν} :
    (k, v) ∈ keyed keys val e ↔ k ∈ keys e ∧ v = val e := by
  simp only [keyed, List.mem_map, Prod.mk.injEq]
  exact ⟨fun ⟨_, h, hk, hv⟩ => ⟨hk ▸ h, hv.symm⟩, fun ⟨h, hv⟩ => ⟨k, h, rfl, hv.symm⟩⟩

omit [DecidableEq κ] in
theorem mem_kvO_keyed {keys : SEnt → List κ} {val : SEnt → ν} {oe : Option SEnt} {k : κ} {v : ν} :
    (k, v) ∈ kvO (keyed keys val) oe ↔ k ∈ keysO keys oe ∧ oe.map val = some v := by
  cases oe with
  | none => simp [kvO, keysO]
  | some e => simp [kvO, keysO, mem_keyed, eq_comm]

omit [DecidableEq κ] in
theorem map_of_mem_keysO {keys : SEnt → List κ} {oe : Option SEnt} {k : κ} (h : k ∈ keysO keys oe) (val : SEnt → ν) :
    ∃ e, oe = some e ∧ oe.map val = some (val e) := by
  cases oe with
  | none => cases h
  | some e => exact ⟨e, rfl, rfl⟩

/-- a table of `keyed` pairs stays exact across a change if `entry_index` leaves it `rekeyed` — which the name
tables' writers do on a table that holds the pairs of `pre` (they skip a pair of `post` that `pre` had) -/
theorem keyed_step (keys : SEnt → List κ) (val : SEnt → ν) {ents ents' : List SEnt} {i : Nat}
    {pre post : Option SEnt} (hc : Change ents ents' i pre post) {m m' : List (κ × ν)}
    (hinv : KVInv (keyed keys val) ents m) (hu : KVUniq (keyed keys val) ents) (hu' : KVUniq (keyed keys val) ents')
    (hw : (∀ k ∈ keysO keys (pre.bind mask), aget m k = (pre.bind mask).map val) → ∀ k, aget m' k =
      rekeyed (keysO keys (pre.bind mask)) (keysO keys (post.bind mask)) ((post.bind mask).map val) (aget m k) k) :
    KVInv (keyed keys val) ents' m' := by
  have hex : ∀ (oe : Option SEnt) k, (∃ v, (k, v) ∈ kvO (keyed keys val) oe) ↔ k ∈ keysO keys oe := fun oe k =>
    ⟨fun ⟨_, h⟩ => (mem_kvO_keyed.1 h).1, fun h => (map_of_mem_keysO h val).elim fun e he => ⟨_, mem_kvO_keyed.2 ⟨h, he.2⟩⟩⟩
  have hw := hw fun k hk => by
    obtain ⟨p, hp, hv⟩ := map_of_mem_keysO hk val
    obtain ⟨e, he, hm, hkv⟩ := (mem_kvO_mask _ pre (k, val p)).1 (mem_kvO_keyed.2 ⟨hk, hv⟩)
    exact hv ▸ (hinv k _).2 ⟨e, ((hc.hpre e).2 he).1, hm, hkv⟩
  refine kv_step _ hc hinv hu hu' (fun k v hkv => ?_) (fun k hp hq => ?_) (fun k hp hq => ?_)
  · rw [hw, rekeyed, if_pos (mem_kvO_keyed.1 hkv).1, (mem_kvO_keyed.1 hkv).2]
  · rw [hw, rekeyed, if_neg (mt (hex _ k).2 hq), if_pos ((hex _ k).1 hp)]
  · rw [hw, rekeyed, if_neg (mt (hex _ k).2 hq), if_neg (mt (hex _ k).2 hp)]

omit [DecidableEq κ] in
theorem keyed_uniq {keys : SEnt → List κ} {val : SEnt → ν} {ents : List SEnt}
    (h : ∀ e1 ∈ ents, ∀ e2 ∈ ents, masked e1 = false → masked e2 = false → ∀ k, k ∈ keys e1 → k ∈ keys e2 →
      e1.id = e2.id ∧ val e1 = val e2) : KVUniq (keyed keys val) ents := by
  intro e1 h1 e2 h2 m1 m2 k v1 v2 hv1 hv2
  obtain ⟨hk1, rfl⟩ := mem_keyed.1 hv1
  obtain ⟨hk2, rfl⟩ := mem_keyed.1 hv2
  exact h e1 h1 e2 h2 m1 m2 k hk1 hk2

theorem kvinv_nil (kv : SEnt → List (κ × ν)) : KVInv kv [] ([] : List (κ × ν)) := by
  intro k v; simp [aget]

end KV

theorem aget_writeN2uAdd (u : Nat) (names : List (List Nat)) (m : List (List Nat × Nat)) (k : List Nat) :
    aget (writeN2uAdd u names m) k = if k ∈ names then some u else aget m k :=
  aget_foldl (fun m n k => aget_aset m n u k) names m k

theorem aget_writeN2uRem (names : List (List Nat)) (m : List (List Nat × Nat)) (k : List Nat) :
    aget (writeN2uRem names m) k = if k ∈ names then none else aget m k :=
  aget_foldl aget_adel names m k

theorem mem_n2uDiff (mp mq : Option SEnt) (k : List Nat) :
    (k ∈ optList (n2uDiff mp mq).1 ↔ k ∈ keysO cands mq ∧ k ∉ keysO cands mp) ∧
      (k ∈ optList (n2uDiff mp mq).2 ↔ k ∈ keysO cands mp ∧ k ∉ keysO cands mq) := by
  cases mp <;> cases mq <;> simp [n2uDiff, optList, keysO, listDiff]

/-- `entry_index` files `pre` and `post` under the uuid `u` -/
def UuidIs (u : Nat) (oe : Option SEnt) : Prop := ∀ e, oe = some e → e.uuid = u

theorem UuidIs.map {u : Nat} {oe : Option SEnt} (h : UuidIs u oe) {κ : Type} {keys : SEnt → List κ} {k : κ}
    (hk : k ∈ keysO keys oe) : oe.map (·.uuid) = some u := by
  obtain ⟨e, he, hv⟩ := map_of_mem_keysO hk (·.uuid)
  rw [hv, h e he]

theorem n2u_rekeyed {mp mq : Option SEnt} {u : Nat} (hp : UuidIs u mp) (hq : UuidIs u mq) (t : Tables)
    (hm : ∀ k ∈ keysO cands mp, aget t.n2u k = mp.map (·.uuid)) (k : List Nat) :
    aget (nameIndex mp mq u t).n2u k =
      rekeyed (keysO cands mp) (keysO cands mq) (mq.map (·.uuid)) (aget t.n2u k) k := by
  simp only [nameIndex, aget_writeN2uRem, aget_writeN2uAdd, mem_n2uDiff, rekeyed]
  by_cases h2 : k ∈ keysO cands mq <;> by_cases h1 : k ∈ keysO cands mp
  · -- a name both have is not written
    rw [if_neg (fun h => h.2 h2), if_neg (fun h => h.2 h1), if_pos h2, hm k h1, hp.map h1, hq.map h2]
  · rw [if_neg (fun h => h.2 h2), if_pos ⟨h2, h1⟩, if_pos h2, hq.map h2]
  · rw [if_pos ⟨h1, h2⟩, if_neg h2, if_pos h1]
  · rw [if_neg (fun h => h1 h.1), if_neg (fun h => h2 h.1), if_neg h2, if_neg h1]

theorem aget_writeE2u (u : Nat) (add rem : Option (List Nat)) (m : List (List Nat × Nat)) (k : List Nat) :
    aget (writeE2u u add rem m) k =
      if rem = some k then none else if add = some k then some u else aget m k := by
  cases add <;> cases rem <;>
    simp only [writeE2u, aget_adel, aget_aset, Option.some.injEq, reduceCtorEq, if_false, eq_comm (b := k)]

theorem e2u_rekeyed {mp mq : Option SEnt} {u : Nat} (hp : UuidIs u mp) (hq : UuidIs u mq) (t : Tables)
    (hm : ∀ k ∈ keysO (fun e => (extId e).toList) mp, aget t.e2u k = mp.map (·.uuid)) (k : List Nat) :
    aget (nameIndex mp mq u t).e2u k =
      rekeyed (keysO (fun e => (extId e).toList) mp) (keysO (fun e => (extId e).toList) mq) (mq.map (·.uuid))
        (aget t.e2u k) k := by
  have hn : (nameIndex mp mq u t).e2u = writeE2u u (e2uDiff mp mq).1 (e2uDiff mp mq).2 t.e2u := rfl
  rw [hn, rekeyed, aget_writeE2u]
  fun_cases e2uDiff mp mq
  case case1 => rfl  -- neither entry
  case case2 b =>  -- `post` only
    simp only [keysO, List.not_mem_nil, if_false, Option.mem_toList, Option.map_some, hq b rfl, reduceCtorEq]
  case case3 a =>  -- `pre` only
    simp only [keysO, List.not_mem_nil, if_false, Option.mem_toList, reduceCtorEq]
  case case4 a b h =>
    -- the new one is set, then the old one removed: different keys
    simp only [keysO, Option.mem_toList, Option.map_some, hq b rfl]
    by_cases hk : extId b = some k
    · rw [if_pos hk, if_neg (fun ha => h (ha.trans hk.symm)), if_pos hk]
    · rw [if_neg hk, if_neg hk]
  case case5 a b h =>
    -- an unchanged external id is not written
    have h := Classical.not_not.1 h
    simp only [keysO, Option.mem_toList, Option.map_some, hq b rfl, reduceCtorEq, if_false]
    by_cases hk : extId b = some k
    · rw [if_pos hk, hm k (Option.mem_toList.2 (h.trans hk)), Option.map_some, hp a rfl]
    · rw [if_neg hk, if_neg (h ▸ hk)]

theorem u2_rekeyed (f : SEnt → NameV) {mp mq : Option SEnt} {u : Nat} (hp : UuidIs u mp) (hq : UuidIs u mq)
    (m : List (Nat × NameV)) (hm : ∀ k ∈ keysO (fun e => [e.uuid]) mp, aget m k = mp.map f) (k : Nat) :
    aget (writeU2 u (u2Diff f mp mq) m) k =
      rekeyed (keysO (fun e => [e.uuid]) mp) (keysO (fun e => [e.uuid]) mq) (mq.map f) (aget m k) k := by
  rw [rekeyed]
  fun_cases u2Diff f mp mq
  case case1 => rfl  -- neither entry
  case case2 b =>  -- `post` only
    simp [writeU2, keysO, aget_aset, hq b rfl]
  case case3 a =>  -- `pre` only
    simp [writeU2, keysO, aget_adel, hp a rfl]
  case case4 a b h =>
    -- both entries, the value differs: it is set
    simp only [writeU2, aget_aset, keysO, List.mem_singleton, hp a rfl, hq b rfl, Option.map_some]
    by_cases hk : k = u <;> simp [hk]
  case case5 a b h =>
    -- an unchanged value is not written
    have h := Classical.not_not.1 h
    simp only [writeU2, keysO, List.mem_singleton, hp a rfl, hq b rfl, Option.map_some]
    by_cases hk : k = u
    · rw [if_pos hk, hm k (by simp [keysO, hk, hp a rfl]), Option.map_some, h]
    · rw [if_neg hk, if_neg hk]

theorem NUniq.subset {es es' : List SEnt} (h : ∀ e ∈ es', e ∈ es) (hu : NUniq es) : NUniq es' :=
  ⟨fun e1 h1 e2 h2 => hu.uuids e1 (h e1 h1) e2 (h e2 h2),
   fun e1 h1 e2 h2 => hu.names e1 (h e1 h1) e2 (h e2 h2),
   fun e1 h1 e2 h2 => hu.ext e1 (h e1 h1) e2 (h e2 h2),
   fun e1 h1 e2 h2 => hu.same e1 (h e1 h1) e2 (h e2 h2)⟩

theorem NUniq.kvN2U {ents : List SEnt} (hu : NUniq ents) : KVUniq kvN2U ents :=
  keyed_uniq (keys := cands) (val := (·.uuid)) hu.names

theorem NUniq.kvE2U {ents : List SEnt} (hu : NUniq ents) : KVUniq kvE2U ents :=
  keyed_uniq (keys := fun e => (extId e).toList) (val := (·.uuid)) fun e1 h1 e2 h2 m1 m2 k hk1 hk2 =>
    hu.ext e1 h1 e2 h2 m1 m2 k (Option.mem_toList.1 hk1) (Option.mem_toList.1 hk2)

theorem NUniq.kvU2 {ents : List SEnt} (hu : NUniq ents) (f : SEnt → NameV) :
    KVUniq (fun e => [(e.uuid, f e)]) ents :=
  keyed_uniq (keys := fun e => [e.uuid]) (val := f) fun e1 h1 e2 h2 m1 m2 k hk1 hk2 => by
    have hid := hu.uuids e1 h1 e2 h2 m1 m2 ((List.mem_singleton.1 hk1).symm.trans (List.mem_singleton.1 hk2))
    exact ⟨hid, by rw [hu.same e1 h1 e2 h2 hid]⟩

theorem nameIndex_inv {ents ents' : List SEnt} {i u : Nat} {pre post : Option SEnt}
    (hc : Change ents ents' i pre post) (hpu : UuidIs u pre) (hqu : UuidIs u post)
    (t : Tables) (hinv : NInv ents t) (hu : NUniq ents) (hu' : NUniq ents') :
    NInv ents' (nameIndex (pre.bind mask) (post.bind mask) u t) := by
  have hp : UuidIs u (pre.bind mask) := fun p h => hpu p (bind_mask_eq_some.1 h).1
  have hq : UuidIs u (post.bind mask) := fun q h => hqu q (bind_mask_eq_some.1 h).1
  exact ⟨keyed_step cands (·.uuid) hc hinv.n2u hu.kvN2U hu'.kvN2U (n2u_rekeyed hp hq t),
    keyed_step (fun e => (extId e).toList) (·.uuid) hc hinv.e2u hu.kvE2U hu'.kvE2U (e2u_rekeyed hp hq t),
    keyed_step (fun e => [e.uuid]) spnOf hc hinv.u2s (hu.kvU2 spnOf) (hu'.kvU2 spnOf) (u2_rekeyed spnOf hp hq t.u2s),
    keyed_step (fun e => [e.uuid]) rdnOf hc hinv.u2r (hu.kvU2 rdnOf) (hu'.kvU2 rdnOf) (u2_rekeyed rdnOf hp hq t.u2r)⟩

theorem applyAct_idx_only (id : Nat) (t : Tables) (act : Act) : applyAct id t act = { t with idx := (applyAct id t act).idx } := by
  unfold applyAct
  split
  · unfold writeIdl
    split <;> rfl
  · rfl

theorem applyActs_idx_only (id : Nat) (acts : List Act) (t : Tables) :
    applyActs id acts t = { t with idx := (applyActs id acts t).idx } := by
  induction acts generalizing t with
  | nil => rfl
  | cons x xs ih => rw [applyActs_cons, ih, applyAct_idx_only]

theorem nameIndex_idx (mp mq : Option SEnt) (u : Nat) (t : Tables) : (nameIndex mp mq u t).idx = t.idx := rfl

theorem retract_eq (p : SEnt) (t : Tables) : retract p t = nameIndex (some p) none p.uuid t := by
  simp [retract, nameIndex, writeN2uAdd, optList, n2uDiff, e2uDiff]

theorem applyDiff_inv {ents ents' : List SEnt} {i : Nat} {pre post : Option SEnt}
    (hc : Change ents ents' i pre post) {stale : Nat → IType → Prop} {idxmeta : List (Nat × IType)}
    {t t1 : Tables} (hinv : TInv stale idxmeta ents t)
    (hkp : ∀ e, pre = some e → KeysNodup e) (hkq : ∀ e, post = some e → KeysNodup e)
    (h1 : t1.idx = t.idx) (hn : NInv ents' t1) :
    TInv stale idxmeta ents' (applyActs i (idxDiff idxmeta pre post) t1) := by
  refine ⟨fun a it hex hst => ?_, applyActs_idx_only .. ▸ ⟨hn.n2u, hn.e2u, hn.u2s, hn.u2r⟩⟩
  have hex1 : tblExists t1 a it := (applyActs_exists _ _ _ _ _).1 hex
  obtain ⟨hm, hmir⟩ := hinv.idx a it ((tblExists_congr h1 a it).1 hex1) hst
  exact ⟨hm, mirror_step hc idxmeta t1 a it hkp hkq hm hex1
    (fun k id => (memIdl_congr h1 a it k id).trans (hmir k id))⟩

/-- a change of uuid: `pre` is retracted, leaving an entry list without it, then `post` is added -/
theorem nameIndex_reuuid {ents ents' : List SEnt} {i : Nat} {p q : SEnt}
    (hc : Change ents ents' i (some p) (some q)) (hpm : masked p = false) (t : Tables) (hn : NInv ents t)
    (hu : NUniq ents) (hu' : NUniq ents') :
    NInv ents' (nameIndex none ((some q).bind mask) q.uuid (retract p t)) := by
  let mid := ents.filter (fun e => !decide (e.id = i))
  have hc1 : Change ents mid i (some p) none :=
    ⟨hc.hpre, by intro e; simp [mid], by intro e he; simp [mid, he]⟩
  have hc2 : Change mid ents' i none (some q) := by
    refine ⟨by intro e; simp [mid], hc.hpost, fun e he => ?_⟩
    simp only [mid, List.mem_filter, he, decide_false, Bool.not_false, and_true]
    exact hc.hother e he
  have humid : NUniq mid := hu.subset (fun e he => (List.mem_filter.1 he).1)
  have hn1 := nameIndex_inv hc1 (fun _ h => by cases h; rfl) nofun t hn hu humid
  rw [bind_mask_eq_some.2 ⟨rfl, hpm⟩] at hn1
  rw [retract_eq]
  exact nameIndex_inv hc2 nofun (fun _ h => by cases h; rfl) _ hn1 humid hu'

theorem entryIndex_inv_of_nuniq {ents ents' : List SEnt} {i : Nat} {pre post : Option SEnt}
    (hc : Change ents ents' i pre post) {stale : Nat → IType → Prop} {idxmeta : List (Nat × IType)}
    {t t' : Tables} (hinv : TInv stale idxmeta ents t) (hu : NUniq ents) (hu' : NUniq ents')
    (hkp : ∀ e, pre = some e → KeysNodup e) (hkq : ∀ e, post = some e → KeysNodup e)
    (hrun : entryIndex idxmeta pre post t = some t') : TInv stale idxmeta ents' t' := by
  have hpid : ∀ p, pre = some p → p.id = i := fun p h => ((hc.hpre p).2 h).2
  have hqid : ∀ q, post = some q → q.id = i := fun q h => ((hc.hpost q).2 h).2
  have same : ∀ u, (∀ p, pre = some p → p.uuid = u) → (∀ q, post = some q → q.uuid = u) →
      TInv stale idxmeta ents' (applyActs i (idxDiff idxmeta pre post)
        (nameIndex (pre.bind mask) (post.bind mask) u t)) := fun u hpu hqu =>
    applyDiff_inv hc hinv hkp hkq (nameIndex_idx _ _ _ _) (nameIndex_inv hc hpu hqu t hinv.names hu hu')
  unfold entryIndex at hrun
  revert hrun
  fun_cases indexHeader pre post
  case case1 => exact fun h => nomatch h  -- neither entry: `InvalidState`
  case case2 p =>  -- remove
    intro hrun; cases hrun
    rw [hpid p rfl]
    exact same p.uuid (fun _ h => by cases h; rfl) (fun _ h => nomatch h)
  case case3 q =>  -- add
    intro hrun; cases hrun
    rw [hqid q rfl]
    exact same q.uuid (fun _ h => nomatch h) (fun _ h => by cases h; rfl)
  case case4 p q hid =>  -- modify, the ids agree
    rw [hqid q rfl]
    by_cases hsame : p.uuid = q.uuid
    · intro hrun
      simp only [hsame, decide_true, if_true, Option.some.injEq] at hrun
      exact hrun ▸ same q.uuid (fun _ h => by cases h; exact hsame) (fun _ h => by cases h; rfl)
    · simp only [hsame, decide_false, Bool.false_eq_true, if_false]
      cases hmp : (some p).bind mask with
      | none => exact fun h => nomatch h
      | some p' =>
        obtain ⟨hp', hpm⟩ := bind_mask_eq_some.1 hmp
        cases hp'
        intro hrun; cases hrun
        exact applyDiff_inv hc hinv hkp hkq rfl (nameIndex_reuuid hc hpm t hinv.names hu hu')
  case case5 => exact fun h => nomatch h  -- the `assert_eq!` on the ids

theorem Change.of_mem {ents ents' : List SEnt} {i : Nat} {pre post : Option SEnt}
    (hpre : ∀ e, (e ∈ ents ∧ e.id = i) ↔ pre = some e) (hq : ∀ e, post = some e → e.id = i)
    (hmem : ∀ x, x ∈ ents' ↔ (x ∈ ents ∧ x.id ≠ i) ∨ post = some x) : Change ents ents' i pre post := by
  refine ⟨hpre, fun e => ⟨fun ⟨he, hi⟩ => ?_, fun h => ⟨(hmem e).2 (Or.inr h), hq e h⟩⟩,
    fun e hne => ⟨fun he => (hmem e).2 (Or.inl ⟨he, hne⟩), fun he => ?_⟩⟩
  · exact ((hmem e).1 he).resolve_left (fun h => h.2 hi)
  · exact (((hmem e).1 he).resolve_right (fun h => hne (hq e h))).1

theorem change_add {ents : List SEnt} {e : SEnt} (hfresh : ∀ x ∈ ents, x.id ≠ e.id) :
    Change ents (ents ++ [e]) e.id none (some e) := by
  refine .of_mem (fun x => ⟨fun h => absurd h.2 (hfresh x h.1), nofun⟩) (fun x h => by cases h; rfl) fun x => ?_
  rw [List.mem_append, List.mem_singleton, Option.some.injEq, eq_comm]
  exact or_congr_left ⟨fun h => ⟨h, hfresh x h⟩, And.left⟩

theorem pre_of_mem {ents : List SEnt} {e : SEnt} (hids : (ents.map (·.id)).Nodup) (he : e ∈ ents) (x : SEnt) :
    (x ∈ ents ∧ x.id = e.id) ↔ some e = some x :=
  ⟨fun ⟨hx, hxi⟩ => congrArg some (Keyed.eq_of_key_eq (·.id) hids hx he hxi).symm, fun h => by cases h; exact ⟨he, rfl⟩⟩

theorem putEnt_fresh {ents : List SEnt} {e : SEnt} (h : ∀ x ∈ ents, x.id ≠ e.id) : putEnt ents e = ents ++ [e] := by
  have : ents.any (fun x => decide (x.id = e.id)) = false := by
    simp only [List.any_eq_false, decide_eq_true_eq]
    exact h
  simp only [putEnt, this, Bool.false_eq_true, if_false]

theorem putEnt_of_mem {ents : List SEnt} {pre post : SEnt} (hpre : pre ∈ ents) (hid : post.id = pre.id) :
    putEnt ents post = ents.map fun x => if x.id = post.id then post else x := by
  have : ents.any (fun y => decide (y.id = post.id)) = true := by
    simp only [List.any_eq_true, decide_eq_true_eq]
    exact ⟨pre, hpre, hid.symm⟩
  simp only [putEnt, this, if_true]

theorem mem_putEnt_replace {ents : List SEnt} {pre post : SEnt} (hpre : pre ∈ ents) (hid : post.id = pre.id)
    (x : SEnt) : x ∈ putEnt ents post ↔ (x = post ∨ (x ∈ ents ∧ x.id ≠ pre.id)) := by
  rw [putEnt_of_mem hpre hid, List.mem_map, ← hid]
  constructor
  · rintro ⟨y, hy, rfl⟩
    by_cases h : y.id = post.id
    · exact Or.inl (if_pos h)
    · rw [if_neg h]; exact Or.inr ⟨hy, h⟩
  · rintro (rfl | ⟨hx, hne⟩)
    · exact ⟨pre, hpre, if_pos hid.symm⟩
    · exact ⟨x, hx, if_neg hne⟩

theorem putEnt_ids {ents : List SEnt} {pre post : SEnt} (hpre : pre ∈ ents) (hid : post.id = pre.id) :
    (putEnt ents post).map (·.id) = ents.map (·.id) := by
  rw [putEnt_of_mem hpre hid, List.map_map]
  refine List.map_congr_left fun y _ => ?_
  by_cases h : y.id = post.id <;> simp [h]

theorem change_replace {ents : List SEnt} {pre post : SEnt} (hids : (ents.map (·.id)).Nodup)
    (hpre : pre ∈ ents) (hid : post.id = pre.id) :
    Change ents (putEnt ents post) pre.id (some pre) (some post) := by
  refine .of_mem (pre_of_mem hids hpre) (fun x h => by cases h; exact hid) fun x => ?_
  rw [mem_putEnt_replace hpre hid, Option.some.injEq, eq_comm, or_comm]

theorem change_remove {ents : List SEnt} {e : SEnt} (hids : (ents.map (·.id)).Nodup) (he : e ∈ ents) :
    Change ents (ents.filter (fun x => !decide (x.id = e.id))) e.id (some e) none :=
  .of_mem (pre_of_mem hids he) nofun fun x => by simp

end Kanidm.Index
