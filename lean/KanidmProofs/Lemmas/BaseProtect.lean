import KanidmModel.BaseProtect
import KanidmProofs.Lemmas.AccessWrite
import KanidmProofs.Lemmas.Grows
/-
Vocabulary (`touches`, `Req.freshOk`) and lemmas of C20 (`KanidmProofs/C20.lean`): what a stage that
proceeded has checked, and from it what a request (`step_evol`) and a history (`run_evol`) leave of the
stored entries (`Kept`, `Evol`).
-/
namespace Kanidm.BaseProtect
open Kanidm.Filter
open Kanidm.Access.Write
open Kanidm.Gen.Access
open Kanidm.Gen.BaseProtect

/-- the modification mutates the value set of attribute `a` -/
def touches (a : Nat) (m : Mod) : Bool := applyMutates (modKind m) && modAttr m == a

theorem stepAva_noop {a : Nat} {cur : Option (List Nat)} {m : Mod} (h : touches a m = false) :
    stepAva a cur m = cur := by
  unfold stepAva
  unfold touches at h
  simp [h]

theorem applyAva_noop {a : Nat} (ml : List Mod) (cur : Option (List Nat))
    (h : ∀ m ∈ ml, touches a m = false) : applyAva a cur ml = cur := by
  fun_induction applyAva a cur ml
  · rfl -- no modification left
  · -- first modification
    rename_i ih
    rw [stepAva_noop (h _ List.mem_cons_self)] at ih ⊢
    exact ih fun m hm => h m (List.mem_cons_of_mem _ hm)

/-- every variant `apply_modlist` mutates with is inspected by `Base::pre_modify` -/
theorem mutates_checked_modify : ∀ k, k < 5 → applyMutates k = true → preModifyChecks k = true := by
  decide

theorem mutates_checked_batch : ∀ k, k < 5 → applyMutates k = true → preBatchModifyChecks k = true := by
  decide

theorem preModifyAttr_is_uuid : preModifyAttr = A.Uuid := by decide
theorem preBatchModifyAttr_is_uuid : preBatchModifyAttr = A.Uuid := by decide

/-- The conclusion is the body of `preModifyRejects` / `preBatchModifyRejects` for their `checks` and
`attr`. -/
theorem touches_rejected {checks : Nat → Bool} {attr : Nat}
    (hc : ∀ k, k < 5 → applyMutates k = true → checks k = true) (ha : attr = A.Uuid) {m : Mod}
    (h : touches A.Uuid m = true) : (checks (modKind m) && modAttr m == attr) = true := by
  simp only [touches, Bool.and_eq_true] at h ⊢
  exact ⟨hc _ (by cases m <;> simp [modKind]) h.1, ha ▸ h.2⟩

/-- `rfl` only while the generated `runPreModifyBase` is `some _` (likewise `runPreBatchModify_eq`,
`runPreCreateTransform_eq`). -/
theorem runPreModify_eq (ml : List Mod) : runPreModify ml = basePreModify ml := rfl

theorem runPreBatchModify_eq (ms : List (List Mod)) :
    runPreBatchModify ms = basePreBatchModify ms := rfl

theorem runPreModify_of_touch {ml : List Mod} (h : ∃ m ∈ ml, touches A.Uuid m = true) :
    runPreModify ml = true := by
  rw [runPreModify_eq]
  obtain ⟨m, hm, ht⟩ := h
  exact List.any_eq_true.mpr
    ⟨m, hm, touches_rejected mutates_checked_modify preModifyAttr_is_uuid ht⟩

theorem modifyStage_proceed {id : Ident} {acps : List AcpModify} {ag : List (Nat × List Nat)}
    {cands : List Ent} {ml : List Mod} (h : modifyStage id acps ag cands ml = .proceed) :
    (∀ e ∈ cands, maskChanged e ml = false) ∧ ∀ m ∈ ml, touches A.Uuid m = false := by
  revert h
  fun_cases modifyStage id acps ag cands ml <;> intro h <;> cases h
  -- the arm past every guard
  rename_i hmask hbase
  exact ⟨fun e he => Bool.eq_false_iff.mpr fun hm => hmask (List.any_eq_true.mpr ⟨e, he, hm⟩),
    fun m hm => Bool.eq_false_iff.mpr fun ht => hbase (runPreModify_of_touch ⟨m, hm, ht⟩)⟩

theorem batchStage_proceed {id : Ident} {acps : List AcpModify} {ag : List (Nat × List Nat)}
    {n : Nat} {pairs : List (Ent × Option (List Mod))} (h : batchStage id acps ag n pairs = .proceed) :
    ∀ p ∈ pairs, maskChanged p.1 (p.2.getD []) = false ∧
      ∀ m ∈ p.2.getD [], touches A.Uuid m = false := by
  revert h
  fun_cases batchStage id acps ag n pairs <;> intro h <;> cases h
  -- the arm past every guard
  rename_i hmask hbase
  exact fun p hp =>
    ⟨Bool.eq_false_iff.mpr fun hm => hmask (List.any_eq_true.mpr ⟨p, hp, hm⟩),
      fun m hm => Bool.eq_false_iff.mpr fun ht => hbase (List.any_eq_true.mpr
        ⟨_, List.mem_map.mpr ⟨p, hp, rfl⟩, List.any_eq_true.mpr
          ⟨m, hm, touches_rejected mutates_checked_batch preBatchModifyAttr_is_uuid ht⟩⟩)⟩

theorem validateUuid_some {l : Option (List Nat)} {u : Nat} (h : validateUuid l = some u) :
    l = some [u] := by
  unfold validateUuid at h
  split at h
  · simp_all
  · simp at h

theorem assignUuids_ok_mem (fresh : Nat → Nat) :
    ∀ (cands : List Cand) (k : Nat) (l : List (Nat × List Nat)),
      assignUuids fresh k cands = .ok l →
      ∀ c ∈ cands, ∀ us, c.uuids = some us → ∀ u ∈ us, ∃ cls, (u, cls) ∈ l := by
  intro cands k
  fun_induction assignUuids fresh k cands <;> intro l h <;> cases h <;> intro c hc us hus u hu
  · cases hc -- no candidate
  · -- first candidate without uuid
    rename_i hn _ hrest ih
    rcases List.mem_cons.mp hc with rfl | hc'
    · rw [hn] at hus; cases hus
    · exact (ih _ hrest c hc' us hus u hu).imp fun _ => List.mem_cons_of_mem _
  · -- first candidate with one uuid
    rename_i hs _ _ hval _ hrest ih
    rcases List.mem_cons.mp hc with rfl | hc'
    · rw [hs] at hus; cases hus
      cases validateUuid_some hval
      cases List.mem_singleton.mp hu
      exact ⟨_, List.mem_cons_self⟩
    · exact (ih _ hrest c hc' us hus u hu).imp fun _ => List.mem_cons_of_mem _

theorem assignUuids_ok_origin (fresh : Nat → Nat) :
    ∀ (cands : List Cand) (k : Nat) (l : List (Nat × List Nat)),
      assignUuids fresh k cands = .ok l →
      ∀ p ∈ l, (∃ j, p.1 = fresh j) ∨ (∃ c ∈ cands, c.uuids = some [p.1]) := by
  intro cands k
  fun_induction assignUuids fresh k cands <;> intro l h <;> cases h <;> intro p hp
  · cases hp -- no candidate
  · -- first candidate without uuid
    rename_i hrest ih
    rcases List.mem_cons.mp hp with rfl | hp'
    · exact .inl ⟨_, rfl⟩
    · exact (ih _ hrest p hp').imp_right fun ⟨c, hc, h⟩ => ⟨c, List.mem_cons_of_mem _ hc, h⟩
  · -- first candidate with one uuid
    rename_i hs _ _ hval _ hrest ih
    rcases List.mem_cons.mp hp with rfl | hp'
    · exact .inr ⟨_, List.mem_cons_self, hs.trans (validateUuid_some hval)⟩
    · exact (ih _ hrest p hp').imp_right fun ⟨c, hc, h⟩ => ⟨c, List.mem_cons_of_mem _ hc, h⟩

theorem createRangeCmp_iff (u : Nat) :
    createRangeCmp u dynamicRangeMinimum = true ↔ u < dynamicRangeMinimum := by
  simp [createRangeCmp]

theorem rangeLoop_user :
    ∀ (l : List (Nat × List Nat)) (seen : List Nat) (flag : Bool)
      (l' : List (Nat × List Nat)) (s : List Nat) (f : Bool),
      rangeLoop false l seen flag = .ok (l', s, f) →
      l' = l ∧ f = (flag || l.any fun p => createRangeCmp p.1 dynamicRangeMinimum) := by
  intro l seen flag
  fun_induction rangeLoop false l seen flag <;> intro l' s f h <;> cases h
  · simp -- no candidate
  · -- first uuid not seen before, the rest of the loop succeeded
    rename_i hrest ih
    obtain ⟨rfl, rfl⟩ := ih _ _ _ hrest
    simp +zetaDelta [show createRangeFlagSet = true from rfl, Bool.or_assoc, Bool.or_left_comm]

theorem zero_mem_postLoopChecks : 0 ∈ createPostLoopChecks := by decide

theorem postLoopChecks_flag (seen db : List Nat) :
    ∀ checks : List Nat, 0 ∈ checks → postLoopChecks seen db true checks ≠ none := by
  intro checks
  fun_induction postLoopChecks seen db true checks <;> intro h
  · cases h -- no check left
  · nofun -- the first check fires
  · -- the first check does not fire, so it is not check 0
    rename_i hnone ih
    rcases List.mem_cons.mp h with rfl | h0
    · simp +zetaDelta at hnone
    · exact ih h0

theorem base_ok_user {fresh : Nat → Nat} {db : List Nat} {cands : List Cand}
    {l : List (Nat × List Nat)} (h : basePreCreateTransform false fresh db cands = .ok l) :
    (∀ p ∈ l, dynamicRangeMinimum ≤ p.1) ∧
    (∀ c ∈ cands, ∀ us, c.uuids = some us → ∀ u ∈ us, dynamicRangeMinimum ≤ u) := by
  revert h
  fun_cases basePreCreateTransform false fresh db cands <;> intro h <;> cases h
  -- both loops succeeded and no check after them fired
  rename_i l1 hassign seen flag hchecks hloop
  obtain ⟨rfl, rfl⟩ := rangeLoop_user _ _ _ _ _ _ hloop
  -- a uuid in the range raises the flag, and the flag is the first check after the loops
  have hall : ∀ p ∈ l, dynamicRangeMinimum ≤ p.1 := fun p hp => Nat.le_of_not_lt fun hlt => by
    rw [Bool.false_or, List.any_eq_true.mpr ⟨p, hp, (createRangeCmp_iff _).mpr hlt⟩] at hchecks
    exact postLoopChecks_flag seen db _ zero_mem_postLoopChecks hchecks
  refine ⟨hall, fun c hc us hus u hu => ?_⟩
  obtain ⟨cls, hm⟩ := assignUuids_ok_mem fresh cands 0 l hassign c hc us hus u hu
  exact hall (u, cls) hm

theorem runPreCreateTransform_eq (internal : Bool) (fresh : Nat → Nat) (db : List Nat)
    (cands : List Cand) :
    runPreCreateTransform internal fresh db cands = basePreCreateTransform internal fresh db cands :=
  rfl

theorem createStage_proceed {id : Ident} {acps : List AcpCreate} {fresh : Nat → Nat}
    {db : List Nat} {reqs : List CreateReq} {es : List (Nat × List Nat)}
    (h : createStage id acps fresh db reqs = .proceed es) :
    basePreCreateTransform id.isInternal fresh db (reqs.map CreateReq.toCand) = .ok es := by
  revert h
  fun_cases createStage id acps fresh db reqs <;> intro h <;> cases h
  -- access let the request through and the plugins accepted it
  rw [← runPreCreateTransform_eq]
  assumption

theorem selectFrom_eq (sel : Nat → Bool) : ∀ (l : List Ent) (k : Nat),
    selectFrom sel k l = ((l.zipIdx k).filter fun p => sel p.2).map (·.1) := by
  intro l
  induction l with
  | nil => intro k; rfl
  | cons e es ih =>
    intro k
    rw [selectFrom, List.zipIdx_cons, List.filter_cons, ih]
    split <;> rfl

theorem updateFrom_eq (f : Nat → Ent → Ent) : ∀ (l : List Ent) (k : Nat),
    updateFrom f k l = (l.zipIdx k).map fun p => f p.2 p.1 := by
  intro l
  induction l with
  | nil => intro k; rfl
  | cons e es ih => intro k; rw [updateFrom, List.zipIdx_cons, List.map_cons, ih]

theorem newFrom_eq (h : Havoc) : ∀ (es : List (Nat × List Nat)) (k : Nat),
    newFrom h k es =
      (es.zipIdx k).map fun p => { h.rest p.2 with uuid := p.1.1, classes := some p.1.2 } := by
  intro es
  induction es with
  | nil => intro k; rfl
  | cons p rest ih =>
    intro k
    obtain ⟨u, cls⟩ := p
    rw [newFrom, List.zipIdx_cons, List.map_cons, ih]

theorem updateFrom_getElem? (f : Nat → Ent → Ent) (l : List Ent) (k i : Nat) :
    (updateFrom f k l)[i]? = (l[i]?).map (f (k + i)) := by
  rw [updateFrom_eq, List.getElem?_map, List.getElem?_zipIdx, Option.map_map]
  rfl

theorem mem_selectFrom_zero {sel : Nat → Bool} {st : List Ent} {i : Nat} {e : Ent}
    (he : st[i]? = some e) (hs : sel i = true) : e ∈ selectFrom sel 0 st := by
  rw [selectFrom_eq]
  exact List.mem_map.mpr
    ⟨(e, i), List.mem_filter.mpr ⟨List.mem_zipIdx_iff_getElem?.mpr he, hs⟩, rfl⟩

theorem newFrom_uuids (h : Havoc) (es : List (Nat × List Nat)) (k : Nat) :
    (newFrom h k es).map (·.uuid) = es.map (·.1) := by
  calc _ = ((es.zipIdx k).map (·.1)).map (·.1) := by
        rw [newFrom_eq, List.map_map, List.map_map]; rfl
    _ = _ := by rw [List.zipIdx_map_fst]

theorem modified_uuid {h : Havoc} {i : Nat} {e : Ent} {ml : List Mod}
    (hno : ∀ m ∈ ml, touches A.Uuid m = false) : (modified h i e ml).uuid = e.uuid := by
  unfold modified
  simp only
  rw [applyAva_noop ml _ hno]
  simp [validateUuid]

theorem maskChanged_false {h : Havoc} {i : Nat} {e : Ent} {ml : List Mod}
    (hm : maskChanged e ml = false) :
    maskedTs (modified h i e ml).classes = maskedTs e.classes := by
  unfold maskChanged at hm
  simp only [modified]
  have : maskedTs e.classes = maskedTs (applyClassMods e.classes ml) := by simpa using hm
  exact this.symm

theorem deleteAnonCmp_iff (u : Nat) :
    deleteAnonCmp u Kanidm.Gen.Access.uuidAnonymous = true ↔ u ≤ Kanidm.Gen.Access.uuidAnonymous := by
  simp [deleteAnonCmp]

/-- `UUID_ANONYMOUS` is the last uuid below `DYNAMIC_RANGE_MINIMUM_UUID`: the access gates, which compare
with the one, and Base, which compares with the other, speak of the same range. -/
theorem uuidAnonymous_succ : Kanidm.Gen.Access.uuidAnonymous + 1 = dynamicRangeMinimum := by decide

/-- The protected gate of delete denies every entry in the system range for every identity but the
internal system role, and that denial is final whatever the profiles grant. -/
theorem deleteStage_builtin {id : Ident} (hns : id.origin ≠ .internal .system) {acps : List AcpDelete}
    {cands : List Ent} {e : Ent} (he : e ∈ cands) (hu : e.uuid < dynamicRangeMinimum) :
    deleteStage id acps cands = .accessDenied :=
  have := uuidAnonymous_succ
  deleteOp_denied he (applyDelete_deny_of_protected (deleteProtected_deny hns (.inl (by omega))) _)

/-- What a request leaves of a stored entry: the uuid, whoever asks, whatever the profiles; and the
lifecycle of a system-range entry unless the internal system role asks. -/
structure Kept (id : Ident) (e e' : Ent) : Prop where
  uuid : e'.uuid = e.uuid
  lifecycle : id.origin ≠ .internal .system → e.uuid < dynamicRangeMinimum →
    maskedTs e'.classes = maskedTs e.classes

theorem Kept.refl (id : Ident) (e : Ent) : Kept id e e := ⟨rfl, fun _ _ => rfl⟩

theorem Kept.trans {id : Ident} {e e1 e2 : Ent} (h1 : Kept id e e1) (h2 : Kept id e1 e2) :
    Kept id e e2 :=
  ⟨h2.uuid.trans h1.uuid,
    fun hns hlt => (h2.lifecycle hns (h1.uuid ▸ hlt)).trans (h1.lifecycle hns hlt)⟩

/-- What requests of `id` do to the stored entries: every entry stays at its position and is `Kept`;
positions are only added, and those a non-internal identity adds hold no uuid below
`DYNAMIC_RANGE_MINIMUM_UUID`. -/
abbrev Evol (id : Ident) : State → State → Prop :=
  Grows (Kept id) fun e' => id.isInternal = false → dynamicRangeMinimum ≤ e'.uuid

theorem Evol.refl (id : Ident) (st : State) : Evol id st st := Grows.refl (Kept.refl id) st

/-- The shape of modify, batch modify and delete once every stage has let them through. -/
theorem Evol.update {id : Ident} {sel : Nat → Bool} {g : Nat → Ent → Ent} {st : State}
    (hg : ∀ i, ∀ e ∈ selectFrom sel 0 st, Kept id e (g i e)) :
    Evol id st (updateFrom (fun i e => if sel i then g i e else e) 0 st) := by
  refine ⟨fun i e he => ⟨_, by rw [updateFrom_getElem?, he, Option.map_some, Nat.zero_add], ?_⟩,
    fun i e' hi he' => ?_⟩
  · split
    · exact hg i e (mem_selectFrom_zero he ‹_›)
    · exact .refl id e
  · rw [updateFrom_getElem?, List.getElem?_eq_none hi] at he'; cases he'

theorem step_evol (id : Ident) (h : Havoc) (st : State) (r : Req) : Evol id st (step id h st r) := by
  fun_cases step id h st r
  case case1 es hst _ => -- create
    refine .append (Kept.refl id) fun e' he' hid => ?_
    have hu : e'.uuid ∈ es.map (·.1) := newFrom_uuids h es _ ▸ List.mem_map_of_mem he'
    obtain ⟨p, hp, hpe⟩ := List.mem_map.mp hu
    exact hpe ▸ (base_ok_user (hid ▸ createStage_proceed hst)).1 p hp
  case case4 hst _ => -- modify
    obtain ⟨hmask, hno⟩ := modifyStage_proceed hst
    exact .update fun i e he => ⟨modified_uuid hno, fun _ _ => maskChanged_false (hmask e he)⟩
  case case7 modset _ _ _ hst _ => -- batch modify
    refine .update fun i e he => ?_
    obtain ⟨hmask, hno⟩ := batchStage_proceed hst (e, modset.lookup e.uuid)
      (List.mem_map.mpr ⟨e, he, rfl⟩)
    exact ⟨modified_uuid hno, fun _ _ => maskChanged_false hmask⟩
  case case10 hst _ => -- delete: one that selects a system-range entry did not get here
    refine .update fun i e he => ⟨rfl, fun hns hu => absurd hst ?_⟩
    rw [deleteStage_builtin hns he hu]
    nofun
  -- refused by a stage, or by what comes after: nothing is stored
  all_goals exact .refl id st

theorem run_evol (id : Ident) (hs : List (Havoc × Req)) (st : State) : Evol id st (run id st hs) := by
  induction hs generalizing st with
  | nil => exact .refl id st
  | cons hr rest ih =>
    -- `hN`: an entry added earlier and kept since has the uuid it was added with
    exact (step_evol id hr.1 st hr.2).trans (ih _) (hT := fun _ _ _ => Kept.trans)
      (hN := fun _ _ n k hid => k.uuid ▸ n hid) (hM := fun _ n => n)

theorem step_length_le (id : Ident) (h : Havoc) (st : State) (r : Req) :
    st.length ≤ (step id h st r).length :=
  (step_evol id h st r).length_le

/-- the fresh uuids of a create request are version-4 style: at or above the dynamic minimum -/
def Req.freshOk : Req → Prop
  | .create _ fresh _ => ∀ k, dynamicRangeMinimum ≤ fresh k
  | _ => True

end Kanidm.BaseProtect
