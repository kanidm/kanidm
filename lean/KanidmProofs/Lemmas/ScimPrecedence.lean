import KanidmProofs.Lemmas.ScimFilter
/-!
The `precedence!{}` layer of the SCIM grammar (`atom` / `infixP` / `loop`), over any keywords and leaf parser.

The three functions recurse on a fuel argument that the `peg` parser does not have.  `fuel_stable` shows that,
on every input, their results no longer change once the fuel is above twice the length of the text (as
`fuelFor` is).  What the parser does is therefore said without fuel: `Atom`, `Infix`, `Loop` relate an input to
the result at every large enough fuel, with one rule per way the parser can go, and `Infix.eq` reads the value
of `infixP` off a derivation.  On these rest the round trip of the `or`/`and`/`not`/parenthesis layer
(`atom_print`) and flat chains of operands (`Loop.ands`, `Loop.ors`); beside them, at every fuel, the depth
limit (`atom_deep_none`); then the two instances, `ScimComplexFilter` and `ScimFilter`.
-/
namespace Kanidm.ScimFilter
open Kanidm.Gen.ScimFilter

section generic
variable {α : Type} {kw : Kws} {lp : LeafP α}
variable {inner inner' : Nat → Nat → Str → Option (Tree α × Str)} {rhs rhs' : Str → Option (Tree α × Str)}
  {close : Char} {m : Nat} {kwd kwo s r y w1 w2 : Str} {e : Tree α}

theorem group_ok (hm : m ≠ 0) (h : inner (m - 1) 0 s = some (e, close :: r)) :
    group inner close m s = some (e, r) := by
  simp [group, hm, h]

theorem group_eq_some : group inner close m s = some (e, r) → inner (m - 1) 0 s = some (e, close :: r) := by
  fun_cases group inner close m s <;> intro h <;> cases h
  assumption

theorem group_congr (close : Char) (m : Nat) (h : inner (m - 1) 0 s = inner' (m - 1) 0 s) :
    group inner close m s = group inner' close m s := by
  unfold group
  rw [h]

theorem infixOp_run (hh : ∀ s, HeadNot isSep (kwd ++ s)) (h1 : IsSepRun w1) (h2 : IsSepRun w2)
    (rhs : Str → Option (Tree α × Str)) (hy : HeadNot isSep y) :
    infixOp kwd rhs (w1 ++ (kwd ++ (w2 ++ y))) = rhs y := by
  simp [infixOp, seps1_run h1 (hh _), lit_append, seps1_run h2 hy]

theorem infixOp_run_other (hh : ∀ s, HeadNot isSep (kwo ++ s)) (hne : ∀ s, lit kwd (kwo ++ s) = none)
    (h1 : IsSepRun w1) (rhs : Str → Option (Tree α × Str)) (y : Str) :
    infixOp kwd rhs (w1 ++ (kwo ++ y)) = none := by
  simp [infixOp, seps1_run h1 (hh _), hne]

theorem infixOp_none_of_seps (h : seps1 s = none) : infixOp kwd rhs s = none := by
  simp [infixOp, h]

/-- `separator()+ KW separator()+` takes at least two characters. -/
theorem opHead_length (h : ((seps1 s).bind (lit kwd)).bind seps1 = some y) : y.length + 2 ≤ s.length := by
  simp only [Option.bind_eq_some_iff] at h
  obtain ⟨s2, ⟨s1, h1, h2⟩, h3⟩ := h
  have := seps1_length h1
  have := lit_length h2
  have := seps1_length h3
  omega

/-- `"not" separator()+ "("` takes at least two characters. -/
theorem notHead_length {x : Str} (h : (lit kwd s).bind seps1 = some ('(' :: x)) : x.length + 2 ≤ s.length := by
  obtain ⟨s0, h0, h1⟩ := Option.bind_eq_some_iff.mp h
  have := lit_length h0
  have := seps1_length h1
  simp only [List.length_cons] at this
  omega

/-- what a level of the operator loop leaves, when its right operand parser returns no more than it is given. -/
theorem level_rest {c : Prop} [Decidable c] {r' : Str}
    (hlen : ∀ {y t r}, rhs y = some (t, r) → r.length ≤ y.length)
    (h : (if c then infixOp kwd rhs s else none) = some (e, r')) : r'.length + 2 ≤ s.length := by
  split at h
  · obtain ⟨y, hy, h⟩ := Option.bind_eq_some_iff.mp h
    have := opHead_length hy
    have := hlen h
    omega
  · cases h

theorem infixOp_congr (kwd : Str) (h : ∀ y, y.length + 2 ≤ s.length → rhs y = rhs' y) :
    infixOp kwd rhs s = infixOp kwd rhs' s := by
  unfold infixOp
  cases hy : ((seps1 s).bind (lit kwd)).bind seps1 with
  | none => rfl
  | some y => exact h y (opHead_length hy)

theorem infixP_succ (f m p : Nat) (s : Str) :
    infixP kw lp (f + 1) m p s =
      match atom kw lp f m s with
      | none => none
      | some (lhs, r) => loop kw lp f m p lhs r := by
  rw [infixP.eq_def]
  rfl

theorem atom_paren {f : Nat} {x : Str} (hnot : lit kw.not_ ('(' :: x) = none)
    (hlp : lp f m ('(' :: x) = none) :
    atom kw lp (f + 1) m ('(' :: x) = group (infixP kw lp f) ')' m x := by
  rw [atom.eq_def]
  simp [hnot, hlp]

/-- all that a leaf parser may do with its fuel argument. -/
structure LeafFuel (lp : LeafP α) : Prop where
  length : ∀ {f m s l r}, lp f m s = some (l, r) → r.length ≤ s.length
  stable : ∀ {f m s}, 2 * s.length ≤ f → lp (f + 1) m s = lp f m s

theorem rest_length (hl : LeafFuel lp) (f : Nat) :
    (∀ {m s t r}, atom kw lp f m s = some (t, r) → r.length ≤ s.length) ∧
    (∀ {m p s t r}, infixP kw lp f m p s = some (t, r) → r.length ≤ s.length) ∧
    (∀ {m p lhs s t r}, loop kw lp f m p lhs s = some (t, r) → r.length ≤ s.length) := by
  induction f with
  | zero =>
    refine ⟨?_, ?_, ?_⟩ <;> intros <;> rename_i h
    · rw [atom] at h; cases h
    · rw [infixP] at h; cases h
    · rw [loop] at h; cases h
  | succ f ih =>
    obtain ⟨iha, ihi, ihl⟩ := ih
    have hgroup : ∀ {c m s e r}, group (infixP kw lp f) c m s = some (e, r) → r.length < s.length :=
      fun h => ihi (group_eq_some h)
    refine ⟨?_, ?_, ?_⟩
    · -- `atom`
      intro m s t r h
      rw [atom.eq_def] at h
      dsimp only at h
      split at h
      · next hn =>  -- the `not` atom answered
        cases h
        split at hn
        · next s1 hs =>  -- `"not" separator()+ "("` was there
          split at hn
          · next hg => cases hn; have := hgroup hg; have := notHead_length hs; omega
          · cases hn
        · cases hn
      · split at h
        · cases h; exact hl.length ‹_›  -- the leaf rules answered
        · split at h
          · have := hgroup h; simp only [List.length_cons]; omega  -- `"(" … ")"`
          · cases h  -- no alternative left
    · -- `infixP`: the atom, then the loop on its rest
      intro m p s t r h
      rw [infixP_succ] at h
      split at h
      · cases h
      · next ha => exact Nat.le_trans (ihl h) (iha ha)
    · -- `loop`
      intro m p lhs s t r h
      rw [loop] at h
      split at h
      · next ho => have := level_rest ihi ho; have := ihl h; omega  -- an `or` was taken
      · split at h
        · next ho => have := level_rest ihi ho; have := ihl h; omega  -- an `and` was taken
        · cases h; exact Nat.le_refl _  -- no operator: the text is returned as it came

theorem atom_length (hl : LeafFuel lp) {f m : Nat} {t : Tree α} (h : atom kw lp f m s = some (t, r)) :
    r.length ≤ s.length :=
  (rest_length hl f).1 h

theorem infixP_length (hl : LeafFuel lp) {f m p : Nat} {t : Tree α} (h : infixP kw lp f m p s = some (t, r)) :
    r.length ≤ s.length :=
  (rest_length hl f).2.1 h

/-- `atom` asks `infixP` only about shorter texts. -/
theorem atom_congr {f f' m : Nat} {s : Str}
    (hi : ∀ s1, s1.length < s.length → infixP kw lp f (m - 1) 0 s1 = infixP kw lp f' (m - 1) 0 s1)
    (hlp : lp f m s = lp f' m s) : atom kw lp (f + 1) m s = atom kw lp (f' + 1) m s := by
  rw [atom.eq_def, atom.eq_def kw lp (f' + 1)]
  dsimp only
  rw [hlp]
  congr 1
  · -- the `not` atom
    split
    · next s1 hs =>
      have := notHead_length hs
      rw [group_congr ')' m (hi s1 (by omega))]
    · rfl
  · -- the leaf rules answer alike (`hlp`); behind them `"(" … ")"`
    funext _
    congr 1
    funext _
    split
    · exact group_congr ')' m (hi _ (Nat.lt_succ_self _))
    · rfl

/-- `loop` asks `infixP` and itself only about texts shorter by two. -/
theorem loop_congr {f f' m p : Nat} {lhs : Tree α} {s : Str}
    (hi : ∀ q y, y.length + 2 ≤ s.length → infixP kw lp f m q y = infixP kw lp f' m q y)
    (hl : ∀ lhs r, r.length + 2 ≤ s.length → loop kw lp f m p lhs r = loop kw lp f' m p lhs r)
    (hlen : ∀ {q y t r}, infixP kw lp f' m q y = some (t, r) → r.length ≤ y.length) :
    loop kw lp (f + 1) m p lhs s = loop kw lp (f' + 1) m p lhs s := by
  rw [loop, loop, infixOp_congr kw.or_ (hi 1), infixOp_congr kw.and_ (hi 2)]
  split
  · next ho => exact hl _ _ (level_rest hlen ho)  -- an `or` is taken
  · split
    · next ho => exact hl _ _ (level_rest hlen ho)  -- an `and` is taken
    · rfl  -- no operator

/-- Every call consumes input or is one of two calls per consumed character: above twice the length of the
text one more unit of fuel changes nothing, whether the parse succeeds or fails. -/
theorem fuel_stable (hl : LeafFuel lp) (f : Nat) :
    (∀ m s, 2 * s.length < f → atom kw lp (f + 1) m s = atom kw lp f m s) ∧
    (∀ m p s, 2 * s.length + 1 < f → infixP kw lp (f + 1) m p s = infixP kw lp f m p s) ∧
    (∀ m p lhs s, 2 * s.length < f → loop kw lp (f + 1) m p lhs s = loop kw lp f m p lhs s) := by
  induction f with
  | zero => exact ⟨fun _ _ h => by omega, fun _ _ _ h => by omega, fun _ _ _ _ h => by omega⟩
  | succ f ih =>
    obtain ⟨iha, ihi, ihl⟩ := ih
    refine ⟨fun m s h => ?_, fun m p s h => ?_, fun m p lhs s h => ?_⟩
    · exact atom_congr (fun s1 h1 => ihi _ _ _ (by omega)) (hl.stable (by omega))  -- `atom`
    · -- `infixP`: the same atom, then the loop on a rest that is no longer
      rw [infixP_succ, infixP_succ, iha m s (by omega)]
      split
      · rfl
      · next ha =>
        have := atom_length hl ha
        exact ihl _ _ _ _ (by omega)
    · -- `loop`
      exact loop_congr (fun q y hy => ihi _ _ _ (by omega)) (fun lhs r hr => ihl _ _ _ _ (by omega))
        (infixP_length hl)

theorem infixP_stable (hl : LeafFuel lp) {f m p : Nat} (h : 2 * s.length + 1 < f) :
    infixP kw lp (f + 1) m p s = infixP kw lp f m p s :=
  (fuel_stable hl f).2.1 m p s h

theorem infixP_fuel (hl : LeafFuel lp) {m p : Nat} {s : Str} {f : Nat} (hf : 2 * s.length + 2 ≤ f) (k : Nat) :
    infixP kw lp (f + k) m p s = infixP kw lp f m p s := by
  induction k with
  | zero => rfl
  | succ k ih => rw [← ih, ← Nat.add_assoc, infixP_stable hl (by omega)]

end generic

/-- `g` takes the value `b` at every large enough fuel. -/
def Conv {β : Type} (g : Nat → β) (b : β) : Prop := ∃ F, ∀ f, F ≤ f → g f = b

theorem Conv.of_forall {β : Type} {g : Nat → β} {b : β} (h : ∀ f, g f = b) : Conv g b := ⟨0, fun f _ => h f⟩

theorem Conv.imp {β β₁ : Type} {g : Nat → β} {g₁ : Nat → β₁} {b₁ : β₁} {c : β}
    (h₁ : Conv g₁ b₁) (hs : ∀ f, g₁ f = b₁ → g f = c) : Conv g c :=
  h₁.elim fun F h => ⟨F, fun f hf => hs f (h f hf)⟩

/-- a function that calls `g₁` and `g₂` with one unit of fuel less settles when they have. -/
theorem Conv.step₂ {β β₁ β₂ : Type} {g : Nat → β} {g₁ : Nat → β₁} {g₂ : Nat → β₂} {b₁ : β₁} {b₂ : β₂} {c : β}
    (h₁ : Conv g₁ b₁) (h₂ : Conv g₂ b₂) (hs : ∀ f, g₁ f = b₁ → g₂ f = b₂ → g (f + 1) = c) : Conv g c := by
  obtain ⟨F₁, h₁⟩ := h₁
  obtain ⟨F₂, h₂⟩ := h₂
  refine ⟨max F₁ F₂ + 1, fun f hf => ?_⟩
  obtain ⟨k, rfl⟩ : ∃ k, f = k + 1 := ⟨f - 1, by omega⟩
  exact hs k (h₁ k (by omega)) (h₂ k (by omega))

theorem Conv.step {β β₁ : Type} {g : Nat → β} {g₁ : Nat → β₁} {b₁ : β₁} {c : β}
    (h₁ : Conv g₁ b₁) (hs : ∀ f, g₁ f = b₁ → g (f + 1) = c) : Conv g c :=
  h₁.step₂ h₁ fun f e _ => hs f e

theorem Conv.succ {β : Type} {g : Nat → β} {c : β} (hs : ∀ f, g (f + 1) = c) : Conv g c :=
  (Conv.of_forall fun _ => rfl : Conv (fun _ => ()) ()).step fun f _ => hs f

section rules
variable {α : Type} (kw : Kws) (lp : LeafP α)

/-- the atom closure of `parse_inner(m)` on `s` answers `o`; likewise `__infix_parse(p)` and its operator loop
with left operand `lhs`. -/
abbrev Atom (m : Nat) (s : Str) (o : Option (Tree α × Str)) : Prop := Conv (fun f => atom kw lp f m s) o
abbrev Infix (m p : Nat) (s : Str) (o : Option (Tree α × Str)) : Prop := Conv (fun f => infixP kw lp f m p s) o
abbrev Loop (m p : Nat) (lhs : Tree α) (s : Str) (o : Option (Tree α × Str)) : Prop :=
  Conv (fun f => loop kw lp f m p lhs s) o

variable {kw lp} {kwD : Kws} {m p : Nat} {s r x y w₁ w₂ : Str} {lhs rhs e : Tree α} {l : α}
  {o : Option (Tree α × Str)}

theorem Infix.eq (hl : LeafFuel lp) (h : Infix kw lp m p s o) {f : Nat} (hf : 2 * s.length + 2 ≤ f) :
    infixP kw lp f m p s = o :=
  h.elim fun F h => (infixP_fuel hl hf F).symm.trans (h _ (Nat.le_add_left F f))

theorem Infix.eq_fuelFor (hl : LeafFuel lp) (h : Infix kw lp m p s o) : infixP kw lp (fuelFor s) m p s = o :=
  h.eq hl (by unfold fuelFor; omega)

theorem Infix.mk (ha : Atom kw lp m s (some (lhs, r))) (hl : Loop kw lp m p lhs r o) : Infix kw lp m p s o :=
  ha.step₂ hl fun f e₁ e₂ => by rw [infixP_succ, e₁]; exact e₂

/-- no operator of a level that `min_prec` admits follows: the loop returns its left operand. -/
theorem Loop.done (hor : p = 0 → ∀ rhs : Str → Option (Tree α × Str), infixOp kw.or_ rhs s = none)
    (hand : p ≤ 1 → ∀ rhs : Str → Option (Tree α × Str), infixOp kw.and_ rhs s = none) :
    Loop kw lp m p lhs s (some (lhs, s)) :=
  Conv.succ fun f => by
    rw [loop, ite_eq_right_iff.mpr fun h => hor (Nat.le_zero.mp h) _, ite_eq_right_iff.mpr fun h => hand h _]

theorem Loop.stop (h : seps1 s = none) : Loop kw lp m p lhs s (some (lhs, s)) :=
  Loop.done (fun _ _ => infixOp_none_of_seps h) (fun _ _ => infixOp_none_of_seps h)

theorem Infix.atom (ha : Atom kw lp m s (some (lhs, r))) (hr : seps1 r = none) :
    Infix kw lp m p s (some (lhs, r)) :=
  Infix.mk ha (Loop.stop hr)

/-- what the rules need of the keywords: those of the grammar are those of the printer, none starts with a
separator, `or` and `and` are not confused, `not` is not a parenthesis. -/
structure KwOk (kwD kwG : Kws) : Prop where
  eq : kwG = kwD
  or_head : ∀ s, HeadNot isSep (kwG.or_ ++ s)
  and_head : ∀ s, HeadNot isSep (kwG.and_ ++ s)
  or_not_and : ∀ s, lit kwG.or_ (kwG.and_ ++ s) = none
  and_not_or : ∀ s, lit kwG.and_ (kwG.or_ ++ s) = none
  not_paren : ∀ s, lit kwG.not_ ('(' :: s) = none

/-- An `or` step, at `min_prec` 0 only: the right operand is what `__infix_parse(1)` makes of the text behind
the keyword (an atom with the `and`s that follow), and the loop goes on behind it. -/
theorem Loop.or (kok : KwOk kwD kw) (h₁ : IsSepRun w₁) (h₂ : IsSepRun w₂) (hy : HeadNot isSep y)
    (hr : Infix kw lp m 1 y (some (rhs, r))) (hl : Loop kw lp m 0 (.or lhs rhs) r o) :
    Loop kw lp m 0 lhs (w₁ ++ (kw.or_ ++ (w₂ ++ y))) o :=
  hr.step₂ hl fun f e₁ e₂ => by
    rw [loop, if_pos (Nat.le_refl 0), infixOp_run kok.or_head h₁ h₂ _ hy, e₁]
    exact e₂

/-- An `and` step, at every `min_prec` that admits `and`: `or` is tried first and does not read the `and`; the
right operand is parsed at `min_prec` 2, where the loop takes no operator. -/
theorem Loop.and (kok : KwOk kwD kw) (hp : p ≤ 1) (h₁ : IsSepRun w₁) (h₂ : IsSepRun w₂) (hy : HeadNot isSep y)
    (hr : Infix kw lp m 2 y (some (rhs, r))) (hl : Loop kw lp m p (.and lhs rhs) r o) :
    Loop kw lp m p lhs (w₁ ++ (kw.and_ ++ (w₂ ++ y))) o :=
  hr.step₂ hl fun f e₁ e₂ => by
    rw [loop, infixOp_run_other kok.and_head kok.or_not_and h₁, ite_self, if_pos hp,
      infixOp_run kok.and_head h₁ h₂ _ hy, e₁]
    exact e₂

theorem Atom.leaf (h₁ : ∀ s₁, (lit kw.not_ y).bind seps1 ≠ some ('(' :: s₁))
    (h₂ : Conv (fun f => lp f m y) (some (l, r))) : Atom kw lp m y (some (.leaf l, r)) :=
  h₂.step fun f e => by
    rw [atom.eq_def]
    -- the fallback alternative of the `not` match applies: its side condition is `h₁`
    simp (disch := exact h₁) only [e]

theorem Atom.not (h₁ : (lit kw.not_ y).bind seps1 = some ('(' :: x)) (hm : m ≠ 0)
    (h₂ : Infix kw lp (m - 1) 0 x (some (e, ')' :: r))) : Atom kw lp m y (some (.not e, r)) :=
  h₂.step fun f h => by
    rw [atom.eq_def]
    simp [h₁, group_ok hm h]

theorem Atom.paren (hnot : lit kw.not_ ('(' :: x) = none) (hlp : ∀ f, lp f m ('(' :: x) = none) (hm : m ≠ 0)
    (h : Infix kw lp (m - 1) 0 x (some (e, ')' :: r))) : Atom kw lp m ('(' :: x) (some (e, r)) :=
  h.step fun f h => (atom_paren hnot (hlp f)).trans (group_ok hm h)

/-- `"(" leaf ")"`, for leaf rules that do not use their fuel. -/
theorem Atom.paren_leaf (hnot : lit kw.not_ ('(' :: x) = none)
    (hlp : ∀ f, lp f m ('(' :: x) = none) (hm : m ≠ 0)
    (hguard : ∀ s₁, (lit kw.not_ x).bind seps1 ≠ some ('(' :: s₁))
    (hleaf : ∀ f, lp f (m - 1) x = some (l, ')' :: r)) : Atom kw lp m ('(' :: x) (some (.leaf l, r)) :=
  Atom.paren hnot hlp hm (Infix.atom (Atom.leaf hguard (Conv.of_forall hleaf)) rfl)

end rules

/-- what the round trip needs of a leaf rule `lp` and its printer `pl`: a printed leaf is read back as an atom, under
any depth argument from `needL` on; neither starts with a parenthesis or a separator. -/
structure LeafOk {α : Type} (kwG : Kws) (lp : LeafP α) (pl : α → Str) (wfL : α → Prop) (needL : α → Nat) :
    Prop where
  atom_leaf : ∀ l, wfL l → ∀ m rest, needL l ≤ m → Atom kwG lp m (pl l ++ rest) (some (.leaf l, rest))
  lp_paren : ∀ f m s, lp f m ('(' :: s) = none
  head : ∀ l, wfL l → ∀ s, HeadNot isSep (pl l ++ s)

section roundtrip
variable {α : Type} {kwD kwG : Kws} {lp : LeafP α} {pl : α → Str} {wfL : α → Prop} {needL : α → Nat}

theorem printTree_head (lok : LeafOk kwG lp pl wfL needL) (t : Tree α) (ht : wfT wfL t) (s : Str) :
    HeadNot isSep (printTree kwD pl t ++ s) := by
  cases t with
  | leaf l => exact lok.head l ht s
  | or a b => exact headNot_cons _ (by decide)
  | and a b => exact headNot_cons _ (by decide)
  | not a => exact headNot_cons _ (by decide)

theorem atom_print (kok : KwOk kwD kwG) (lok : LeafOk kwG lp pl wfL needL) :
    ∀ t, wfT wfL t → ∀ m rest, needT needL t ≤ m →
      Atom kwG lp m (printTree kwD pl t ++ rest) (some (t, rest)) := by
  obtain rfl := kok.eq
  intro t
  induction t with
  | leaf l => exact lok.atom_leaf l
  | or a b iha ihb =>
    intro ht m rest hm
    simp only [needT] at hm
    simp only [printTree, List.cons_append, List.append_assoc, List.nil_append]
    exact Atom.paren (kok.not_paren _) (fun _ => lok.lp_paren _ _ _) (by omega)
      (Infix.mk (iha ht.1 (m - 1) _ (by omega))
        (Loop.or kok isSepRun_space isSepRun_space (printTree_head lok b ht.2 _)
          (Infix.atom (ihb ht.2 (m - 1) _ (by omega)) rfl) (Loop.stop rfl)))
  | and a b iha ihb =>
    intro ht m rest hm
    simp only [needT] at hm
    simp only [printTree, List.cons_append, List.append_assoc, List.nil_append]
    exact Atom.paren (kok.not_paren _) (fun _ => lok.lp_paren _ _ _) (by omega)
      (Infix.mk (iha ht.1 (m - 1) _ (by omega))
        (Loop.and kok (Nat.zero_le 1) isSepRun_space isSepRun_space (printTree_head lok b ht.2 _)
          (Infix.atom (ihb ht.2 (m - 1) _ (by omega)) rfl) (Loop.stop rfl)))
  | not a iha =>
    intro ht m rest hm
    simp only [needT] at hm
    simp only [printTree, List.cons_append, List.append_assoc, List.nil_append]
    refine Atom.paren (kok.not_paren _) (fun _ => lok.lp_paren _ _ _) (by omega) (Infix.atom ?_ rfl)
    refine Atom.not (x := printTree kwG pl a ++ ')' :: ')' :: rest) ?_ (by omega)
      (Infix.atom (iha ht (m - 1 - 1) _ (by omega)) rfl)
    rw [lit_append]
    exact seps1_space (headNot_cons _ (by decide))

theorem infix_print (kok : KwOk kwD kwG) (lok : LeafOk kwG lp pl wfL needL) (t : Tree α) (ht : wfT wfL t)
    {m : Nat} (hm : needT needL t ≤ m) : Infix kwG lp m 0 (printTree kwD pl t) (some (t, [])) := by
  have ha := atom_print kok lok t ht m [] hm
  rw [List.append_nil] at ha
  exact Infix.atom ha rfl

end roundtrip

/-- a further operand of a chain, with the separator runs around the keyword in front of it; `d` is a depth
argument of `parse_depth` under which the operand is read back. -/
structure Link {α : Type} (wfL : α → Prop) (needL : α → Nat) (d : Nat) where
  w₁ : Str
  w₂ : Str
  y : Tree α
  sep₁ : IsSepRun w₁
  sep₂ : IsSepRun w₂
  wf : wfT wfL y
  depth : needT needL y + 1 ≤ d

section chain
variable {α : Type} {kwD kwG : Kws} {lp : LeafP α} {pl : α → Str} {wfL : α → Prop} {needL : α → Nat} {d : Nat}

/-- `w₁ kwd w₂ y rest` -/
def Link.text (kwD : Kws) (pl : α → Str) (kwd : Str) (l : Link wfL needL d) (rest : Str) : Str :=
  l.w₁ ++ (kwd ++ (l.w₂ ++ (printTree kwD pl l.y ++ rest)))

/-- `(w₁ and w₂ y)* rest`, and what it makes of the operand in front of it. -/
def andsText (kwD kwG : Kws) (pl : α → Str) (as : List (Link wfL needL d)) (rest : Str) : Str :=
  as.foldr (Link.text kwD pl kwG.and_) rest
def andFold (x : Tree α) (as : List (Link wfL needL d)) : Tree α := as.foldl (fun t l => .and t l.y) x

/-- `(w₁ or w₂ y (w₁ and w₂ y)*)*` likewise. -/
def orsText (kwD kwG : Kws) (pl : α → Str) (gs : List (Link wfL needL d × List (Link wfL needL d))) : Str :=
  gs.foldr (fun g acc => g.1.text kwD pl kwG.or_ (andsText kwD kwG pl g.2 acc)) []
def orFold (x : Tree α) (gs : List (Link wfL needL d × List (Link wfL needL d))) : Tree α :=
  gs.foldl (fun t g => .or t (andFold g.1.y g.2)) x

theorem Link.atom (kok : KwOk kwD kwG) (lok : LeafOk kwG lp pl wfL needL) (l : Link wfL needL d) (rest : Str) :
    Atom kwG lp (d - 1) (printTree kwD pl l.y ++ rest) (some (l.y, rest)) :=
  atom_print kok lok l.y l.wf _ _ (Nat.le_sub_one_of_lt l.depth)

/-- `and` associates to the left, at `min_prec` 0 and inside the right operand of an `or`. -/
theorem Loop.ands (kok : KwOk kwD kwG) (lok : LeafOk kwG lp pl wfL needL) {p : Nat} (hp : p ≤ 1) {rest : Str}
    {o : Option (Tree α × Str)} :
    ∀ (as : List (Link wfL needL d)) (lhs : Tree α), Loop kwG lp (d - 1) p (andFold lhs as) rest o →
      Loop kwG lp (d - 1) p lhs (andsText kwD kwG pl as rest) o
  | [], _, h => h
  | l :: as, _, h =>
    Loop.and kok hp l.sep₁ l.sep₂ (printTree_head lok l.y l.wf _)
      (Infix.mk (l.atom kok lok _) (Loop.done (by omega) (by omega))) (Loop.ands kok lok hp as _ h)

/-- `or` associates to the left and each of its right operands takes the `and`s that follow it. -/
theorem Loop.ors (kok : KwOk kwD kwG) (lok : LeafOk kwG lp pl wfL needL) :
    ∀ (gs : List (Link wfL needL d × List (Link wfL needL d))) (lhs : Tree α),
      Loop kwG lp (d - 1) 0 lhs (orsText kwD kwG pl gs) (some (orFold lhs gs, []))
  | [], _ => Loop.stop rfl
  | g :: gs, _ => by
    refine Loop.or kok g.1.sep₁ g.1.sep₂ (printTree_head lok g.1.y g.1.wf _)
      (Infix.mk (g.1.atom kok lok _) (Loop.ands kok lok (Nat.le_refl 1) g.2 _ ?_)) (Loop.ors kok lok gs _)
    -- the loop at `min_prec` 1 leaves the next `or` to the loop at `min_prec` 0
    cases gs with
    | nil => exact Loop.stop rfl
    | cons g' gs =>
      exact Loop.done (by omega) fun _ _ => infixOp_run_other kok.or_head kok.and_not_or g'.1.sep₁ _ _

end chain

theorem leadingParens_pos {s : Str} (h : 0 < leadingParens s) :
    ∃ r, s = '(' :: r ∧ leadingParens s = leadingParens r + 1 := by
  unfold leadingParens at h
  split at h
  · exact ⟨_, rfl, rfl⟩
  · omega

theorem atom_deep_none {α : Type} (kw : Kws) (lp : LeafP α) (hnot : ∀ s, lit kw.not_ ('(' :: s) = none)
    (hlp : ∀ f m s, lp f m ('(' :: s) = none) :
    ∀ f m s, m < leadingParens s → atom kw lp f m s = none := by
  intro f
  induction f using Nat.strongRecOn with
  | _ f ih =>
    intro m s h
    cases f with
    | zero => rw [atom.eq_def]
    | succ f =>
      obtain ⟨r, rfl, hr⟩ := leadingParens_pos (s := s) (by omega)
      rw [atom_paren (hnot _) (hlp _ _ _), group]
      split
      · rfl
      · -- one level is spent on this parenthesis; the parentheses of `r` exhaust the rest
        have : infixP kw lp f (m - 1) 0 r = none := by
          cases f with
          | zero => rw [infixP.eq_def]
          | succ f => rw [infixP_succ, ih f (by omega) (m - 1) r (by omega)]
        rw [this]

theorem fKwOk : KwOk fKwD fKwG where
  eq := rfl
  or_head := fun _ => headNot_cons _ (by decide)
  and_head := fun _ => headNot_cons _ (by decide)
  or_not_and := fun s => by simp [fKwG, gramOr, gramAnd, lit]
  and_not_or := fun s => by simp [fKwG, gramOr, gramAnd, lit]
  not_paren := fun s => by simp [fKwG, gramNot, lit]

/-- `ScimComplexFilter` has the keywords of `ScimFilter`. -/
theorem cKwOk : KwOk cKwD cKwG := fKwOk

theorem cLeafOk : LeafOk cKwG cLeafP printCLeaf wfCLeaf (fun _ => 1) where
  atom_leaf := by
    intro l hl m rest hm
    rw [printCLeaf_cons, List.cons_append]
    exact Atom.paren_leaf (cKwOk.not_paren _) (fun _ => cLeafP_paren _ _ _) (by omega)
      (cLeaf_guard hl rest) (fun f => cLeafP_print hl f (m - 1) rest)
  lp_paren := cLeafP_paren
  head := by
    intro l hl s
    rw [printCLeaf_cons]
    exact headNot_cons _ (by decide)

theorem cLeafFuel : LeafFuel cLeafP := ⟨cLeafP_length, fun _ => rfl⟩

/-- `attrname[ … ]` reads back what `Display for ScimComplexFilter` wrote between the brackets. -/
theorem fLeafP_complex {a : Str} (ha : validName a = true) {c : CFilter} (hc : wfT wfCLeaf c) {m : Nat}
    (rest : Str) (hm : needT (fun _ => 1) c + 1 ≤ m) :
    Conv (fun f => fLeafP f m (a ++ '[' :: (printC c ++ ']' :: rest))) (some (.complex a c, rest)) := by
  have h1 : lexAttr (a ++ '[' :: (printC c ++ ']' :: rest)) = some (a, '[' :: (printC c ++ ']' :: rest)) :=
    lexAttr_name ha (headNot_cons _ (by decide))
  refine (Infix.atom (p := 0) (atom_print cKwOk cLeafOk c hc (m - 1) (']' :: rest) (by omega)) rfl).imp fun f e => ?_
  have hg : group (infixP cKwG cLeafP f) ']' m (printC c ++ ']' :: rest) = some (c, rest) :=
    group_ok (by omega) e
  simp only [fLeafP, h1, hg]

theorem fLeafOk : LeafOk fKwG fLeafP printFLeaf wfFLeaf needF where
  atom_leaf := by
    intro l hl m rest hm
    cases l with
    | pres p =>
      have hp : validPath p := hl
      simp only [needF] at hm
      simp only [printFLeaf, List.cons_append, List.append_assoc, List.nil_append]
      exact Atom.paren_leaf (fKwOk.not_paren _) (fun _ => fLeafP_paren _ _ _) (by omega)
        (path_guard hp (headNot_cons _ (by decide)) (by simp [dispPr]))
        (fun f => fLeafP_pres hp f _ rest)
    | cmp op p v =>
      have hp : validPath p := hl.1
      simp only [needF] at hm
      simp only [printFLeaf, List.cons_append, List.append_assoc, List.nil_append]
      exact Atom.paren_leaf (fKwOk.not_paren _) (fun _ => fLeafP_paren _ _ _) (by omega)
        (path_guard hp (dispKw_head op _).1 (dispKw_head op _).2)
        (fun f => fLeafP_cmp op hp hl.2 f _ rest)
    | complex a c =>
      simp only [needF] at hm
      simp only [printFLeaf, List.append_assoc, List.cons_append, List.nil_append]
      exact Atom.leaf
        (notGuard _ gramNot_all a _ (validName_all hl.1) (headNot_cons _ (by decide)) (by simp [seps1, isSep]))
        (fLeafP_complex hl.1 hl.2 rest hm)
  lp_paren := fLeafP_paren
  head := by
    intro l hl s
    cases l with
    | pres p => exact headNot_cons _ (by decide)
    | cmp op p v => exact headNot_cons _ (by decide)
    | complex a c =>
      obtain ⟨c0, r0, rfl, h0, -⟩ := validName_cons hl.1
      exact headNot_cons _ (attrRest_not_sep (attrFirst_rest h0))

theorem fLeafFuel : LeafFuel fLeafP where
  length := by
    intro f m s l r
    unfold fLeafP
    dsimp only
    split
    · next x hx =>  -- `attrname "[" … "]"` answered
      intro h; cases h
      split at hx
      · next hl =>  -- a name and `[` were there
        split at hx
        · next hg =>
          cases hx
          have := lexAttr_length hl
          have := infixP_length cLeafFuel (group_eq_some hg)
          simp only [List.length_cons] at *; omega
        · cases hx
      · cases hx
    · exact attrexp_length  -- `attrexp()`
  stable := by
    intro f m s h
    unfold fLeafP
    dsimp only
    congr 1
    split
    · next hl =>  -- a name and `[`: what is between the brackets is shorter by two
      have := lexAttr_length hl
      rw [group_congr ']' m (infixP_stable cLeafFuel (by simp only [List.length_cons] at *; omega))]
    · rfl  -- no bracket: the fuel is not looked at

end Kanidm.ScimFilter
