import KanidmModel.Codec
/-! Lemmas for C14. The decoder is read twice: as a closed form under the regenerated constants, and as
a relation between the shape of the buffer and the outcome (`Framing`); from the latter, a decided
outcome persists when bytes are appended. The read loop rests on that: `drain` without fuel, its append
law, and so any sequence of reads against one read of the concatenation. -/
namespace Kanidm.Codec
open Kanidm.Gen.Codec

theorem beDecode_append_one (l : Bytes) (b : UInt8) :
    beDecode (l ++ [b]) = beDecode l * 256 + b.toNat := by
  simp [beDecode, List.foldl_append]

theorem beEncode_length (k n : Nat) : (beEncode k n).length = k := by
  induction k generalizing n with
  | zero => rfl
  | succ k ih => simp [beEncode, ih]

theorem beDecode_beEncode (k n : Nat) : beDecode (beEncode k n) = n % 256 ^ k := by
  induction k generalizing n with
  | zero => simp [beEncode, beDecode, Nat.mod_one]
  | succ k ih =>
    rw [beEncode, beDecode_append_one, ih, Nat.pow_succ, Nat.mul_comm (256 ^ k) 256, Nat.mod_mul]
    have : (UInt8.ofNat (n % 256)).toNat = n % 256 := by
      simp
    rw [this]; omega

/-- A payload the peer may legitimately send under limit `max`. -/
def ValidPayload (max : Nat) (p : Bytes) : Prop := 0 < p.length ∧ p.length ≤ max ∧ p.length < 2 ^ 64

/-- The checks of the decoder, in source order, under the regenerated operators/constants.
This is the obligation that re-reads the code: `<`→`<=`, `>`→`>=`, a dropped or reordered
check, `advance(req_len)` without the header, comparing `src.len()` instead of the payload
length — each makes this (or a theorem below) fail. -/
theorem decoder_checks_in_order (max : Nat) (src : Bytes) :
    decodeStep max src =
      if src.length < 8 then .needMore
      else if beDecode (src.take 8) = 0 then .err .invalidInput
      else if beDecode (src.take 8) > max then .err .outOfMemory
      else if src.length - 8 < beDecode (src.take 8) then .needMore
      else .frame ((src.drop 8).take (beDecode (src.take 8)))
        (src.drop (8 + beDecode (src.take 8))) := by
  unfold decodeStep
  simp only [hdrShort, hdrShortRet, hdrSplit, lenArr, decLenBytes, decEndian, postChecks, payloadSplit,
    exactTrim, advanceBy, decodeLen, firstHit, earlyStep]
  by_cases h : src.length < 8
  · simp [h]
  · simp only [h, decide_false, if_false, Bool.false_eq_true]
    have hl : (List.take 8 src).length = 8 := by simp; omega
    simp only [hl]
    split
    · simp_all
    · obtain ⟨n, hn⟩ : ∃ n, beDecode (List.take 8 src) = n := ⟨_, rfl⟩
      simp only [hn]
      simp only [List.length_drop, decide_eq_true_eq]
      by_cases h0 : n = 0
      · simp [h0]
      by_cases h1 : n > max
      · simp [h0, h1]
      by_cases h2 : src.length - 8 < n
      · simp [h0, h1, h2]
      · -- the `src.clear()` arm is unreachable (the buffer still holds the header); `advance` is in range
        have h3 : ¬ src.length = n := by omega
        have h4 : ¬ src.length < 8 + n := by omega
        simp [h0, h1, h2, h3, h4]

theorem hdr_length (n : Nat) : (encodeLen encEndian encLenBytes n).length = 8 := by
  simp [encodeLen, encEndian, encLenBytes, beEncode_length]

theorem hdr_roundtrip (n : Nat) (h : n < 2 ^ 64) :
    decodeLen decEndian (encodeLen encEndian encLenBytes n) = n := by
  simp only [decodeLen, decEndian, encodeLen, encEndian, encLenBytes, beDecode_beEncode]
  exact Nat.mod_eq_of_lt (show n < 256 ^ 8 from h)

theorem decodeStep_short {max : Nat} {src : Bytes} (h : src.length < 8) :
    decodeStep max src = .needMore := by
  rw [decoder_checks_in_order, if_pos h]

theorem decodeStep_hdr (max : Nat) {hdr : Bytes} (body : Bytes) (h : hdr.length = 8) :
    decodeStep max (hdr ++ body) =
      if beDecode hdr = 0 then .err .invalidInput
      else if beDecode hdr > max then .err .outOfMemory
      else if body.length < beDecode hdr then .needMore
      else .frame (body.take (beDecode hdr)) (body.drop (beDecode hdr)) := by
  have ht : (hdr ++ body).take 8 = hdr := by rw [← h, List.take_left]
  have hd : (hdr ++ body).drop 8 = body := by rw [← h, List.drop_left]
  have hl : (hdr ++ body).length - 8 = body.length := by rw [List.length_append, h]; omega
  rw [decoder_checks_in_order, if_neg (by rw [List.length_append]; omega), ht, ← List.drop_drop, hd, hl]

/-- The outcome of the framing part of `decode`, by the shape of the buffer. -/
inductive Framing (max : Nat) : Bytes → Step → Prop
  | short {src : Bytes} (h : src.length < 8) : Framing max src .needMore
  | zero {hdr : Bytes} (body : Bytes) (h : hdr.length = 8) (hz : beDecode hdr = 0) :
      Framing max (hdr ++ body) (.err .invalidInput)
  | oversize {hdr : Bytes} (body : Bytes) (h : hdr.length = 8) (hb : max < beDecode hdr) :
      Framing max (hdr ++ body) (.err .outOfMemory)
  | waiting {hdr body : Bytes} (h : hdr.length = 8) (h0 : 0 < beDecode hdr)
      (hm : beDecode hdr ≤ max) (hb : body.length < beDecode hdr) : Framing max (hdr ++ body) .needMore
  | frame {hdr p : Bytes} (rest : Bytes) (h : hdr.length = 8) (hn : beDecode hdr = p.length)
      (h0 : 0 < p.length) (hm : p.length ≤ max) : Framing max (hdr ++ (p ++ rest)) (.frame p rest)

theorem Framing.sound {max : Nat} {src : Bytes} {r : Step} (v : Framing max src r) :
    decodeStep max src = r := by
  cases v with
  | short h => exact decodeStep_short h
  | zero body h hz => rw [decodeStep_hdr max body h, if_pos hz]
  | oversize body h hb => rw [decodeStep_hdr max body h, if_neg (by omega), if_pos hb]
  | waiting h h0 hm hb =>
    rw [decodeStep_hdr max _ h, if_neg (by omega), if_neg (by omega), if_pos hb]
  | frame rest h hn h0 hm =>
    rw [decodeStep_hdr max _ h, hn, if_neg (by omega), if_neg (by omega),
      if_neg (by rw [List.length_append]; omega), List.take_left, List.drop_left]

theorem framing (max : Nat) (src : Bytes) : Framing max src (decodeStep max src) := by
  by_cases h8 : src.length < 8
  · rw [decodeStep_short h8]; exact .short h8
  have hl : (src.take 8).length = 8 := by rw [List.length_take]; omega
  rw [← List.take_append_drop 8 src]
  generalize src.take 8 = hdr at hl
  generalize src.drop 8 = body
  rw [decodeStep_hdr max body hl]
  by_cases hz : beDecode hdr = 0
  · rw [if_pos hz]; exact .zero body hl hz
  by_cases hb : beDecode hdr > max
  · rw [if_neg hz, if_pos hb]; exact .oversize body hl hb
  by_cases hp : body.length < beDecode hdr
  · rw [if_neg hz, if_neg hb, if_pos hp]; exact .waiting hl (by omega) (by omega) hp
  · rw [if_neg hz, if_neg hb, if_neg hp]
    have hn : (body.take (beDecode hdr)).length = beDecode hdr := by rw [List.length_take]; omega
    have := Framing.frame (max := max) (body.drop (beDecode hdr)) hl hn.symm (by omega) (by omega)
    rwa [List.take_append_drop] at this

theorem Framing.of_eq {max : Nat} {src : Bytes} {r : Step} (h : decodeStep max src = r) :
    Framing max src r := h ▸ framing max src

theorem decodeStep_ne_panic (max : Nat) (src : Bytes) : decodeStep max src ≠ .panic :=
  fun h => nomatch Framing.of_eq h

theorem decodeStep_ne_err_panic (max : Nat) (src : Bytes) : decodeStep max src ≠ .err .panic :=
  fun h => nomatch Framing.of_eq h

theorem decodeStep_bad_header {max : Nat} {src : Bytes} (h8 : hdrSplit ≤ src.length)
    (hbad : decodeLen decEndian (src.take hdrSplit) = 0 ∨
      max < decodeLen decEndian (src.take hdrSplit)) :
    decodeStep max src =
      .err (if decodeLen decEndian (src.take hdrSplit) = 0 then .invalidInput else .outOfMemory) := by
  show _ = Step.err (if beDecode (src.take 8) = 0 then _ else _)
  rw [decoder_checks_in_order, if_neg (Nat.not_lt.2 (show 8 ≤ src.length from h8))]
  by_cases hz : beDecode (src.take 8) = 0
  · rw [if_pos hz, if_pos hz]
  · rw [if_neg hz, if_neg hz, if_pos (show max < beDecode (src.take 8) from hbad.resolve_left hz)]

theorem decodeStep_frameOf {max : Nat} {p : Bytes} (hv : ValidPayload max p) (rest : Bytes) :
    decodeStep max (frameOf p ++ rest) = .frame p rest := by
  obtain ⟨hpos, hmax, hu64⟩ := hv
  rw [frameOf, List.append_assoc]
  exact (Framing.frame rest (hdr_length _) (hdr_roundtrip _ hu64) hpos hmax).sound

theorem decodeStep_frame_length {max : Nat} {src p rest : Bytes}
    (h : decodeStep max src = .frame p rest) : rest.length + 8 + p.length = src.length := by
  cases Framing.of_eq h with
  | frame _ h8 => simp only [List.length_append, h8]; omega

theorem decodeStep_frame_append {max : Nat} {src p rest : Bytes} (y : Bytes)
    (h : decodeStep max src = .frame p rest) :
    decodeStep max (src ++ y) = .frame p (rest ++ y) := by
  cases Framing.of_eq h with
  | frame _ h8 hn h0 hm =>
    rw [List.append_assoc, List.append_assoc]
    exact (Framing.frame _ h8 hn h0 hm).sound

theorem decodeStep_err_append {max : Nat} {src : Bytes} {e : Fault} (y : Bytes)
    (h : decodeStep max src = .err e) : decodeStep max (src ++ y) = .err e := by
  cases Framing.of_eq h with
  | zero _ h8 hz => rw [List.append_assoc]; exact (Framing.zero _ h8 hz).sound
  | oversize _ h8 hb => rw [List.append_assoc]; exact (Framing.oversize _ h8 hb).sound

/-- A proper prefix of a frame waits: a decided outcome would persist when the rest of the frame
arrives, and then is that frame with nothing behind it. -/
theorem decodeStep_strict_prefix {max : Nat} {p t u : Bytes} (hv : ValidPayload max p)
    (hu : u ≠ []) (h : t ++ u = frameOf p) : decodeStep max t = .needMore := by
  have hf : decodeStep max (t ++ u) = .frame p [] := by
    rw [h, ← List.append_nil (frameOf p)]
    exact decodeStep_frameOf hv []
  cases ht : decodeStep max t with
  | needMore => rfl
  | err e => rw [decodeStep_err_append u ht] at hf; cases hf
  | panic => exact absurd ht (decodeStep_ne_panic max t)
  | frame p' r =>
    rw [decodeStep_frame_append u ht] at hf
    injection hf with _ hr
    exact absurd (List.append_eq_nil_iff.mp hr).2 hu

section drain
variable {M : Type} (parse : Bytes → Option M) (max : Nat)

theorem decode_msg_shorter {src b : Bytes} {m : M}
    (h : decode parse max src = (.msg m, b)) : b.length < src.length := by
  revert h
  fun_cases decode parse max src with
  | case4 p rest hs m' hp =>  -- a frame whose payload parses; every other arm yields no message
    intro h
    cases h
    have := decodeStep_frame_length hs
    omega
  | _ => nofun

theorem drainF_fuel (f1 f2 : Nat) (src : Bytes) (h1 : src.length < f1) (h2 : src.length < f2) :
    drainF parse max f1 src = drainF parse max f2 src := by
  induction f1 generalizing f2 src with
  | zero => omega
  | succ f1 ih =>
    cases f2 with
    | zero => omega
    | succ f2 =>
      unfold drainF
      split
      · rfl
      · rfl
      · rename_i m b hd
        have := decode_msg_shorter parse max hd
        rw [ih f2 b (by omega) (by omega)]

theorem drain_eq (src : Bytes) :
    drain parse max src =
      match decode parse max src with
      | (.needMore, b) => ⟨[], b, none⟩
      | (.err e, b) => ⟨[], b, some e⟩
      | (.msg m, b) =>
        ⟨m :: (drain parse max b).msgs, (drain parse max b).buf, (drain parse max b).fault⟩ := by
  unfold drain
  conv => lhs; unfold drainF
  generalize hd : decode parse max src = r
  obtain ⟨o, b⟩ := r
  cases o with
  | needMore => rfl
  | err e => rfl
  | msg m =>
    have := decode_msg_shorter parse max hd
    simp only [drainF_fuel parse max src.length (b.length + 1) b (by omega) (by omega)]

theorem drain_needMore {src : Bytes} (h : decodeStep max src = .needMore) :
    drain parse max src = ⟨[], src, none⟩ := by
  rw [drain_eq]; simp [decode, h]

theorem drain_err {src : Bytes} {e : Fault} (h : decodeStep max src = .err e) :
    drain parse max src = ⟨[], src, some e⟩ := by
  rw [drain_eq]; simp [decode, h]

theorem drain_frame_bad {src p rest : Bytes} (h : decodeStep max src = .frame p rest)
    (hp : parse p = none) : drain parse max src = ⟨[], rest, some .badPayload⟩ := by
  rw [drain_eq]; simp [decode, h, hp]

theorem drain_frame_ok {src p rest : Bytes} {m : M} (h : decodeStep max src = .frame p rest)
    (hp : parse p = some m) :
    drain parse max src =
      ⟨m :: (drain parse max rest).msgs, (drain parse max rest).buf, (drain parse max rest).fault⟩ := by
  rw [drain_eq]; simp [decode, h, hp]

theorem drain_append (src y : Bytes) :
    drain parse max (src ++ y) =
      match (drain parse max src).fault with
      | some f => ⟨(drain parse max src).msgs, (drain parse max src).buf ++ y, some f⟩
      | none =>
        ⟨(drain parse max src).msgs ++ (drain parse max ((drain parse max src).buf ++ y)).msgs,
         (drain parse max ((drain parse max src).buf ++ y)).buf,
         (drain parse max ((drain parse max src).buf ++ y)).fault⟩ := by
  induction hn : src.length using Nat.strongRecOn generalizing src with
  | _ n ih =>
    subst hn
    cases hs : decodeStep max src with
    | needMore => simp [drain_needMore parse max hs]
    | err e =>
      simp [drain_err parse max hs, drain_err parse max (decodeStep_err_append y hs)]
    | panic => exact absurd hs (decodeStep_ne_panic max src)
    | frame p rest =>
      have hs' := decodeStep_frame_append y hs
      have hlen := decodeStep_frame_length hs
      cases hp : parse p with
      | none =>
        simp [drain_frame_bad parse max hs hp, drain_frame_bad parse max hs' hp]
      | some m =>
        rw [drain_frame_ok parse max hs hp, drain_frame_ok parse max hs' hp,
          ih rest.length (by omega) rest rfl]
        cases (drain parse max rest).fault <;> simp

theorem feedAll_cons (c : Conn) (x : Bytes) (xs : List Bytes) :
    feedAll parse max c (x :: xs) =
      ((feedAll parse max (feed parse max c x).1 xs).1,
       (feed parse max c x).2 ++ (feedAll parse max (feed parse max c x).1 xs).2) := rfl

theorem feedAll_dead (c : Conn) (chunks : List Bytes) (h : c.fault ≠ none) :
    feedAll parse max c chunks = (c, []) := by
  induction chunks with
  | nil => rfl
  | cons x xs ih =>
    obtain ⟨f, hf⟩ := Option.ne_none_iff_exists'.mp h
    simp [feedAll, feed, hf, ih]

theorem feed_live (c : Conn) (z : Bytes) (hc : c.fault = none) :
    feed parse max c z =
      (⟨(drain parse max (c.buf ++ z)).buf, (drain parse max (c.buf ++ z)).fault⟩,
       (drain parse max (c.buf ++ z)).msgs) := by
  simp [feed, hc]

theorem feedAll_cons_fuse (xs : List Bytes) (c : Conn) (x : Bytes) (hc : c.fault = none) :
    (feedAll parse max c (x :: xs)).2 = (feed parse max c (x ++ xs.flatten)).2 ∧
    (feedAll parse max c (x :: xs)).1.fault = (feed parse max c (x ++ xs.flatten)).1.fault ∧
    ((feed parse max c (x ++ xs.flatten)).1.fault = none →
      (feedAll parse max c (x :: xs)).1.buf = (feed parse max c (x ++ xs.flatten)).1.buf) := by
  induction xs generalizing c x with
  | nil => simp [feedAll]
  | cons y ys ih =>
    rw [feedAll_cons, List.flatten_cons, feed_live parse max c (x ++ (y ++ ys.flatten)) hc,
      ← List.append_assoc, drain_append, feed_live parse max c x hc]
    cases hf : (drain parse max (c.buf ++ x)).fault with
    | some f => rw [feedAll_dead parse max _ _ (by simp)]; simp
    | none =>
      have := ih ⟨(drain parse max (c.buf ++ x)).buf, none⟩ y rfl
      rw [feed_live parse max _ _ rfl] at this
      simpa using this

theorem encodeAll_foldl (print : M → Bytes) (msgs : List M) (dst : Bytes) :
    msgs.foldl (fun dst m => encode print m dst) dst = dst ++ encodeAll print msgs := by
  have := List.foldl_hom (dst ++ ·) (g₁ := fun d m => encode print m d)
    (g₂ := fun d m => encode print m d) (l := msgs) (init := [])
    fun x y => List.append_assoc dst x _
  rwa [List.append_nil] at this

theorem encodeAll_cons (print : M → Bytes) (m : M) (msgs : List M) :
    encodeAll print (m :: msgs) = frameOf (print m) ++ encodeAll print msgs := by
  conv => lhs; unfold encodeAll
  rw [List.foldl_cons, encodeAll_foldl]; simp [encode]

theorem drain_encodeAll (print : M → Bytes) (hpp : ∀ m, parse (print m) = some m)
    (msgs : List M) (hv : ∀ m ∈ msgs, ValidPayload max (print m)) (t : Bytes) :
    drain parse max (encodeAll print msgs ++ t) =
      ⟨msgs ++ (drain parse max t).msgs, (drain parse max t).buf, (drain parse max t).fault⟩ := by
  induction msgs with
  | nil => simp [encodeAll]
  | cons m ms ih =>
    rw [encodeAll_cons, List.append_assoc,
      drain_frame_ok parse max (decodeStep_frameOf (hv m (List.mem_cons_self ..)) _) (hpp m),
      ih (fun m' hm' => hv m' (List.mem_cons_of_mem _ hm'))]
    simp

end drain

end Kanidm.Codec
