/-!
One guard of a chain `if c₁ then refuse₁ else if c₂ then refuse₂ else … go on`, for the places where an operation
is not taken apart by its own case analysis (`fun_cases`). Under `simp only`, `ite_error_eq_ok` turns a chain of
refusals into the conjunction of the guards passed. Peeling guards one at a time is linear in the length of the
chain; `split` on the whole term is not.
-/
namespace Kanidm

theorem ite_eq_cases {α : Sort _} {c : Prop} [Decidable c] {a b r : α} (h : (if c then a else b) = r) :
    c ∧ a = r ∨ ¬c ∧ b = r := by
  by_cases hc : c
  · rw [if_pos hc] at h; exact .inl ⟨hc, h⟩
  · rw [if_neg hc] at h; exact .inr ⟨hc, h⟩

theorem of_ite_eq {α : Sort _} {c : Prop} [Decidable c] {a b r : α} (h : (if c then a else b) = r)
    (ha : a ≠ r) : ¬c ∧ b = r :=
  (ite_eq_cases h).resolve_left fun h' => ha h'.2

theorem ite_eq_iff_of_ne {α : Sort _} {c : Prop} [Decidable c] {a b r : α} (ha : a ≠ r) :
    (if c then a else b) = r ↔ ¬c ∧ b = r :=
  ⟨fun h => of_ite_eq h ha, fun h => (if_neg h.1).trans h.2⟩

theorem ite_error_eq_ok {ε α : Type _} {c : Prop} [Decidable c] {e : ε} {r : Except ε α} {a : α} :
    (if c then .error e else r) = .ok a ↔ ¬c ∧ r = .ok a :=
  ite_eq_iff_of_ne nofun

end Kanidm
