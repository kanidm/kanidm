import KanidmProofs.Lemmas.SyncScope
import KanidmProofs.Lemmas.Keyed
import KanidmProofs.Lemmas.ListFold
/-!
C50: what a sync request makes of the stored state (`Sync`), and one lemma per phase of
`scim_sync_apply` (`Kanidm.SyncScope.apply`) saying that the phase is a case of it.
-/
namespace Kanidm.SyncScope
open Kanidm.Access.Write
open Kanidm.Gen.Access
open Kanidm.Gen.SyncScope

theorem live_of_not_masked {e : Entry} (h : e.masked = false) : e.life = .live := by
  unfold Entry.masked at h
  simpa using h

/-- no recycled or tombstoned entry of `l` has one of these uuids -/
def MaskedOut (ids : List Nat) (l : State) : Prop := ∀ e, e ∈ l → e.uuid ∈ ids → e.masked = false

/-- the yield-authority set phase 1 reads from the agreement's stored entry -/
def authorityOf (st : State) (su : Nat) : List Nat :=
  match st.find? (fun e => e.uuid == su && !e.masked) with
  | some se => se.yieldAuth.getD []
  | none => []

theorem scope_of_not_denied (s : Scope) (h : phase1ScopeDenied s.code = false) :
    s = .synchronise := by
  cases s <;> revert h <;> decide

theorem phase1_ok {id : Ident} {st : State} {req : Request} {p1 : P1}
    (h : phase1 id st req = .ok p1) :
    id.origin = .synch p1.syncUuid ∧ id.scope = .synchronise ∧
      p1.authority = authorityOf st p1.syncUuid ∧ p1.ce = changeEntries req.entries := by
  revert h
  fun_cases phase1 id st req
  -- the accepting arm: `Synch` origin, scope passed, agreement found, cookie accepted
  case case7 hnd u ho hs se hf hst =>
    rintro ⟨⟩
    exact ⟨ho, scope_of_not_denied _ (Bool.eq_false_iff.mpr hs), by rw [authorityOf, hf], rfl⟩
  all_goals nofun

/-- what phase 2 guarantees about an entry it creates -/
structure IsNew (su : Nat) (st : State) (x : Entry) : Prop where
  parent : x.syncParent = some su
  fresh : ∀ e, e ∈ st → e.uuid ≠ x.uuid
  range : stubRangeCmp x.uuid dynamicRangeMinimum = false
  cls : C.SyncObject ∈ x.classes

theorem mem_ceIds_insertCE (s : ScimEntry) (l : List ScimEntry) (x : Nat) :
    x ∈ ceIds (insertCE s l) ↔ x = s.id ∨ x ∈ ceIds l := by
  fun_induction insertCE s l
  case case1 => simp [ceIds]  -- []
  case case2 => simp [ceIds]  -- `s` goes in front
  case case3 t rest _ h => simp [ceIds, beq_iff_eq.mp h]  -- `s` replaces the head
  case case4 t rest _ _ ih =>  -- `s` goes further down
    simp only [ceIds, List.map_cons, List.mem_cons] at ih ⊢
    rw [ih]
    exact or_left_comm

theorem mem_ceIds_foldl (es acc : List ScimEntry) (x : Nat) :
    x ∈ ceIds (es.foldl (fun acc s => insertCE s acc) acc) ↔ x ∈ ceIds es ∨ x ∈ ceIds acc := by
  rw [foldl_iff (M := (x ∈ ceIds ·)) (C := (x = ·.id)) fun l s => (mem_ceIds_insertCE s l x).trans or_comm,
    or_comm]
  simp [ceIds, eq_comm]

theorem mem_ceIds_changeEntries (es : List ScimEntry) (x : Nat) :
    x ∈ ceIds (changeEntries es) ↔ x ∈ ceIds es := by
  unfold changeEntries
  rw [mem_ceIds_foldl]
  simp [ceIds]

/-- What a sync request of agreement `su`, or a run of its phases, makes of the stored state: every
entry takes a `Step`, losing references only to entries that `su` owns afterwards, and the entries
added are new to `st`. A preorder on states, and each phase is a case of it. -/
def Sync (sch : Schema) (su : Nat) (auth : List Nat) (st st' : State) : Prop :=
  Grows (Step sch su auth (okIn su st')) (IsNew su st) st st'

-- `su`: the agreement whose request is applied; `auth`: its yield-authority set as phase 1 read it
variable {sch : Schema} {su : Nat} {auth : List Nat}

theorem IsNew.of_frame {ok : Nat → Prop} {st : State} {x x' : Entry} (n : IsNew su st x)
    (f : Frame sch su auth ok x x') : IsNew su st x' where
  parent := by rw [f.parent]; exact n.parent
  fresh := by rw [f.uuid]; exact n.fresh
  range := by rw [f.uuid]; exact n.range
  cls := f.clsKeep _ n.cls

theorem Sync.refl (st : State) : Sync sch su auth st st :=
  Grows.refl Step.refl st

/-- a phase that removes references to entries owned in its input state: they are still owned in
its output -/
theorem Sync.of_input {st st' : State}
    (g : Grows (Step sch su auth (okIn su st)) (IsNew su st) st st') : Sync sch su auth st st' :=
  g.mono (fun _ _ s => s.mono (okIn_of_grows g)) fun _ n => n

theorem Sync.trans {a b c : State} (g : Sync sch su auth a b) (g' : Sync sch su auth b c) :
    Sync sch su auth a c :=
  Grows.trans g g' (hT := fun _ _ _ s t => Step.trans _ _ _ (s.mono (okIn_of_grows g')) t)
    (hN := fun _ _ n s => n.of_frame s.frame)
    (hM := fun _ n =>
      { n with
        fresh := fun _ he =>
          match Grows.mem_left g he with
          | ⟨e', he', s⟩ => s.frame.uuid ▸ n.fresh e' he' })

theorem assertOwned_owned {st : State} {ids : List Nat} (h : assertOwned st ids su = true)
    {e : Entry} (he : e ∈ st) (hin : e.uuid ∈ ids) : e.syncParent = some su := by
  have := List.all_eq_true.mp h e he
  rw [List.contains_iff_mem.mpr hin] at this
  simpa using this

theorem extIdPairs_sub (ce : List ScimEntry) {k x : Nat} (h : (k, x) ∈ extIdPairs ce) :
    k ∈ ceIds ce := by
  obtain ⟨s, hs, hsp⟩ := List.mem_filterMap.mp h
  obtain ⟨_, _, hp⟩ := Option.map_eq_some_iff.mp hsp
  cases hp
  exact List.mem_map.mpr ⟨s, hs, rfl⟩

/-- the function of phase 2's last `map` -/
def setExt (ce : List ScimEntry) (e : Entry) : Entry :=
  match (extIdPairs ce).lookup e.uuid with
  | some x => { e with extId := some x }
  | none => e

theorem setExt_spec (ce : List ScimEntry) (e : Entry) :
    ∃ x, setExt ce e = { e with extId := x } ∧
      (x = e.extId ∨ e.uuid ∈ (extIdPairs ce).map (·.1) ∧ e.uuid ∈ ceIds ce) := by
  unfold setExt
  cases hl : (extIdPairs ce).lookup e.uuid with
  | none => exact ⟨e.extId, rfl, .inl rfl⟩
  | some v =>
    have hm := lookup_mem hl
    exact ⟨some v, rfl, .inr ⟨List.mem_map.mpr ⟨_, hm, rfl⟩, extIdPairs_sub ce hm⟩⟩

theorem phase2_ok {st out : State} {ce : List ScimEntry} (h : phase2 st ce su = .ok out) :
    ce = [] ∧ out = st ∨
    MaskedOut (ceIds ce) st ∧
      (∀ u, u ∈ missingIds st ce → stubRangeCmp u dynamicRangeMinimum = false) ∧
      assertOwned (st ++ (missingIds st ce).map (stub su)) ((extIdPairs ce).map (·.1)) su = true ∧
      out = (st ++ (missingIds st ce).map (stub su)).map (setExt ce) := by
  rw [phase2] at h
  dsimp only at h
  rcases ite_eq_cases h with ⟨c0, h⟩ | ⟨-, h⟩
  · exact .inl ⟨List.isEmpty_iff.mp c0, (Except.ok.inj h).symm⟩
  obtain ⟨c1, h⟩ := guard_ok h
  obtain ⟨c2, h⟩ := guard_ok h
  obtain ⟨-, h⟩ := guard_ok h
  obtain ⟨c4, h⟩ := guard_not_ok h
  refine .inr ⟨fun e he hin => ?_,
    fun u hu => Bool.eq_false_iff.mpr (List.any_eq_false.mp c2 u hu), c4, (Except.ok.inj h).symm⟩
  have := List.any_eq_false.mp c1 e he
  rw [List.contains_iff_mem.mpr hin] at this
  simpa using this

theorem phase2_step {st out : State} {ce : List ScimEntry} (h : phase2 st ce su = .ok out) :
    Sync sch su auth st out ∧ MaskedOut (ceIds ce) st ∧ MaskedOut (ceIds ce) out := by
  rcases phase2_ok h with ⟨rfl, rfl⟩ | ⟨hmo, c2, c4, rfl⟩
  · exact ⟨.refl out, fun _ _ hin => (nomatch hin), fun _ _ hin => (nomatch hin)⟩
  rw [List.map_append]
  refine ⟨.map_append _ (fun x hx => ?_) fun x hx => ?_, hmo, fun e' he' hin => ?_⟩
  · obtain ⟨v, hv, hc⟩ := setExt_spec ce x
    rw [hv]
    rcases hc with rfl | ⟨hp, hin⟩
    · exact Step.refl _
    · exact Step.of_live (hmo x hx hin)
        { Frame.refl sch su auth _ x with
          ext := .inr (assertOwned_owned c4 (List.mem_append_left _ hx) hp) }
  · obtain ⟨y, hy, rfl⟩ := List.mem_map.mp hx
    obtain ⟨u, hu, rfl⟩ := List.mem_map.mp hy
    obtain ⟨v, hv, -⟩ := setExt_spec ce (stub su u)
    rw [hv]
    have hu' := List.mem_filter.mp hu
    refine ⟨rfl, fun e he heq => ?_, c2 u hu, show C.SyncObject ∈ stubClasses by decide⟩
    have : (st.any fun e => e.uuid == u) = true := List.any_eq_true.mpr ⟨e, he, beq_iff_eq.mpr heq⟩
    simp [this] at hu'
  · rw [← List.map_append] at he'
    obtain ⟨e, he, rfl⟩ := List.mem_map.mp he'
    obtain ⟨v, hv, -⟩ := setExt_spec ce e
    rw [hv] at hin ⊢
    rcases List.mem_append.mp he with h1 | h1
    · exact hmo e h1 hin
    · obtain ⟨u, _, rfl⟩ := List.mem_map.mp h1
      rfl

theorem deleteWhere_step {p : Entry → Bool} (hp : ∀ e, p e = true → e.syncParent = some su) (st : State) :
    Sync sch su auth st (deleteWhere sch p st) := by
  refine .of_input (.map _ fun x _ => ?_)
  cases hm : x.masked
  case true => exact Step.refl _
  refine Step.of_live hm ?_
  cases hx : p x
  · refine { Frame.refl sch su auth (okIn su st) x with
      attrs := ⟨_, fun d hd => ?_, fun a h => absurd (getA_stripAttrs _ _ _ a) h⟩ }
    obtain ⟨y, hy, rfl⟩ := List.mem_map.mp hd
    have hy' := List.mem_filter.mp hy
    exact ⟨y, hy'.1, rfl, hp y ((Bool.and_eq_true _ _).mp hy'.2).2⟩
  · exact { Frame.refl sch su auth _ x with
      life := .inr ⟨hp x hx, live_of_not_masked hm, rfl⟩ }

/-- every delete filter of the sync path starts with the ownership test -/
theorem owned_of_filter {q : Entry → Bool} (e : Entry)
    (h : (e.syncParent == some su && q e) = true) : e.syncParent = some su :=
  beq_iff_eq.mp ((Bool.and_eq_true _ _).mp h).1

theorem deleteWhere_maskedOut {p : Entry → Bool} {ids : List Nat} {st : State}
    (hp : ∀ e, p e = true → e.uuid ∉ ids) (h : MaskedOut ids st) :
    MaskedOut ids (deleteWhere sch p st) := by
  intro e' he' hin
  obtain ⟨e, he, rfl⟩ := List.mem_map.mp he'
  have hm := h e he
  revert hin
  cases hme : e.masked
  · cases hpe : p e
    · exact fun hin => (hm hin).symm ▸ rfl
    · exact fun hin => absurd hin (hp e hpe)
  · exact fun hin => by rw [hm hin] at hme; cases hme

theorem cleanup_step {refresh : Bool} {st st' : State} {ce : List ScimEntry}
    (h : (if refresh then refreshCleanup sch st ce su else .ok st) = .ok st')
    (hmo : MaskedOut (ceIds ce) st) :
    Sync sch su auth st st' ∧ MaskedOut (ceIds ce) st' := by
  cases refresh
  · cases h
    exact ⟨.refl st, hmo⟩
  · cases h
    refine ⟨deleteWhere_step owned_of_filter st,
      deleteWhere_maskedOut (fun e he hin => ?_) hmo⟩
    rw [List.contains_iff_mem.mpr hin] at he
    simp at he

theorem phase4_step {st st' : State} {r : Retention} (h : phase4 sch st r su = .ok st') :
    Sync sch su auth st st' := by
  revert h
  fun_cases phase4 sch st r su <;> rintro ⟨⟩
  -- `Ignore`, `Delete []`
  case case1 | case3 => exact .refl st
  -- `Retain ids`, `Delete ids` accepted
  case case2 | case5 => exact deleteWhere_step owned_of_filter st

theorem reqClasses_ok {l : List (Option Nat)} {ds : List ClassDef} (h : reqClasses sch l = .ok ds)
    {d : ClassDef} (hd : d ∈ ds) :
    d ∈ sch.classes ∧ d.syncAllowed = true := by
  revert ds
  fun_induction reqClasses sch l
  case case1 => rintro _ ⟨⟩ ⟨⟩  -- []
  -- `some c :: rest` with `c` a sync class and `rest` accepted
  case case5 c rest d0 hc ds' hr ih =>
    rintro _ ⟨⟩ hd
    rcases List.mem_cons.mp hd with rfl | hd'
    · unfold syncClass? at hc
      have h2 := List.find?_some hc
      exact ⟨List.mem_of_find?_eq_some hc, ((Bool.and_eq_true _ _).mp h2).2⟩
    · exact ih hr hd'
  all_goals nofun

theorem reqSets_ok {owned : List Nat} {l : List (Nat × Option (List Nat))}
    {sets : List (Nat × List Nat)} (h : reqSets owned l = .ok sets) {x : Nat × List Nat}
    (hx : x ∈ sets) : x.1 ∈ owned := by
  revert sets
  fun_induction reqSets owned l
  case case1 => rintro _ ⟨⟩ ⟨⟩  -- []
  -- `(a, some vs) :: rest` with `a` owned and `rest` accepted
  case case5 a rest hown vs r hr ih =>
    rintro _ ⟨⟩ hx
    rcases List.mem_cons.mp hx with rfl | hx'
    · simpa using hown
    · exact ih hr hx'
  all_goals nofun

/-- attributes a request may name: synchronisable and not yielded, or a synchronisable phantom -/
def OwnedA (sch : Schema) (auth : List Nat) (a : Nat) : Prop :=
  a ∈ syncAllowAttrSet sch auth ∨ a ∈ phantomAttrSet sch

theorem syncOwned_sub {ds : List ClassDef} {a : Nat} (h : a ∈ syncOwnedAttrs sch auth ds) :
    OwnedA sch auth a := by
  rcases List.mem_append.mp h with h | h
  · exact .inl (List.contains_iff_mem.mp (List.mem_filter.mp h).2)
  · exact .inr h

structure PlanOK (sch : Schema) (auth : List Nat) (p : Plan) : Prop where
  cls : ∀ c, c ∈ p.classes → SyncClassOf sch c
  purge : ∀ a, a ∈ p.purge → a ∈ syncAllowAttrSet sch auth
  sets : ∀ x, x ∈ p.sets → OwnedA sch auth x.1

theorem entryToMod_ok {s : ScimEntry} {p : Plan} (h : entryToMod sch auth s = .ok p) :
    p.id = s.id ∧ PlanOK sch auth p := by
  revert h
  fun_cases entryToMod sch auth s
  -- classes and attribute sets both accepted
  case case3 ds hc owned phantoms sets hs =>
    rintro ⟨⟩
    refine ⟨rfl, fun c hcm => ?_, fun a ha => ?_, fun x hx => ?_⟩
    · obtain ⟨d, hd, rfl⟩ := List.mem_map.mp hcm
      have := reqClasses_ok hc hd
      exact ⟨d, this.1, rfl, this.2⟩
    · have ha' := List.mem_filter.mp ha
      rcases syncOwned_sub ha'.1 with h1 | h1
      · exact h1
      · exact absurd h1 (by simpa using ha'.2)
    · exact syncOwned_sub (reqSets_ok hs hx)
  all_goals nofun

theorem plans_ok {ce : List ScimEntry} {ps : List Plan} (h : plans sch auth ce = .ok ps) {p : Plan}
    (hp : p ∈ ps) :
    p.id ∈ ceIds ce ∧ PlanOK sch auth p := by
  revert ps
  fun_induction plans sch auth ce
  case case1 => rintro _ ⟨⟩ ⟨⟩  -- []
  -- `s :: rest`, both accepted
  case case4 s rest p0 he ps' hr ih =>
    rintro _ ⟨⟩ hp
    rcases List.mem_cons.mp hp with rfl | hp'
    · obtain ⟨hid, hok⟩ := entryToMod_ok he
      exact ⟨hid ▸ List.mem_cons_self, hok⟩
    · exact (ih hr hp').imp_left (List.mem_cons_of_mem _)
  all_goals nofun

theorem getA_foldl_purge (l : List Nat) (m : List (Nat × List Nat)) (b : Nat) :
    getA (l.foldl (fun m a => purgeA a m) m) b = if b ∈ l then [] else getA m b := by
  induction l generalizing m with
  | nil => simp
  | cons a rest ih =>
    simp only [List.foldl]
    rw [ih, getA_purgeA]
    by_cases h1 : b ∈ rest
    · simp [h1]
    · by_cases h2 : b = a
      · simp [h2]
      · simp [h1, h2]

theorem presentA_keeps {a : Nat} {vs : List Nat} {m m' : List (Nat × List Nat)}
    (ho : OwnedA sch auth a) (h : presentA sch a vs m = some m')
    {b : Nat} (hb : ¬ Changeable sch auth b) : getA m' b = getA m b := by
  revert h
  fun_cases presentA sch a vs m
  case case1 t hl =>  -- an import attribute: its target `t` is set
    rintro ⟨⟩
    rw [getA_setA, if_neg fun (hbt : b = t) => hb (hbt ▸ .inr ⟨a, lookup_mem hl, ho.symm⟩)]
  case case2 => nofun  -- a phantom without target
  case case3 hph =>  -- any other attribute gains the values
    rintro ⟨⟩
    rw [getA_addA, if_neg fun (hba : b = a) =>
      hb (hba ▸ .inl (ho.resolve_right fun h1 => hph (List.contains_iff_mem.mpr h1)))]

theorem presentAll_keeps {sets : List (Nat × List Nat)} {m m' : List (Nat × List Nat)}
    (ho : ∀ x, x ∈ sets → OwnedA sch auth x.1)
    (h : presentAll sch sets m = some m') {b : Nat} (hb : ¬ Changeable sch auth b) :
    getA m' b = getA m b := by
  revert ho h
  fun_induction presentAll sch sets m
  case case1 => rintro _ ⟨⟩; rfl  -- []
  case case2 => nofun  -- the first group cannot be stored
  case case3 a vs rest m m1 hp ih =>  -- the first group stored as `m1`
    intro ho h
    exact (ih (fun y hy => ho y (List.mem_cons_of_mem _ hy)) h).trans
      (presentA_keeps (ho (a, vs) List.mem_cons_self) hp hb)

theorem applyPlan_frame {ok : Nat → Prop} {p : Plan} {e e' : Entry}
    (hown : e.syncParent = some su) (hp : PlanOK sch auth p)
    (h : applyPlan sch p e = some e') : Frame sch su auth ok e e' := by
  revert h
  fun_cases applyPlan sch p e
  case case1 => nofun  -- a group cannot be stored
  case case2 m hm =>  -- purges, then the groups, give `m`
    rintro ⟨⟩
    exact { Frame.refl sch su auth ok e with
      sc := .inr hown
      clsKeep := fun c hc => List.mem_append_left _ hc
      clsNew := fun c hc => (List.mem_append.mp hc).imp_right fun h1 =>
        ⟨hown, hp.cls c (List.mem_filter.mp h1).1⟩
      -- an attribute that is not `Changeable` is neither purged nor written by a group
      attrs := ⟨[], fun _ hd => (nomatch hd), fun a hne => ⟨hown, Classical.byContradiction fun hc =>
        hne <| by
          rw [stripped_nil, presentAll_keeps hp.sets hm hc, getA_foldl_purge,
            if_neg fun h2 => hc (.inl (hp.purge a h2))]⟩⟩ }

theorem applyPlans_step {ok : Nat → Prop} {N : Entry → Prop} {ps : List Plan} {st st' : State}
    (hall : ∀ e, e ∈ st → ∀ p, planFor ps e.uuid = some p →
      e.masked = false ∧ e.syncParent = some su ∧ PlanOK sch auth p)
    (h : applyPlans sch ps st = some st') : Grows (Step sch su auth ok) N st st' := by
  revert st' hall
  fun_induction applyPlans sch ps st
  case case1 => rintro _ - ⟨⟩; exact .refl Step.refl []  -- []
  case case3 => nofun  -- the plan of `e`, or the rest, fails
  case case2 e rest e' x r hr hx ih =>  -- `e` becomes `x`, `rest` becomes `r`
    rintro _ hall ⟨⟩
    refine .cons ?_ (ih (fun y hy => hall y (List.mem_cons_of_mem _ hy)) hr)
    cases hpf : planFor ps e.uuid with
    | none =>
      simp only [e', hpf] at hx
      cases hx
      exact Step.refl e
    | some p =>
      simp only [e', hpf] at hx
      obtain ⟨hm, ho, hp⟩ := hall e List.mem_cons_self p hpf
      exact Step.of_live hm (applyPlan_frame ho hp hx)

theorem phase3_step {st st' : State} {ce : List ScimEntry} (hmo : MaskedOut (ceIds ce) st)
    (h : phase3 sch st ce su auth = .ok st') : Sync sch su auth st st' := by
  revert h
  fun_cases phase3 sch st ce su auth
  case case1 =>  -- empty change set
    rintro ⟨⟩
    exact .refl st
  -- the accepting arm: plans made, every id stored and owned, plans applied
  case case6 ps hp ids _ c2 out ha =>
    rintro ⟨⟩
    refine applyPlans_step (fun e he p hpf => ?_) ha
    obtain ⟨hmem, hid⟩ := Keyed.find_some Plan.id hpf
    obtain ⟨hin, hok⟩ := plans_ok hp hmem
    rw [hid] at hin
    exact ⟨hmo e he hin, assertOwned_owned (by simpa using c2) he hin, hok⟩
  all_goals nofun

theorem phase5_step {st st' : State} {to : SyncState} (h : phase5 st su to = .ok st') :
    Sync sch su auth st st' := by
  unfold phase5 at h
  obtain ⟨-, h⟩ := guard_not_ok h
  cases h
  refine .map _ fun x _ => ?_
  cases hc : x.uuid == su && !x.masked
  · exact Step.refl _
  · have : x.uuid = su ∧ x.masked = false := by simpa using hc
    exact Step.of_live this.2 { Frame.refl sch su auth _ x with cookie := .inr this.1 }

end Kanidm.SyncScope
