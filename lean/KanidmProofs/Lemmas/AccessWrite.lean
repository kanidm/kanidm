import KanidmModel.Access.Write
import KanidmProofs.C02
/-
C24's vocabulary on the side of the model (`IsUser`, `IsSynch`, `ProfileMatches`, tied to what the code
resolves by `applies_matches`; `UserAllow`) and the inversions of the per-entry decisions and of the
four operations; the side of the request (`AddsClass`, `Covers`, …) is in C24.lean.
-/
namespace Kanidm.Access.Write
open Kanidm.Filter
open Kanidm.Gen.Access

theorem subset_iff (a b : List Nat) : subset a b = true ↔ ∀ x ∈ a, x ∈ b := by
  simp [subset, List.all_eq_true]

theorem disjoint_iff (a b : List Nat) : disjoint a b = true ↔ ∀ x ∈ a, x ∉ b := by
  simp [disjoint, List.all_eq_true]

theorem not_disjoint_of_mem {a b : List Nat} {x : Nat} (ha : x ∈ a) (hb : x ∈ b) :
    disjoint a b = false := by
  cases h : disjoint a b with
  | false => rfl
  | true => exact absurd hb ((disjoint_iff a b).mp h x ha)

theorem mem_inter (a b : List Nat) (x : Nat) : x ∈ inter a b ↔ x ∈ a ∧ x ∈ b := by
  simp [inter, List.mem_filter]

theorem mem_minus (a b : List Nat) (x : Nat) : x ∈ minus a b ↔ x ∈ a ∧ x ∉ b := by
  simp [minus, List.mem_filter]

theorem intersects_iff (a b : List Nat) : intersects a b = true ↔ ∃ g, g ∈ a ∧ g ∈ b := by
  simp [intersects, List.any_eq_true]

theorem mem_constrainWith {c a : List Nat} {x : Nat} (h : x ∈ constrainWith c a) : x ∈ a := by
  unfold constrainWith at h
  split at h
  · exact ((mem_inter c a x).mp h).2
  · exact h

theorem mem_constrainWith_con {c a : List Nat} {x : Nat} (hc : c ≠ [])
    (h : x ∈ constrainWith c a) : x ∈ c := by
  unfold constrainWith at h
  have : (!c.isEmpty) = true := by
    cases c with
    | nil => exact absurd rfl hc
    | cons _ _ => rfl
  rw [if_pos this] at h
  exact ((mem_inter c a x).mp h).1

def IsUser (id : Ident) : Prop := ∃ u mo, id.origin = .user u mo

def IsSynch (id : Ident) : Prop := ∃ u, id.origin = .synch u

theorem user_code {id : Ident} (h : IsUser id) : id.origin.code = 5 := by
  obtain ⟨u, mo, h⟩ := h
  simp [h, Origin.code]

theorem synch_code {id : Ident} (h : IsSynch id) : id.origin.code = 4 := by
  obtain ⟨u, h⟩ := h
  simp [h, Origin.code]

/-- The receiver of a profile matches the identity (and, for entry managers, the entry). -/
def ReceiverMatches (id : Ident) (p : Profile) (managedBy : Option (List Nat)) : Prop :=
  match p.receiver with
  | .group gs => ∃ mo, id.memberof = some mo ∧ ∃ g, g ∈ mo ∧ g ∈ gs
  | .entryManager =>
    ∃ ems, managedBy = some ems ∧
      ((∃ mo, id.memberof = some mo ∧ ∃ g, g ∈ mo ∧ g ∈ ems) ∨ id.uuid ∈ ems)
  | .none => False

/-- The target of a profile matches the entry: the *unresolved* scope filter, read with
`SelfUuid` = "the entry is the caller", holds on the entry. -/
def TargetMatches (id : Ident) (p : Profile) (fe : Filter.Entry) : Prop :=
  ∃ f, p.target = some f ∧ f.matches ValSem.std (.num id.uuid) A.Uuid fe = true

def ProfileMatches (id : Ident) (p : Profile) (managedBy : Option (List Nat))
    (fe : Filter.Entry) : Prop :=
  ReceiverMatches id p managedBy ∧ TargetMatches id p fe

theorem entryManagerCheck_iff (id : Ident) (mb : Option (List Nat)) :
    entryManagerCheck id mb = true ↔
      ∃ ems, mb = some ems ∧
        ((∃ mo, id.memberof = some mo ∧ ∃ g, g ∈ mo ∧ g ∈ ems) ∨ id.uuid ∈ ems) := by
  unfold entryManagerCheck
  cases mb with
  | none => simp
  | some ems =>
    cases hmo : id.memberof with
    | none => simp
    | some mo => simp [intersects_iff]

/-- What `resolve_access_conditions` returns stands for the profile: if the receiver condition it
leaves to the entry holds and the resolved target matches, the profile matches. -/
theorem resolve_matches {id : Ident} {p : Profile} {rc : RCond} {t : F}
    (h : resolveAccessConditions id p = some (rc, t)) {mb : Option (List Nat)} {fe : Filter.Entry}
    (hrc : rc = .entryManager → entryManagerCheck id mb = true)
    (ht : targetMatches t fe = true) : ProfileMatches id p mb fe := by
  revert h
  fun_cases resolveAccessConditions id p <;> intro h
  case case2 rcv rc' hrcv f hf => -- a receiver condition `rc'` and a target `f`
    obtain ⟨t', hres, heq⟩ := Option.map_eq_some_iff.mp h
    cases heq
    refine ⟨?_, f, hf,
      (resolveNoIdx_preserves ValSem.std fe attrConsts (.num id.uuid) f t hres).symm.trans ht⟩
    -- the receiver test passed with `rc`
    unfold ReceiverMatches
    cases hr : p.receiver with
    | none => simp [rcv, hr] at hrcv
    | entryManager =>
      simp only [rcv, hr, Option.some.injEq] at hrcv
      exact (entryManagerCheck_iff id mb).mp (hrc hrcv.symm)
    | group gs =>
      cases hmo : id.memberof with
      | none => simp [rcv, hr, hmo] at hrcv
      | some mo =>
        cases hi : intersects mo gs with
        | false => simp [rcv, hr, hmo, hi] at hrcv
        | true => exact ⟨mo, rfl, (intersects_iff mo gs).mp hi⟩
  all_goals cases h

theorem mem_related {α : Type} {prof : α → Profile} {id : Ident} {acps : List α}
    {r : Resolved α} (h : r ∈ related prof id acps) :
    r.acp ∈ acps ∧ resolveAccessConditions id (prof r.acp) = some (r.rcond, r.target) := by
  unfold related at h
  rw [List.mem_filterMap] at h
  obtain ⟨a, ha, hm⟩ := h
  rw [Option.map_eq_some_iff] at hm
  obtain ⟨c, hc, hr⟩ := hm
  subst hr
  exact ⟨ha, by simpa using hc⟩

/-- The profile resolved for the identity applies to an entry with these entry managers and these
attributes: what modify and delete filter their related profiles by, and create too, with no
entry managers (create.rs never honours `EntryManager` receivers). -/
def Resolved.applies {α : Type} (r : Resolved α) (id : Ident) (mb : Option (List Nat))
    (fe : Filter.Entry) : Bool :=
  (match r.rcond with
   | .groupChecked => true
   | .entryManager => entryManagerCheck id mb)
  && targetMatches r.target fe

theorem modifyScoped_eq (id : Ident) (e : Ent) (r : Resolved AcpModify) :
    modifyScoped id e r = r.applies id e.managedBy e.fe := rfl

theorem deleteScoped_eq (id : Ident) (e : Ent) (r : Resolved AcpDelete) :
    deleteScoped id e r = r.applies id e.managedBy e.fe := rfl

theorem createProfileCovers_eq (id : Ident) (e : NewEnt) (cls : List Nat) (r : Resolved AcpCreate) :
    createProfileCovers e cls r =
      (r.applies id none e.fe && subset e.attrs r.acp.attrs && subset cls r.acp.classes) := by
  unfold createProfileCovers Resolved.applies
  cases r.rcond <;> rfl

theorem applies_matches {α : Type} {prof : α → Profile} {id : Ident} {acps : List α}
    {r : Resolved α} (hrel : r ∈ related prof id acps) {mb : Option (List Nat)}
    {fe : Filter.Entry} (h : r.applies id mb fe = true) :
    r.acp ∈ acps ∧ ProfileMatches id (prof r.acp) mb fe := by
  unfold Resolved.applies at h
  rw [Bool.and_eq_true] at h
  obtain ⟨hmem, hres⟩ := mem_related hrel
  exact ⟨hmem, resolve_matches hres (fun hk => by rw [hk] at h; exact h.1) h.2⟩

theorem scope_denied_of_not_rw (s : Scope) (h : s ≠ .readWrite) :
    modifyScopeDenied s.code = true ∧ createScopeDenied s.code = true ∧
      deleteScopeDenied s.code = true := by
  cases s with
  | readWrite => exact absurd rfl h
  | readOnly => exact ⟨rfl, rfl, rfl⟩
  | synchronise => exact ⟨rfl, rfl, rfl⟩

theorem modifyIdentTest_user {id : Ident} (hu : IsUser id) :
    modifyIdentTest id = if modifyScopeDenied id.scope.code then .deny else .ignore := by
  simp [modifyIdentTest, user_code hu, modifyOriginGate]

theorem modifyIdentTest_user_rw {id : Ident} (hu : IsUser id) (hsc : id.scope = .readWrite) :
    modifyIdentTest id = .ignore := by
  rw [modifyIdentTest_user hu, hsc]
  rfl

theorem modifyIdentTest_synch {id : Ident} (hs : IsSynch id) : modifyIdentTest id = .deny := by
  simp [modifyIdentTest, synch_code hs, modifyOriginGate]

theorem modifyMigration_user {id : Ident} (hu : IsUser id) (e : Ent) :
    modifyMigrationAttrs id e = .ignore := by
  obtain ⟨u, mo, h⟩ := hu
  simp [modifyMigrationAttrs, h]

theorem protectedEntry_shape (classes : List Nat) :
    modifyProtectedEntryAttrs classes = .deny ∨
      (protectedOpenAttrs classes ≠ [] ∧
        modifyProtectedEntryAttrs classes =
          .constrain (protectedOpenAttrs classes) (protectedOpenAttrs classes) none none) := by
  unfold modifyProtectedEntryAttrs
  by_cases hl : disjoint classes lockedEntryClasses = true
  · by_cases he : (protectedOpenAttrs classes).isEmpty = true
    · left; simp [hl, he]
    · right
      refine ⟨?_, by simp [hl, he]⟩
      intro h; rw [h] at he; exact he rfl
  · left
    simp [hl]

theorem modifyProtected_shape (id : Ident) (e : Ent) :
    modifyProtectedAttrs id e = .deny ∨ modifyProtectedAttrs id e = .ignore ∨
      ∃ c, modifyProtectedAttrs id e = .constrain c c none none := by
  unfold modifyProtectedAttrs
  split
  · exact Or.inr (Or.inl rfl) -- System
  · exact Or.inr (Or.inl rfl) -- Synch
  · split
    · rename_i classes _
      split
      · exact Or.inr (Or.inl rfl) -- above the builtin range and outside the gate classes
      · rcases protectedEntry_shape classes with h | ⟨_, h⟩ -- the per-class rules decide
        · exact Or.inl h
        · exact Or.inr (Or.inr ⟨_, h⟩)
    · exact Or.inr (Or.inl rfl) -- an entry without classes

theorem modifyProtected_eq {id : Ident} (hns : id.origin ≠ .internal .system)
    (hsy : ∀ u, id.origin ≠ .synch u) {e : Ent} {cs : List Nat} (hcs : e.classes = some cs) :
    modifyProtectedAttrs id e =
      if modifyAnonCmp e.uuid uuidAnonymous && disjoint cs modifyGateClasses then .ignore
      else modifyProtectedEntryAttrs cs := by
  unfold modifyProtectedAttrs
  split
  · exact absurd ‹_› hns -- System
  · exact absurd ‹_› (hsy _) -- Synch
  · simp only [hcs] -- everybody else

theorem modifyProtected_user {id : Ident} (hu : IsUser id) {e : Ent} {cs : List Nat}
    (hcs : e.classes = some cs) :
    modifyProtectedAttrs id e =
      if modifyAnonCmp e.uuid uuidAnonymous && disjoint cs modifyGateClasses then .ignore
      else modifyProtectedEntryAttrs cs :=
  let ⟨_, _, ho⟩ := hu
  modifyProtected_eq (by rw [ho]; nofun) (by rw [ho]; nofun) hcs

theorem modifySync_user {id : Ident} (hu : IsUser id) {e : Ent} {cs : List Nat}
    (hcs : e.classes = some cs) (hsync : C.SyncObject ∈ cs) (ag : List (Nat × List Nat)) :
    modifySyncConstrain id e ag =
      match e.syncParent with
      | some su => .constrain (syncConstrainBase ++ (ag.lookup su).getD [])
          (syncConstrainBase ++ (ag.lookup su).getD []) none none
      | none => .deny := by
  obtain ⟨_, _, ho⟩ := hu
  cases hpar : e.syncParent <;> simp [modifySyncConstrain, ho, hcs, hsync, hpar]

theorem modifySync_shape (id : Ident) (e : Ent) (ag : List (Nat × List Nat)) :
    modifySyncConstrain id e ag = .deny ∨ modifySyncConstrain id e ag = .ignore ∨
      ∃ c, modifySyncConstrain id e ag = .constrain c c none none := by
  fun_cases modifySyncConstrain id e ag
  case case4 => exact .inr (.inr ⟨_, rfl⟩) -- a user on a synchronised entry with a parent agreement
  case case5 => exact .inl rfl -- … without one
  all_goals exact .inr (.inl rfl)

def scopedModify (id : Ident) (rel : List (Resolved AcpModify)) (e : Ent) : List AcpModify :=
  (rel.filter (modifyScoped id e)).map (·.acp)

/-- The constraint a module result contributes, read off its `pres` component: every module
constrains `pres` and `rem` by the same set (`modifyProtected_shape`, `modifySync_shape`). -/
def conOf : ModRes → List Nat
  | .constrain p _ _ _ => p
  | _ => []

theorem applyModify_user_eq {id : Ident} (hu : IsUser id) (hsc : id.scope = .readWrite)
    (rel : List (Resolved AcpModify)) (ag : List (Nat × List Nat)) (e : Ent)
    (hp : modifyProtectedAttrs id e ≠ .deny) (hs : modifySyncConstrain id e ag ≠ .deny) :
    applyModifyAccess id rel ag e = .allow
      { pres := constrainWith (conOf (modifyProtectedAttrs id e) ++ conOf (modifySyncConstrain id e ag))
          ((scopedModify id rel e).flatMap (·.presAttrs))
        rem := constrainWith (conOf (modifyProtectedAttrs id e) ++ conOf (modifySyncConstrain id e ag))
          ((scopedModify id rel e).flatMap (·.remAttrs))
        presCls := minus ((scopedModify id rel e).flatMap (·.presClasses)) modifyStripPres
        remCls := minus ((scopedModify id rel e).flatMap (·.remClasses)) modifyStripRem } := by
  have hident := modifyIdentTest_user_rw hu hsc
  have hmig := modifyMigration_user hu e
  -- each of the two modules ignores or constrains; whichever, `conOf` reads its contribution
  rcases modifyProtected_shape id e with hp' | hp' | ⟨c, hp'⟩
  · exact absurd hp' hp
  all_goals
    rcases modifySync_shape id e ag with hs' | hs' | ⟨s, hs'⟩
    · exact absurd hs' hs
    all_goals simp [applyModifyAccess, hident, hmig, hp', hs', conOf, scopedModify, constrainWith]

/-- What holds of an `Allow a` answered to a user: the session is read-write, neither
constraining module denied, every attribute and class in `a` is granted by a related profile that
applies to the entry (classes: and is not stripped), and a non-empty constraint set bounds the
attributes. -/
structure UserAllow (id : Ident) (rel : List (Resolved AcpModify)) (ag : List (Nat × List Nat))
    (e : Ent) (a : ModAllow) : Prop where
  scope : id.scope = .readWrite
  pres : ∀ x, x ∈ a.pres → ∃ p, p ∈ scopedModify id rel e ∧ x ∈ p.presAttrs
  rem : ∀ x, x ∈ a.rem → ∃ p, p ∈ scopedModify id rel e ∧ x ∈ p.remAttrs
  presCls : ∀ x, x ∈ a.presCls →
    x ∉ modifyStripPres ∧ ∃ p, p ∈ scopedModify id rel e ∧ x ∈ p.presClasses
  remCls : ∀ x, x ∈ a.remCls →
    x ∉ modifyStripRem ∧ ∃ p, p ∈ scopedModify id rel e ∧ x ∈ p.remClasses
  prot : modifyProtectedAttrs id e ≠ .deny
  constrained : ∀ x, x ∈ a.pres ∨ x ∈ a.rem →
    conOf (modifyProtectedAttrs id e) ++ conOf (modifySyncConstrain id e ag) ≠ [] →
    x ∈ conOf (modifyProtectedAttrs id e) ++ conOf (modifySyncConstrain id e ag)
  sync : modifySyncConstrain id e ag ≠ .deny

theorem applyModify_deny_of_scope {id : Ident} (hu : IsUser id) (hsc : id.scope ≠ .readWrite)
    (rel : List (Resolved AcpModify)) (ag : List (Nat × List Nat)) (e : Ent) :
    applyModifyAccess id rel ag e = .deny := by
  obtain ⟨hmodify, _, _⟩ := scope_denied_of_not_rw id.scope hsc
  simp [applyModifyAccess, modifyIdentTest_user hu, hmodify]

theorem applyModify_deny_of_synch {id : Ident} (hs : IsSynch id) (rel : List (Resolved AcpModify))
    (ag : List (Nat × List Nat)) (e : Ent) : applyModifyAccess id rel ag e = .deny := by
  simp [applyModifyAccess, modifyIdentTest_synch hs]

theorem applyModify_deny_of_protected {id : Ident} {e : Ent}
    (hp : modifyProtectedAttrs id e = .deny) (rel : List (Resolved AcpModify))
    (ag : List (Nat × List Nat)) : applyModifyAccess id rel ag e = .deny := by
  simp [applyModifyAccess, hp]

theorem applyModify_deny_of_sync {id : Ident} (hu : IsUser id) {e : Ent}
    {ag : List (Nat × List Nat)} (hs : modifySyncConstrain id e ag = .deny)
    (rel : List (Resolved AcpModify)) : applyModifyAccess id rel ag e = .deny := by
  by_cases hsc : id.scope = .readWrite
  case neg => exact applyModify_deny_of_scope hu hsc rel ag e
  have hident := modifyIdentTest_user_rw hu hsc
  have hmig := modifyMigration_user hu e
  rcases modifyProtected_shape id e with hp | hp | ⟨c, hp⟩
  · exact applyModify_deny_of_protected hp rel ag
  · simp [applyModifyAccess, hident, hmig, hp, hs]
  · simp [applyModifyAccess, hident, hmig, hp, hs]

/-- Never `Grant`. -/
theorem applyModify_user {id : Ident} (hu : IsUser id) (rel : List (Resolved AcpModify))
    (ag : List (Nat × List Nat)) (e : Ent) :
    applyModifyAccess id rel ag e = .deny ∨
    ∃ a, applyModifyAccess id rel ag e = .allow a ∧ UserAllow id rel ag e a := by
  by_cases hsc : id.scope = .readWrite
  case neg => exact Or.inl (applyModify_deny_of_scope hu hsc rel ag e)
  by_cases hp : modifyProtectedAttrs id e = .deny
  · exact Or.inl (applyModify_deny_of_protected hp rel ag)
  by_cases hs : modifySyncConstrain id e ag = .deny
  · exact Or.inl (applyModify_deny_of_sync hu hs rel)
  exact Or.inr ⟨_, applyModify_user_eq hu hsc rel ag e hp hs,
    { scope := hsc
      pres := fun x hx => List.mem_flatMap.mp (mem_constrainWith hx)
      rem := fun x hx => List.mem_flatMap.mp (mem_constrainWith hx)
      presCls := fun x hx =>
        ⟨((mem_minus _ _ _).mp hx).2, List.mem_flatMap.mp ((mem_minus _ _ _).mp hx).1⟩
      remCls := fun x hx =>
        ⟨((mem_minus _ _ _).mp hx).2, List.mem_flatMap.mp ((mem_minus _ _ _).mp hx).1⟩
      prot := hp
      constrained := fun x hx hne =>
        hx.elim (mem_constrainWith_con hne) (mem_constrainWith_con hne)
      sync := hs }⟩

theorem applyModify_user_allow {id : Ident} (hu : IsUser id) {rel : List (Resolved AcpModify)}
    {ag : List (Nat × List Nat)} {e : Ent} {a : ModAllow}
    (ha : applyModifyAccess id rel ag e = .allow a) : UserAllow id rel ag e a := by
  rcases applyModify_user hu rel ag e with hd | ⟨a', ha', h⟩
  · rw [hd] at ha; cases ha
  · rw [ha] at ha'; cases ha'; exact h

theorem deleteProtected_deny {id : Ident} (hns : id.origin ≠ .internal .system) {e : Ent}
    (h : e.uuid ≤ uuidAnonymous ∨ ∃ cs c, e.classes = some cs ∧ c ∈ cs ∧ c ∈ deleteGateClasses) :
    deleteProtectedFilterEntry id e = .deny := by
  -- users and the migration role share one arm of `protected_filter_entry`
  have hmig : ∀ sc, deleteProtectedFilterEntry ⟨.internal .migration, sc⟩ e = .deny := by
    intro sc
    rcases h with hle | ⟨cs, c, hcs, hc1, hc2⟩
    · simp [deleteProtectedFilterEntry, deleteAnonCmp, hle]
    · simp only [deleteProtectedFilterEntry, hcs, not_disjoint_of_mem hc1 hc2]
      split <;> simp
  obtain ⟨o, sc⟩ := id
  cases o with
  | synch u => rfl
  | user u mo => exact hmig sc
  | internal r =>
    cases r with
    | system => exact absurd rfl hns
    | migration => exact hmig sc
    | accountRequest | messageQueue => rfl

theorem applyDelete_deny_of_protected {id : Ident} {e : Ent}
    (hp : deleteProtectedFilterEntry id e = .deny) (rel : List (Resolved AcpDelete)) :
    applyDeleteAccess id rel e = false := by
  simp [applyDeleteAccess, hp]

/-- `hid`: the identities whose requests the gate of create examines (the other internal roles pass
it, Synch is denied outright). -/
theorem createProtected_deny {id : Ident} (hid : IsUser id ∨ id.origin = .internal .migration)
    {e : NewEnt}
    (h : (∃ u, e.uuid = some u ∧ u ≤ uuidAnonymous) ∨
      ∃ cs c, e.classes = some cs ∧ c ∈ cs ∧ c ∈ createGateClasses) :
    createProtectedFilterEntry id e = .deny := by
  have hmig : ∀ sc, createProtectedFilterEntry ⟨.internal .migration, sc⟩ e = .deny := by
    intro sc
    rcases h with ⟨u, hu, hle⟩ | ⟨cs, c, hcs, hc1, hc2⟩
    · simp [createProtectedFilterEntry, createAnonCmp, hu, hle]
    · simp only [createProtectedFilterEntry, hcs, not_disjoint_of_mem hc1 hc2]
      split <;> simp
  obtain ⟨o, sc⟩ := id
  rcases hid with ⟨u, mo, ho⟩ | ho <;> cases ho <;> exact hmig sc

theorem modifyAllow_unfold {id : Ident} {rel : List (Resolved AcpModify)}
    {ag : List (Nat × List Nat)} {e : Ent} {ml : List Mod}
    (h : modifyAllowPerEntry id rel ag e ml = true) :
    Mod.purged A.Class ∉ ml ∧ ∃ p r, requestedClasses e ml = some (p, r) ∧
      (applyModifyAccess id rel ag e = .grant ∨
        ∃ a, applyModifyAccess id rel ag e = .allow a ∧
          subset (requestedPres ml) a.pres = true ∧ subset (requestedRem ml) a.rem = true ∧
          subset p a.presCls = true ∧ subset r a.remCls = true) := by
  revert h
  fun_cases modifyAllowPerEntry id rel ag e ml <;> intro h
  case case5 _ hpurge _ _ p r hrc _ hg => -- answered `Grant`
    exact ⟨fun hm => hpurge (List.any_eq_true.mpr ⟨_, hm, by simp⟩), p, r, hrc, .inl hg⟩
  case case6 _ hpurge _ _ p r hrc _ a ha => -- answered `Allow a`: `h` compares the request with `a`
    simp only [Bool.and_eq_true] at h
    obtain ⟨⟨⟨hpres, hrem⟩, hpresCls⟩, hremCls⟩ := h
    exact ⟨fun hm => hpurge (List.any_eq_true.mpr ⟨_, hm, by simp⟩), p, r, hrc,
      .inr ⟨a, ha, hpres, hrem, hpresCls, hremCls⟩⟩
  all_goals cases h -- purge of `class`, class loop bailed out, empty request, `Deny`

theorem modifyAllow_of_deny {id : Ident} {rel : List (Resolved AcpModify)}
    {ag : List (Nat × List Nat)} {e : Ent} (hd : applyModifyAccess id rel ag e = .deny)
    (ml : List Mod) : modifyAllowPerEntry id rel ag e ml = false :=
  Bool.eq_false_iff.mpr fun h => by
    obtain ⟨_, _, _, _, hg | ⟨_, ha, _⟩⟩ := modifyAllow_unfold h
    · rw [hd] at hg; cases hg
    · rw [hd] at ha; cases ha

theorem createAllow_of_deny {id : Ident} {rel : List (Resolved AcpCreate)} {e : NewEnt}
    (h : createProtectedFilterEntry id e = .deny ∨ createFilterEntry id rel e = .deny) :
    createAllowPerEntry id rel e = false := by
  unfold createAllowPerEntry
  split
  · rfl
  · rcases h with h | h <;> simp [applyCreateAccess, h, IRes.isDeny]

theorem modifyOp_proceed (id : Ident) (acps : List AcpModify) (ag : List (Nat × List Nat))
    (cands : List Ent) (ml : List Mod) (h : modifyOp id acps ag cands ml = .proceed) :
    cands ≠ [] ∧ ml ≠ [] ∧
    (∀ e, e ∈ cands → modifyAllowPerEntry id (modifyRelatedAcp id acps) ag e ml = true) ∧
    (∀ e, e ∈ cands → maskedTs e.classes = maskedTs (applyClassMods e.classes ml)) := by
  revert h
  fun_cases modifyOp id acps ag cands ml <;> intro h
  case case6 hml hc hallow hmask => -- the last arm, `.proceed`: every guard before it was passed
    have hall : modifyAllowOperation id acps ag cands ml = true := by simpa using hallow
    exact ⟨mt List.isEmpty_iff.mpr hc, mt List.isEmpty_iff.mpr hml, List.all_eq_true.mp hall,
      by simpa using hmask⟩
  all_goals cases h

theorem deleteOp_proceed (id : Ident) (acps : List AcpDelete) (cands : List Ent)
    (h : deleteOp id acps cands = .proceed) :
    cands ≠ [] ∧ (∀ e, e ∈ cands → applyDeleteAccess id (deleteRelatedAcp id acps) e = true) ∧
      (∀ e, e ∈ cands → isTombstone e.classes = false) := by
  revert h
  fun_cases deleteOp id acps cands <;> intro h
  case case4 hallow hc ht => -- `.proceed`
    have hall : deleteAllowOperation id acps cands = true := by simpa using hallow
    exact ⟨mt List.isEmpty_iff.mpr hc, List.all_eq_true.mp hall, by simpa using ht⟩
  all_goals cases h

theorem deleteOp_denied {id : Ident} {acps : List AcpDelete} {cands : List Ent} {e : Ent}
    (he : e ∈ cands) (h : applyDeleteAccess id (deleteRelatedAcp id acps) e = false) :
    deleteOp id acps cands = .accessDenied := by
  have hall : deleteAllowOperation id acps cands = false :=
    List.all_eq_false.mpr ⟨e, he, by simp [h]⟩
  simp [deleteOp, hall]

theorem createOp_proceed (id : Ident) (acps : List AcpCreate) (ents : List NewEnt)
    (h : createOp id acps ents = .proceed) :
    ents ≠ [] ∧ (∀ e, e ∈ ents → createAllowPerEntry id (createRelatedAcp id acps) e = true) ∧
      (∀ e, e ∈ ents → maskedTs e.classes = false) := by
  revert h
  fun_cases createOp id acps ents <;> intro h
  case case4 hc hallow hm => -- `.proceed`
    have hall : createAllowOperation id acps ents = true := by simpa using hallow
    exact ⟨mt List.isEmpty_iff.mpr hc, List.all_eq_true.mp hall, by simpa using hm⟩
  all_goals cases h

theorem createOp_denied {id : Ident} {acps : List AcpCreate} {ents : List NewEnt} {e : NewEnt}
    (he : e ∈ ents) (h : createAllowPerEntry id (createRelatedAcp id acps) e = false) :
    createOp id acps ents = .accessDenied := by
  have hall : createAllowOperation id acps ents = false :=
    List.all_eq_false.mpr ⟨e, he, by simp [h]⟩
  simp [createOp, List.ne_nil_of_mem he, hall]

/-- Revive = modify removing `recycled`, plus the recycled guard. -/
theorem reviveOp_proceed (id : Ident) (acps : List AcpModify) (ag : List (Nat × List Nat))
    (cands : List Ent) (h : reviveOp id acps ag cands = .proceed) :
    cands ≠ [] ∧
    (∀ e, e ∈ cands → modifyAllowPerEntry id (modifyRelatedAcp id acps) ag e reviveModlist = true) ∧
    (∃ e, e ∈ cands ∧ isRecycled e.classes = true) := by
  revert h
  fun_cases reviveOp id acps ag cands <;> intro h
  case case5 hc hallow hnone => -- `.proceed`
    have hall : modifyAllowOperation id acps ag cands reviveModlist = true := by
      simpa using hallow
    exact ⟨mt List.isEmpty_iff.mpr hc, List.all_eq_true.mp hall, by simpa using hnone⟩
  all_goals cases h

/-- The last component under `A.Class ∈ e.attrs`: an entry that has classes has the `class`
attribute among its attribute keys (true of every `Entry`); without it an entry with no attribute
keys at all would pass with no profile. -/
theorem createAllow_user {id : Ident} (hu : IsUser id) {rel : List (Resolved AcpCreate)}
    {e : NewEnt} (h : createAllowPerEntry id rel e = true) :
    id.scope = .readWrite ∧ createProtectedFilterEntry id e ≠ .deny ∧
      ∃ cls, e.classes = some cls ∧
        (A.Class ∈ e.attrs → ∃ r, r ∈ rel ∧ createProfileCovers e cls r = true) := by
  obtain ⟨u, mo, ho⟩ := hu
  have hnd : ¬ (createProtectedFilterEntry id e = .deny ∨ createFilterEntry id rel e = .deny) :=
    fun hd => Bool.false_ne_true ((createAllow_of_deny hd).symm.trans h)
  have hsc : id.scope = .readWrite := Decidable.by_contra fun hsc =>
    let ⟨_, hcreate, _⟩ := scope_denied_of_not_rw id.scope hsc
    hnd (.inr (by simp [createFilterEntry, ho, hcreate]))
  refine ⟨hsc, fun hp => hnd (.inl hp), ?_⟩
  unfold createAllowPerEntry at h
  cases hcls : e.classes with
  | none => simp [hcls] at h
  | some cls =>
    refine ⟨cls, rfl, fun hwf => List.any_eq_true.mp (Decidable.by_contra fun hany => ?_)⟩
    -- no profile covers the entry: nothing is allowed, and the entry has at least `class`
    have hsd : createScopeDenied id.scope.code = false := by rw [hsc]; rfl
    have hcf : createFilterEntry id rel e = .ignore := by
      simp [createFilterEntry, ho, hsd, hcls, hany]
    have hsub : subset e.attrs [] = false :=
      Bool.eq_false_iff.mpr fun hh => List.not_mem_nil ((subset_iff _ _).mp hh _ hwf)
    cases hpf : createProtectedFilterEntry id e <;>
      simp [hcls, applyCreateAccess, createMessageQueue, createMigrationFilterEntry, ho, hcf, hpf,
        IRes.isDeny, IRes.isGrant, IRes.allowPres, IRes.allowCls, hsub] at h

theorem deleteAllow_user {id : Ident} (hu : IsUser id) {rel : List (Resolved AcpDelete)} {e : Ent}
    (h : applyDeleteAccess id rel e = true) :
    id.scope = .readWrite ∧ ∃ r, r ∈ rel ∧ deleteScoped id e r = true := by
  obtain ⟨u, mo, ho⟩ := hu
  by_cases hsc : id.scope = .readWrite
  case neg =>
    obtain ⟨_, _, hdelete⟩ := scope_denied_of_not_rw id.scope hsc
    simp [applyDeleteAccess, deleteFilterEntry, ho, hdelete] at h
  have hnd : deleteScopeDenied id.scope.code = false := by rw [hsc]; rfl
  by_cases hany : rel.any (deleteScoped id e) = true
  · exact ⟨hsc, List.any_eq_true.mp hany⟩
  · simp [applyDeleteAccess, deleteFilterEntry, ho, hnd, hany] at h

end Kanidm.Access.Write
