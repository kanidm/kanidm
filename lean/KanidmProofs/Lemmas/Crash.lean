import KanidmModel.Crash
/-! For C05: `writesOf` (statement vocabulary), the bracket discipline as a relation (`Legal`), one legal
operation (`step_legal`) and what follows for runs (`run_legal`, `disk_flip`), and the bracket shape of the
generated write transaction. -/
namespace Kanidm.Crash
open Kanidm.Gen.Crash

theorem run_cons (op : Op) (ops : List Op) (s : Sys) : run (op :: ops) s = run ops (step s op) := rfl

theorem run_nil (s : Sys) : run [] s = s := rfl

theorem apply_nil (d : Disk) : d.apply [] = d := rfl

theorem apply_append (d : Disk) (a b : List Write) : d.apply (a ++ b) = (d.apply a).apply b := by
  simp [Disk.apply, List.foldl_append]

/-- All writes of an operation list, in order. -/
def writesOf : List Op → List Write
  | [] => []
  | .stmt _ ws :: r => ws ++ writesOf r
  | _ :: r => writesOf r

def opWrites : Op → List Write
  | .stmt _ ws => ws
  | _ => []

theorem writesOf_cons (op : Op) (ops : List Op) : writesOf (op :: ops) = opWrites op ++ writesOf ops := by
  cases op <;> rfl

/-- The bracket phase matches SQLite's state. -/
def Agrees (c : Nat) : Phase → Sys → Prop
  | .inTxn, s => ∃ pend, s.txn = some (c, pend)
  | _, s => s.txn = none

/-- The database a later process would find if the open transaction were committed now. -/
def Sys.total (s : Sys) : Disk :=
  match s.txn with
  | some (_, pend) => s.disk.apply pend
  | none => s.disk

theorem Sys.total_none {s : Sys} (h : s.txn = none) : s.total = s.disk := by
  simp only [Sys.total, h]

theorem Sys.total_some {s : Sys} {c : Nat} {p : List Write} (h : s.txn = some (c, p)) :
    s.total = s.disk.apply p := by
  simp only [Sys.total, h]

theorem step_begin {s : Sys} (c : Nat) (h : s.txn = none) :
    step s (.begin c) = { s with txn := some (c, []) } := by
  simp only [step, h]

theorem step_stmt_none {s : Sys} (c : Nat) (ws : List Write) (h : s.txn = none) :
    step s (.stmt c ws) = { s with disk := s.disk.apply ws } := by
  simp only [step, h]

theorem step_stmt_same {s : Sys} {c : Nat} {p : List Write} (ws : List Write) (h : s.txn = some (c, p)) :
    step s (.stmt c ws) = { s with txn := some (c, p ++ ws) } := by
  simp only [step, h, if_true]

theorem step_stmt_other {s : Sys} {c c' : Nat} {p : List Write} (ws : List Write)
    (h : s.txn = some (c', p)) (hc : c ≠ c') :
    step s (.stmt c ws) = { s with disk := s.disk.apply ws } := by
  simp only [step, h, if_neg hc]

theorem step_commit {s : Sys} {c : Nat} {p : List Write} (h : s.txn = some (c, p)) :
    step s (.commit c) = { s with disk := s.disk.apply p, txn := none } := by
  simp only [step, h, if_true]

theorem step_read (s : Sys) (c : Nat) : step s (.stmt c []) = s := by
  obtain ⟨d, _ | ⟨c', p⟩, m⟩ := s
  · rfl
  · show (if c = c' then _ else _) = _
    split
    · rw [List.append_nil]
    · rfl

/-- The accepting arms of `shapeStep c`: in-memory publications and reads anywhere, `BEGIN c` when idle,
writes on `c` and `COMMIT c` inside the transaction. -/
inductive Legal (c : Nat) : Phase → Op → Phase → Prop
  | mem (p x) : Legal c p (.mem x) p
  | read (p c') : Legal c p (.stmt c' []) p
  | begin : Legal c .idle (.begin c) .inTxn
  | write (ws) : Legal c .inTxn (.stmt c ws) .inTxn
  | commit : Legal c .inTxn (.commit c) .done

theorem Legal.of_shapeStep {c : Nat} {p q : Phase} {op : Op} : shapeStep c p op = some q →
    Legal c p op q := by
  fun_cases shapeStep c p op <;> intro h <;> cases h
  -- the `.inTxn, .stmt c' ws` arm accepts a statement on `c` and a read on any connection
  case case8 h => rcases h with rfl | rfl <;> constructor
  all_goals constructor

theorem shapeRun_cons {c : Nat} {p q : Phase} {op : Op} {rest : List Op}
    (h : shapeRun c p (op :: rest) = some q) :
    ∃ p', Legal c p op p' ∧ shapeRun c p' rest = some q := by
  unfold shapeRun at h
  split at h
  · exact ⟨_, .of_shapeStep ‹_›, h⟩
  · cases h

theorem step_legal {c : Nat} {p q : Phase} {op : Op} {s : Sys} (hl : Legal c p op q)
    (ha : Agrees c p s) :
    Agrees c q (step s op) ∧ (step s op).total = s.total.apply (opWrites op) ∧
    ((∀ c', op ≠ .commit c') → (step s op).disk = s.disk) := by
  cases hl with
  | mem p => cases p <;> exact ⟨ha, rfl, fun _ => rfl⟩
  | read =>
    rw [step_read]
    exact ⟨ha, rfl, fun _ => rfl⟩
  | «begin» =>
    rw [step_begin c ha, Sys.total_none ha]
    exact ⟨⟨[], rfl⟩, rfl, fun _ => rfl⟩
  | write ws =>
    obtain ⟨pend, ht⟩ := ha
    rw [step_stmt_same ws ht, Sys.total_some ht]
    exact ⟨⟨_, rfl⟩, apply_append _ _ _, fun _ => rfl⟩
  | commit =>
    obtain ⟨pend, ht⟩ := ha
    rw [step_commit ht, Sys.total_some ht]
    exact ⟨rfl, rfl, fun h => absurd rfl (h c)⟩

theorem run_legal (c : Nat) : ∀ (ops : List Op) (p q : Phase) (s : Sys),
    shapeRun c p ops = some q → Agrees c p s →
    Agrees c q (run ops s) ∧ (run ops s).total = s.total.apply (writesOf ops)
  | [], p, q, s, h, ha => by cases h; exact ⟨ha, rfl⟩
  | op :: rest, p, q, s, h, ha => by
    obtain ⟨p', hs, h'⟩ := shapeRun_cons h
    obtain ⟨ha', ht, _⟩ := step_legal hs ha
    obtain ⟨hq, hr⟩ := run_legal c rest p' q (step s op) h' ha'
    exact ⟨hq, by rw [run_cons, hr, ht, writesOf_cons, apply_append]⟩

/-- After the `COMMIT` there is no second one. -/
theorem commitIdx_done {c : Nat} : ∀ {ops : List Op} {q : Phase},
    shapeRun c .done ops = some q → commitIdx ops = ops.length
  | [], _, _ => rfl
  | _ :: _, _, h => by
    obtain ⟨_, hl, h'⟩ := shapeRun_cons h
    cases hl <;> exact congrArg (· + 1) (commitIdx_done h')

theorem disk_flip (c : Nat) (ops : List Op) : ∀ (p q : Phase) (s : Sys) (k : Nat),
    shapeRun c p ops = some q → Agrees c p s →
    (run (ops.take k) s).disk = if k ≤ commitIdx ops then s.disk else (run ops s).disk := by
  induction ops with
  | nil =>
    intro _ _ _ _ _ _
    rw [List.take_nil]
    exact (ite_self _).symm
  | cons op rest ih =>
    intro p q s k h ha
    cases k with
    | zero => exact (if_pos (Nat.zero_le _)).symm
    | succ k =>
      obtain ⟨p', hl, h'⟩ := shapeRun_cons h
      obtain ⟨ha', _, hd⟩ := step_legal hl ha
      rw [List.take_succ_cons, run_cons, run_cons, ih p' q _ k h' ha']
      cases hl with
      | commit =>
        -- what follows the `COMMIT` runs in phase `done`, where the two branches of `ih` coincide
        have hfull := ih _ q _ rest.length h' ha'
        rw [List.take_length, if_pos (Nat.le_of_eq (commitIdx_done h').symm)] at hfull
        rw [hfull, ite_self]
        exact (if_neg (Nat.not_succ_le_zero k)).symm
      | _ => exact ite_congr (propext Nat.add_le_add_iff_right.symm) (fun _ => hd fun _ h => nomatch h) fun _ => rfl

theorem shapeRun_append (c : Nat) : ∀ (a b : List Op) (p : Phase),
    shapeRun c p (a ++ b) = (shapeRun c p a).bind fun q => shapeRun c q b := by
  intro a
  induction a with
  | nil => intro b p; simp [shapeRun]
  | cons op rest ih =>
    intro b p
    simp only [List.cons_append, shapeRun]
    cases shapeStep c p op with
    | none => simp
    | some q => simpa using ih b q

/-- Every function of the SQLite write transaction issues its SQL on the transaction's own
connection (`self.get_conn()`). -/
theorem all_sql_on_txn_connection : sqliteFns.all (fun f => f.conn == .txn) = true := by decide

theorem connOf_valid (fn : Nat) (h : fn < sqliteFns.length) : connOf fn = txnConn := by
  unfold connOf
  rw [List.getElem?_eq_getElem h]
  have hm : sqliteFns[fn] ∈ sqliteFns := List.getElem_mem h
  have := List.all_eq_true.mp all_sql_on_txn_connection _ hm
  simp at this
  simp [this]

theorem shapeRun_fn {fn : Nat} (h : fn < sqliteFns.length) (ws : List Write) (rest : List Op) :
    shapeRun txnConn .inTxn (.stmt (connOf fn) ws :: rest) = shapeRun txnConn .inTxn rest := by
  simp only [shapeRun, shapeStep, connOf_valid fn h, true_or, if_true]

theorem shape_stmts_inTxn : ∀ (ss : List Stmt), (∀ s ∈ ss, s.fn < sqliteFns.length) →
    shapeRun txnConn .inTxn (stmtOps ss) = some .inTxn
  | [], _ => rfl
  | s :: rest, h =>
    (shapeRun_fn (h s (List.mem_cons_self ..)) s.ws _).trans
      (shape_stmts_inTxn rest fun x hx => h x (List.mem_cons_of_mem _ hx))

theorem tsMaxFn_valid : tsMaxFn < sqliteFns.length := by decide

theorem shape_expandAll (w : Workload) (hw : w.WF) : ∀ (flat : List Flat) (b : Bool),
    flatOk b flat = true →
    shapeRun txnConn (if b then .done else .inTxn) (expandAll w flat) = some .done := by
  intro flat b
  -- one goal per arm of `flatOk`, whose flag says whether the `COMMIT` has run
  fun_induction flatOk b flat with
  | case1 => rintro rfl; rfl  -- end of the list
  | case2 b r ih => exact ih  -- `.mem`
  | case3 r ih => exact ih  -- `.sqlCommit`, the first
  | case5 r ih => exact fun h => (shapeRun_fn tsMaxFn_valid _ _).trans (ih h)  -- `.ts`
  | case6 fn r ih =>  -- `.be fn`
    intro h
    rw [Bool.and_eq_true, decide_eq_true_eq] at h
    exact (shapeRun_fn h.1 _ _).trans (ih h.2)
  | case7 i fns r ih =>  -- `.flush i fns`
    intro h
    rw [expandAll, shapeRun_append]
    exact (congrArg (Option.bind · _) (shape_stmts_inTxn _ (hw.flush i))).trans (ih h)
  | case4 | case8 | case9 | case10 => nofun  -- a second `COMMIT`, or a write after it: refused

end Kanidm.Crash
