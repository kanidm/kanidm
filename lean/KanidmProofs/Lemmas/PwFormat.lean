import KanidmModel.PwFormat
/-!
The codec layer of C30: string splitting, decimal / hex / base64 round trips (seven of C30's obligations
are stated here).
-/
namespace Kanidm.PwFormat
open Kanidm.Gen.PwFormat

theorem stripPrefix_append (p r : List Char) : stripPrefix p (p ++ r) = some r := by
  induction p with
  | nil => simp [stripPrefix]
  | cons c cs ih => simp [stripPrefix, ih]

theorem startsWith_append (p r : List Char) : startsWith p (p ++ r) = true := by
  rw [startsWith, stripPrefix_append]
  rfl

/-- `str::split(sep)` is core's `List.splitOn`, and joining with `$` its `intercalate`: the facts about
fields are core's (`List.splitOn_append_cons_self_of_not_mem`, `List.splitOn_eq_singleton`,
`List.splitOn_intercalate`). -/
theorem splitChar_eq (sep : Char) : ∀ s : List Char, splitChar sep s = s.splitOn sep
  | [] => rfl
  | c :: cs => by
    rw [splitChar, splitChar_eq sep cs, List.splitOn_cons_eq_if_modifyHead]
    simp only [beq_iff_eq]
    cases h : cs.splitOn sep with
    | nil => exact absurd h (List.splitOn_ne_nil _ _)
    | cons a t => rfl

theorem dollar_eq : ∀ fs : List (List Char), dollar fs = ['$'].intercalate fs
  | [] => rfl
  | [_] => List.intercalate_singleton.symm
  | a :: b :: rest => by
    rw [dollar, dollar_eq (b :: rest), List.intercalate_cons_cons]
    · exact (List.append_assoc a ['$'] _).symm
    · exact fun h => nomatch h

theorem splitChar_ne_nil (sep : Char) (s : List Char) : splitChar sep s ≠ [] :=
  splitChar_eq sep s ▸ List.splitOn_ne_nil sep s

theorem splitChar_dollar (a : List Char) (rest : List (List Char)) (h : ∀ f ∈ a :: rest, '$' ∉ f) :
    splitChar '$' (dollar (a :: rest)) = a :: rest := by
  rw [splitChar_eq, dollar_eq, List.splitOn_intercalate _ h (List.cons_ne_nil _ _)]

theorem splitOnce_field (sep : Char) (a b : List Char) (ha : sep ∉ a) :
    splitOnce sep (a ++ sep :: b) = some (a, b) := by
  induction a with
  | nil => simp [splitOnce]
  | cons c cs ih =>
    rw [List.cons_append, splitOnce, if_neg (List.ne_of_not_mem_cons ha).symm,
      ih (List.not_mem_of_not_mem_cons ha)]

theorem splitOnce_none (sep : Char) (a : List Char) (ha : sep ∉ a) : splitOnce sep a = none := by
  induction a with
  | nil => simp [splitOnce]
  | cons c cs ih =>
    rw [splitOnce, if_neg (List.ne_of_not_mem_cons ha).symm, ih (List.not_mem_of_not_mem_cons ha)]

theorem ofNat_digit : ∀ k : Fin 10, Char.ofNat (k.val + 48) = Nat.digitChar k.val := by decide

theorem natDigitsAux_eq (fuel n : Nat) (acc : List Char) :
    natDigitsAux fuel n acc = Nat.toDigitsCore 10 fuel n acc := by
  induction fuel generalizing n acc with
  | zero => rfl
  | succ f ih =>
    simp only [natDigitsAux, Nat.toDigitsCore, ofNat_digit ⟨n % 10, Nat.mod_lt _ (by decide)⟩, ih]

/-- The decimal rendering is core's (`Nat.repr`), so its facts are core's too. -/
theorem natDigits_eq (n : Nat) : natDigits n = Nat.toDigits 10 n := natDigitsAux_eq _ _ _

theorem natDigits_ne_nil (n : Nat) : natDigits n ≠ [] := natDigits_eq n ▸ Nat.toDigits_ne_nil

theorem isDigit_of_mem_natDigits {n : Nat} {c : Char} (hc : c ∈ natDigits n) : isDigit c = true := by
  have := Nat.isDigit_of_mem_toDigits (by decide) (by decide) (natDigits_eq n ▸ hc)
  simp only [Char.isDigit, Bool.and_eq_true, decide_eq_true_eq, ge_iff_le, UInt32.le_iff_toNat_le] at this
  simp only [isDigit, Bool.and_eq_true, decide_eq_true_eq]
  exact this

theorem digitsVal_natDigits (n : Nat) : digitsVal (natDigits n) = n := by
  have := Nat.ofDigitChars_ten_toDigits (n := n)
  rw [natDigits_eq]
  simpa [digitsVal, Nat.ofDigitChars, Nat.mul_comm] using this

theorem parseUnsigned_natDigits (bound n : Nat) :
    parseUnsigned bound (natDigits n) = if n < bound then some n else none := by
  have hall : (natDigits n).all isDigit = true := List.all_eq_true.mpr fun _ => isDigit_of_mem_natDigits
  unfold parseUnsigned
  split
  · rename_i rest heq
    rw [heq] at hall
    simp [isDigit] at hall
  · simp [parseDigits, hall, digitsVal_natDigits, natDigits_ne_nil]

theorem natDigits_no_sep (n : Nat) (sep : Char) (hs : isDigit sep = false) : sep ∉ natDigits n := by
  intro hm
  rw [isDigit_of_mem_natDigits hm] at hs
  cases hs

theorem lookup_eq {β : Type} (k : List Char) : ∀ tbl : List (List Char × β), lookup k tbl = tbl.lookup k
  | [] => rfl
  | (k', v) :: t => by
    rw [lookup, List.lookup_cons, lookup_eq k t]
    by_cases h : k = k'
    · rw [if_pos h, beq_iff_eq.mpr h]
    · rw [if_neg h, beq_eq_false_iff_ne.mpr h]

theorem firstPrefix_none : ∀ (tbl : List (List Char × Bool × TopParser)) (v : List Char),
    (∀ e ∈ tbl, stripPrefix e.1 v = none) → firstPrefix tbl v = none
  | [], _, _ => rfl
  | (p, s, k) :: t, v, h => by
    have h0 := h (p, s, k) (by simp)
    simp only at h0
    simp only [firstPrefix, h0]
    exact firstPrefix_none t v (fun e he => h e (by simp [he]))

theorem hexVal_hexDigit : ∀ (up : Bool) (v : Fin 16), hexVal (hexDigit up v.val) = some v.val := by
  decide +kernel

theorem hexDecode_hexEncode (up : Bool) (bs : Bytes) (h : ∀ b ∈ bs, b < 256) :
    hexDecode (hexEncode up bs) = some bs := by
  induction bs with
  | nil => simp [hexEncode, hexDecode]
  | cons b rest ih =>
    have hb : b < 256 := h b (by simp)
    have hr : ∀ x ∈ rest, x < 256 := fun x hx => h x (by simp [hx])
    have h1 := hexVal_hexDigit up ⟨b / 16, by omega⟩
    have h2 := hexVal_hexDigit up ⟨b % 16, by omega⟩
    simp only [hexEncode, hexDecode, h1, h2, ih hr]
    congr 2
    omega

/-- the two RFC 4648 alphabets -/
def Rfc (a : Alphabet) : Prop := a = .standard ∨ a = .urlSafe

theorem symVal_symChar {a : Alphabet} (ha : Rfc a) {v : Nat} (hv : v < 64) :
    symVal a (symChar a v) = some v := by
  have tbl : ∀ v : Fin 64, symVal .standard (symChar .standard v) = some v.val ∧
      symVal .urlSafe (symChar .urlSafe v) = some v.val := by decide +kernel
  rcases ha with rfl | rfl
  · exact (tbl ⟨v, hv⟩).1
  · exact (tbl ⟨v, hv⟩).2

theorem symVal_pad (a : Alphabet) : symVal a '=' = none := by cases a <;> decide

theorem scanSuffix_sym {a : Alphabet} {c : Char} {v : Nat} (h : symVal a c = some v)
    (cs : List Char) (i : Nat) (ms : List Nat) :
    scanSuffix a (c :: cs) i 0 ms = scanSuffix a cs (i + 1) 0 (ms ++ [v]) := by
  have hne : c ≠ '=' := fun e => by rw [e, symVal_pad] at h; cases h
  simp [scanSuffix, h, hne]

theorem scanSuffix_pad (a : Alphabet) (cs : List Char) {i : Nat} (hi : 2 ≤ i) (pads : Nat) (ms : List Nat) :
    scanSuffix a ('=' :: cs) i pads ms = scanSuffix a cs (i + 1) (pads + 1) ms := by
  simp [scanSuffix, Nat.not_lt.mpr hi]

theorem scanSuffix_pads (a : Alphabet) (acc : List Nat) : ∀ (p i k : Nat), (p = 0 ∨ 2 ≤ i) →
    scanSuffix a (List.replicate p '=') i k acc = some (k + p, acc)
  | 0, _, _, _ => rfl
  | p + 1, i, k, hi => by
    have hi : 2 ≤ i := by omega
    rw [List.replicate_succ, scanSuffix_pad a _ hi, scanSuffix_pads a acc p _ _ (by omega), Nat.add_right_comm]
    rfl

theorem scanSuffix_syms {a : Alphabet} (ha : Rfc a) (p : Nat) : ∀ (vs : List Nat) (i : Nat) (acc : List Nat),
    (∀ v ∈ vs, v < 64) → (p = 0 ∨ 2 ≤ i + vs.length) →
    scanSuffix a (vs.map (symChar a) ++ List.replicate p '=') i 0 acc = some (p, acc ++ vs)
  | [], i, acc, _, hp => by
    simpa using scanSuffix_pads a acc p i 0 hp
  | v :: vs, i, acc, hv, hp => by
    rw [List.map_cons, List.cons_append, scanSuffix_sym (symVal_symChar ha (hv v (by simp))),
      scanSuffix_syms ha p vs (i + 1) _ (fun x hx => hv x (by simp [hx])) (by simp at hp; omega)]
    simp

/-- The symbol values `b64Encode` writes for one, two, three bytes decode to them with no bits over:
each is a multiple of its radix plus a remainder below it. -/
theorem suffixBytes_enc1 (b0 : Nat) : suffixBytes [b0 / 4, b0 % 4 * 16] = ([b0], 0) := by
  simp [suffixBytes, Nat.div_add_mod']

theorem suffixBytes_enc2 (b0 : Nat) {b1 : Nat} (h1 : b1 < 256) :
    suffixBytes [b0 / 4, b0 % 4 * 16 + b1 / 16, b1 % 16 * 4] = ([b0, b1], 0) := by
  have q1 : b1 / 16 < 16 := by omega
  simp [suffixBytes, Nat.add_comm (_ * _), Nat.add_mul_div_right, Nat.add_mul_mod_self_right,
    Nat.div_eq_of_lt q1, Nat.mod_eq_of_lt q1, Nat.mod_add_div']

theorem suffixBytes_enc3 (b0 : Nat) {b1 b2 : Nat} (h1 : b1 < 256) (h2 : b2 < 256) :
    suffixBytes [b0 / 4, b0 % 4 * 16 + b1 / 16, b1 % 16 * 4 + b2 / 64, b2 % 64] = ([b0, b1, b2], 0) := by
  have q1 : b1 / 16 < 16 := by omega
  have q2 : b2 / 64 < 4 := by omega
  simp [suffixBytes, Nat.add_comm (_ * _), Nat.add_mul_div_right, Nat.add_mul_mod_self_right,
    Nat.div_eq_of_lt q1, Nat.div_eq_of_lt q2, Nat.mod_eq_of_lt q1, Nat.mod_eq_of_lt q2, Nat.mod_add_div']

theorem b64Decode_quad {a : Alphabet} (ha : Rfc a) {v0 v1 v2 v3 : Nat} (hv : ∀ v ∈ [v0, v1, v2, v3], v < 64)
    (pm : PadMode) (allow : Bool) (c4 : Char) (rest : List Char) :
    b64Decode a pm allow (symChar a v0 :: symChar a v1 :: symChar a v2 :: symChar a v3 :: c4 :: rest) =
      (b64Decode a pm allow (c4 :: rest)).map ((suffixBytes [v0, v1, v2, v3]).1 ++ ·) := by
  rw [b64Decode]
  simp only [symVal_symChar ha (hv v0 (by simp)), symVal_symChar ha (hv v1 (by simp)),
    symVal_symChar ha (hv v2 (by simp)), symVal_symChar ha (hv v3 (by simp))]
  cases b64Decode a pm allow (c4 :: rest) <;> rfl

theorem b64Encode_eq_nil {a : Alphabet} {pad : Bool} {bs : Bytes} (h : b64Encode a pad bs = []) : bs = [] := by
  revert h
  fun_cases b64Encode a pad bs <;> simp

/-- `vs`: the 2–4 symbol values of a terminal chunk, `p`: its `=` signs -/
theorem b64Decode_tail {a : Alphabet} (ha : Rfc a) (pm : PadMode) (allow : Bool) (p : Nat) (vs : List Nat)
    (hv : ∀ v ∈ vs, v < 64) (h2 : 2 ≤ vs.length) (h4 : vs.length + p ≤ 4) :
    b64Decode a pm allow (vs.map (symChar a) ++ List.replicate p '=') =
      if pm = .requireCanonical && (p + vs.length) % 4 != 0 then none
      else if pm = .requireNone && p > 0 then none
      else if !allow && (suffixBytes vs).2 != 0 then none else some (suffixBytes vs).1 := by
  -- the last clause of `b64Decode` (one to four characters left): the text is neither empty nor five long
  have hd := b64Decode.eq_3 a pm allow (vs.map (symChar a) ++ List.replicate p '=')
    (fun e => by
      have := congrArg List.length e
      simp only [List.length_append, List.length_map, List.length_nil] at this; omega)
    (fun _ _ _ _ _ _ e => by
      have := congrArg List.length e
      simp only [List.length_append, List.length_map, List.length_replicate, List.length_cons] at this; omega)
  rw [hd, decodeSuffix, scanSuffix_syms ha p vs 0 [] hv (by omega)]
  simp only [List.nil_append, Nat.not_lt.mpr h2, if_false]

/-- A whole number of byte triples has no terminal chunk and is read under both padding modes; otherwise
padded text only under `requireCanonical`, unpadded only under `requireNone`. -/
theorem b64Decode_b64Encode {a : Alphabet} (ha : Rfc a) (pm : PadMode) (pad allow : Bool) :
    ∀ (bs : Bytes), (∀ b ∈ bs, b < 256) →
      b64Decode a pm allow (b64Encode a pad bs) =
        if bs.length % 3 = 0 ∨ pad = (pm == .requireCanonical) then some bs else none
  | [], _ => rfl
  | [b0], h => by
    have hb0 : b0 < 256 := h b0 (by simp)
    have henc : b64Encode a pad [b0] =
        [b0 / 4, b0 % 4 * 16].map (symChar a) ++ List.replicate (if pad then 2 else 0) '=' := by
      cases pad <;> rfl
    rw [henc, b64Decode_tail ha pm allow _ _ (by simp; omega) (by simp) (by cases pad <;> simp),
      suffixBytes_enc1 b0]
    cases pad <;> cases pm <;> simp
  | [b0, b1], h => by
    have hb0 : b0 < 256 := h b0 (by simp)
    have hb1 : b1 < 256 := h b1 (by simp)
    have henc : b64Encode a pad [b0, b1] =
        [b0 / 4, b0 % 4 * 16 + b1 / 16, b1 % 16 * 4].map (symChar a) ++ List.replicate (if pad then 1 else 0) '=' := by
      cases pad <;> rfl
    rw [henc, b64Decode_tail ha pm allow _ _ (by simp; omega) (by simp) (by cases pad <;> simp),
      suffixBytes_enc2 b0 hb1]
    cases pad <;> cases pm <;> simp
  | b0 :: b1 :: b2 :: rest, h => by
    have hb0 : b0 < 256 := h b0 (by simp)
    have hb1 : b1 < 256 := h b1 (by simp)
    have hb2 : b2 < 256 := h b2 (by simp)
    have hv : ∀ v ∈ [b0 / 4, b0 % 4 * 16 + b1 / 16, b1 % 16 * 4 + b2 / 64, b2 % 64], v < 64 := by
      simp; omega
    cases hrest : b64Encode a pad rest with
    | nil =>
      cases b64Encode_eq_nil hrest
      have := b64Decode_tail ha pm allow 0 _ hv (by simp) (by simp)
      rw [suffixBytes_enc3 b0 hb1 hb2] at this
      simpa [b64Encode] using this
    | cons c cs =>
      have ih := b64Decode_b64Encode ha pm pad allow rest fun x hx => h x (by simp [hx])
      rw [hrest] at ih
      rw [b64Encode, hrest, b64Decode_quad ha hv, ih, suffixBytes_enc3 b0 hb1 hb2]
      have : (rest.length + 3) % 3 = rest.length % 3 := Nat.add_mod_right _ _
      by_cases hC : rest.length % 3 = 0 ∨ pad = (pm == .requireCanonical) <;> simp [hC, this]

theorem b64Decode_b64Encode_pad {a : Alphabet} (ha : Rfc a) (allow : Bool) :
    ∀ (bs : Bytes), (∀ b ∈ bs, b < 256) →
      b64Decode a .requireCanonical allow (b64Encode a true bs) = some bs :=
  fun bs h => (b64Decode_b64Encode ha _ _ _ bs h).trans (if_pos (.inr rfl))

theorem b64Decode_b64Encode_nopad {a : Alphabet} (ha : Rfc a) (allow : Bool) :
    ∀ (bs : Bytes), (∀ b ∈ bs, b < 256) →
      b64Decode a .requireNone allow (b64Encode a false bs) = some bs :=
  fun bs h => (b64Decode_b64Encode ha _ _ _ bs h).trans (if_pos (.inr rfl))

theorem decodeStd_b64Encode (bs : Bytes) (h : ∀ b ∈ bs, b < 256) :
    decodeStd (b64Encode .standard true bs) = some bs :=
  b64Decode_b64Encode_pad (.inl rfl) false bs h

theorem scanSuffix_bad (a : Alphabet) (c : Char) (hc : symVal a c = none) (hp : c ≠ '=')
    (suf : List Char) (i pads : Nat) (ms : List Nat) (h : c ∈ suf) : scanSuffix a suf i pads ms = none := by
  fun_induction scanSuffix a suf i pads ms with
  | case1 => cases h                                  -- end of the text
  | case2 | case4 | case5 => rfl                      -- refusals: early `=`, symbol after `=`, no symbol
  | case3 _ _ _ _ _ ih =>                             -- an `=`: it is not `c`
    exact ih ((List.mem_cons.mp h).resolve_left hp)
  | case6 _ _ _ _ _ _ _ _ hv ih =>                    -- a symbol (`hv`: its value): it is not `c`
    exact ih ((List.mem_cons.mp h).resolve_left fun e => by rw [e, hv] at hc; cases hc)

theorem b64Decode_bad_char (a : Alphabet) (pm : PadMode) (allow : Bool) (c : Char)
    (hc : symVal a c = none) (hp : c ≠ '=') :
    ∀ (s : List Char), c ∈ s → b64Decode a pm allow s = none := by
  intro s h
  fun_induction b64Decode a pm allow s with
  | case1 => cases h                                  -- empty text
  | case2 _ _ _ _ _ _ _ _ _ _ h3 h2 h1 h0 _ hbs ih =>
    -- a full quad decoded (`h0`…`h3`: its four values) and so did the rest (`hbs`): `c` is nowhere
    simp only [List.mem_cons] at h ih
    rcases h with rfl | rfl | rfl | rfl | h
    · rw [hc] at h0; cases h0
    · rw [hc] at h1; cases h1
    · rw [hc] at h2; cases h2
    · rw [hc] at h3; cases h3
    · rw [ih h] at hbs; cases hbs
  | case3 | case4 => rfl                              -- a quad refused: the rest failed, or one of the four
  | case5 suf =>                                      -- the last one to four characters
    simp only [decodeSuffix, scanSuffix_bad a c hc hp suf 0 0 [] h]

theorem b64Encode_not_mem {a : Alphabet} (ha : Rfc a) {pad : Bool} {c : Char} (hc : symVal a c = none)
    (hp : c ≠ '=') (bs : Bytes) (h : ∀ b ∈ bs, b < 256) : c ∉ b64Encode a pad bs := by
  intro hm
  have hd := b64Decode_b64Encode ha (if pad then .requireCanonical else .requireNone) pad false bs h
  rw [b64Decode_bad_char a _ false c hc hp _ hm, if_pos (.inr (by cases pad <;> rfl))] at hd
  cases hd

theorem dotToPlus_plusToDot {c : Char} (h : c ≠ '.') : dotToPlus (plusToDot c) = c := by
  unfold dotToPlus plusToDot
  by_cases hp : c = '+' <;> simp [hp, h]

/-- the `ab64_to_b64!` macro's padding rule -/
theorem b64Encode_pad_eq (a : Alphabet) : ∀ (bs : Bytes),
    b64Encode a true bs =
      match (b64Encode a false bs).length % 4 with
      | 2 => b64Encode a false bs ++ ['=', '=']
      | 3 => b64Encode a false bs ++ ['=']
      | _ => b64Encode a false bs
  | [] | [_] | [_, _] => rfl
  | b0 :: b1 :: b2 :: rest => by
    have : ((b64Encode a false rest).length + 1 + 1 + 1 + 1) % 4 = (b64Encode a false rest).length % 4 := by
      omega
    rw [b64Encode, b64Encode, b64Encode_pad_eq a rest]
    simp only [List.length_cons, this]
    split <;> rfl

theorem ab64_to_b64_correct : ∀ (bs : Bytes), (∀ b ∈ bs, b < 256) →
    ab64ToB64 (ab64Encode bs) = b64Encode .standard true bs := by
  intro bs h
  have hmap : (ab64Encode bs).map dotToPlus = b64Encode .standard false bs := by
    rw [ab64Encode, List.map_map]
    refine (List.map_congr_left fun c hc => ?_).trans (List.map_id _)
    exact dotToPlus_plusToDot fun e => b64Encode_not_mem (.inl rfl) (by decide) (by decide) bs h (e ▸ hc)
  rw [ab64ToB64, hmap]
  exact (b64Encode_pad_eq .standard bs).symm

theorem decodeAb64_ab64Encode (bs : Bytes) (h : ∀ b ∈ bs, b < 256) : decodeAb64 (ab64Encode bs) = some bs := by
  unfold decodeAb64
  rw [ab64_to_b64_correct bs h]
  exact b64Decode_b64Encode_pad (Or.inl rfl) true bs h

theorem ab64Encode_no_dollar (bs : Bytes) (h : ∀ b ∈ bs, b < 256) : '$' ∉ ab64Encode bs := by
  intro hm
  obtain ⟨c, hc, he⟩ := List.mem_map.mp hm
  unfold plusToDot at he
  by_cases hp : c = '+'
  · rw [if_pos hp] at he; revert he; decide
  · rw [if_neg hp] at he
    exact b64Encode_not_mem (.inl rfl) (by decide) (by decide) bs h (he ▸ hc)

end Kanidm.PwFormat
