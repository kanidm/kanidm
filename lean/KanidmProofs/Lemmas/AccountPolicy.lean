import KanidmModel.AccountPolicy
import KanidmProofs.Lemmas.ListFold
/-!
Helper lemmas for C35 (account policy resolution); C31 takes `foldFrom_pwMax` from here.  `step_eq` and `foldl_step` give the step and the fold in
closed form: every field of the result is the fold of one operation (`min`, `max`, `Option.merge max`,
`Option.merge and`, `caStep`) over the groups' values of that field, so order-independence and the bounds are
facts about such folds (`foldl_op_perm`, `foldl_glb` in `Lemmas/ListFold.lean`).  The CA list is the exception:
`caInter` commutes only in what the result trusts (`caTrusts_inter`, `caFold_trusts`), and only for lists with
one entry per key (`caWF` / `optWF`, the `BTreeMap` invariant C35's statements assume).  `Resolved.Same` is the
relation C35 compares resolved policies by.
-/
namespace Kanidm.AccountPolicy
open Kanidm.Gen.AccountPolicy

/-- The accumulator update of the four scalar fields. -/
def sel (takes : Nat → Nat → Bool) (m v : Nat) : Nat := if takes v m then v else m

/-- `takes` selects the smaller value; true of `<` and of `<=`. -/
def IsMin (takes : Nat → Nat → Bool) : Prop := ∀ m v, sel takes m v ≤ m ∧ sel takes m v ≤ v
/-- `takes` selects the larger value; true of `>` and of `>=`. -/
def IsMax (takes : Nat → Nat → Bool) : Prop := ∀ m v, m ≤ sel takes m v ∧ v ≤ sel takes m v

theorem isMin_eq {takes} (h : IsMin takes) (m v : Nat) : sel takes m v = min m v := by
  have := h m v
  unfold sel at this ⊢
  split <;> simp_all <;> omega

theorem isMax_eq {takes} (h : IsMax takes) (m v : Nat) : sel takes m v = max m v := by
  have := h m v
  unfold sel at this ⊢
  split <;> simp_all <;> omega

/-! The generated comparisons are of the right kind (either strictness would do). -/
theorem priv_isMin : IsMin privTakes := by
  intro m v; simp only [sel, privTakes, decide_eq_true_eq]; split <;> omega
theorem sess_isMin : IsMin sessTakes := by
  intro m v; simp only [sel, sessTakes, decide_eq_true_eq]; split <;> omega
theorem pwMin_isMax : IsMax pwMinTakes := by
  intro m v; simp only [sel, pwMinTakes, decide_eq_true_eq]; split <;> omega
theorem cred_isMax : IsMax credTakes := by
  intro m v; simp only [sel, credTakes, decide_eq_true_eq]; split <;> omega
theorem limResults_isMax : IsMax limResultsTakes := by
  intro m v; simp only [sel, limResultsTakes, decide_eq_true_eq]; split <;> omega
theorem limFilter_isMax : IsMax limFilterTakes := by
  intro m v; simp only [sel, limFilterTakes, decide_eq_true_eq]; split <;> omega

theorem limStep_eq {takes} (h : IsMax takes) (m x : Option Nat) :
    limStep takes m x = Option.merge max m x := by
  cases x <;> cases m <;> simp only [limStep, Option.merge, ← isMax_eq h, sel] <;> split <;> rfl

theorem fbStep_eq (m x : Option Bool) : fbStep m x = Option.merge and m x := by
  cases x <;> cases m <;> simp only [fbStep, Option.merge, Bool.and_comm]

theorem step_eq (a : Resolved) (p : AccountPolicy) :
    step a p =
      { privilegeExpiry := min a.privilegeExpiry p.privilegeExpiry
        authsessionExpiry := min a.authsessionExpiry p.authsessionExpiry
        pwMinLength := max a.pwMinLength p.pwMinLength
        pwMaxLength := a.pwMaxLength
        credentialPolicy := max a.credentialPolicy p.credentialPolicy
        caList := caStep a.caList p.caList
        limitFilterTest := Option.merge max a.limitFilterTest p.limitFilterTest
        limitResults := Option.merge max a.limitResults p.limitResults
        allowFallback := Option.merge and a.allowFallback p.allowFallback } := by
  rw [← isMin_eq priv_isMin, ← isMin_eq sess_isMin, ← isMax_eq pwMin_isMax, ← isMax_eq cred_isMax,
    ← limStep_eq limFilter_isMax, ← limStep_eq limResults_isMax, ← fbStep_eq]
  rfl

theorem foldl_step (l : List AccountPolicy) (a : Resolved) :
    l.foldl step a =
      { privilegeExpiry := l.foldl (fun m p => min m p.privilegeExpiry) a.privilegeExpiry
        authsessionExpiry := l.foldl (fun m p => min m p.authsessionExpiry) a.authsessionExpiry
        pwMinLength := l.foldl (fun m p => max m p.pwMinLength) a.pwMinLength
        pwMaxLength := a.pwMaxLength
        credentialPolicy := l.foldl (fun m p => max m p.credentialPolicy) a.credentialPolicy
        caList := l.foldl (fun m p => caStep m p.caList) a.caList
        limitFilterTest := l.foldl (fun m p => Option.merge max m p.limitFilterTest) a.limitFilterTest
        limitResults := l.foldl (fun m p => Option.merge max m p.limitResults) a.limitResults
        allowFallback := l.foldl (fun m p => Option.merge and m p.allowFallback) a.allowFallback } := by
  induction l generalizing a with
  | nil => rfl
  | cons p t ih => rw [List.foldl_cons, ih, step_eq]; rfl

/-- `BTreeMap` invariant: one entry per key. -/
def caWF : CaList → Prop
  | [] => True
  | (k, _) :: t => caFind t k = none ∧ caWF t

def optWF : Option CaList → Prop
  | none => True
  | some l => caWF l

theorem caInter_cons (k : Nat) (e : CaEntry) (t o : CaList) :
    caInter ((k, e) :: t) o =
      match caFind o k with
      | some oe =>
        if canRetain (entryInter e oe) then (k, entryInter e oe) :: caInter t o else caInter t o
      | none => caInter t o := by
  simp only [caInter, List.filterMap_cons]
  cases caFind o k with
  | none => rfl
  | some oe => by_cases h : canRetain (entryInter e oe) = true <;> simp [h]

theorem caInter_cons_cases (k : Nat) (e : CaEntry) (t o : CaList) :
    caInter ((k, e) :: t) o = caInter t o ∨
      ∃ e', caInter ((k, e) :: t) o = (k, e') :: caInter t o := by
  rw [caInter_cons]
  cases caFind o k with
  | none => exact Or.inl rfl
  | some oe =>
    by_cases h : canRetain (entryInter e oe) = true
    · exact Or.inr ⟨_, if_pos h⟩
    · exact Or.inl (if_neg h)

theorem caFind_inter_none (s o : CaList) (k : Nat) (h : caFind s k = none) :
    caFind (caInter s o) k = none := by
  fun_induction caFind s k with
  | case1 => rfl
  | case2 => cases h  -- the head has key `k`
  | case3 k' e t k hk ih =>  -- the head has another key
    rcases caInter_cons_cases k' e t o with h' | ⟨e', h'⟩ <;> rw [h']
    · exact ih h  -- the head is dropped
    · rw [caFind, if_neg hk]; exact ih h  -- the head is kept

theorem caWF_inter (s o : CaList) (h : caWF s) : caWF (caInter s o) := by
  induction s with
  | nil => trivial
  | cons hd t ih =>
    obtain ⟨k', e⟩ := hd
    rcases caInter_cons_cases k' e t o with h' | ⟨e', h'⟩ <;> rw [h']
    · exact ih h.2  -- the head is dropped
    · exact ⟨caFind_inter_none t o k' h.1, ih h.2⟩  -- the head is kept

theorem caFind_inter (s o : CaList) (k : Nat) (h : caWF s) :
    caFind (caInter s o) k =
      match caFind s k, caFind o k with
      | some se, some oe => if canRetain (entryInter se oe) then some (entryInter se oe) else none
      | _, _ => none := by
  fun_induction caFind s k with
  | case1 => rfl
  | case2 e t k =>  -- the head is the entry for `k`; the tail has none
    have hn := caFind_inter_none t o k h.1
    rw [caInter_cons]
    cases caFind o k with
    | none => exact hn
    | some oe =>
      by_cases hr : canRetain (entryInter e oe) = true
      · simp [hr, caFind]
      · simp only [hr]; exact hn
  | case3 k' e t k hk ih =>  -- the head has another key
    rcases caInter_cons_cases k' e t o with h' | ⟨e', h'⟩ <;> rw [h'] <;>
      simpa only [caFind, if_neg hk] using ih h.2

theorem contains_filter (sd od : List Nat) (g : Nat) :
    (sd.filter fun x => od.contains x).contains g = (sd.contains g && od.contains g) := by
  rw [Bool.eq_iff_iff]
  simp [List.mem_filter]

theorem entryTrusts_inter (s o : CaEntry) (g : Nat) :
    entryTrusts (entryInter s o) g = (entryTrusts s g && entryTrusts o g) := by
  cases s <;> cases o <;> simp only [entryInter, entryTrusts, contains_filter, Bool.true_and, Bool.and_true]

theorem entryTrusts_of_not_retain (e : CaEntry) (g : Nat) (h : canRetain e = false) :
    entryTrusts e g = false := by
  cases e with
  | blanket => simp [canRetain] at h
  | devices d =>
    simp only [canRetain, Bool.not_eq_false', List.isEmpty_iff] at h
    subst h; rfl

theorem caTrusts_inter (s o : CaList) (k g : Nat) (h : caWF s) :
    caTrusts (caInter s o) k g = (caTrusts s k g && caTrusts o k g) := by
  unfold caTrusts
  rw [caFind_inter s o k h]
  cases hs : caFind s k with
  | none => simp
  | some se =>
    cases ho : caFind o k with
    | none => simp
    | some oe =>
      simp only
      by_cases hr : canRetain (entryInter se oe) = true
      · simp only [hr, if_true]; exact entryTrusts_inter se oe g
      · simp only [hr]
        have := entryTrusts_of_not_retain _ g (by simpa using hr)
        rw [entryTrusts_inter] at this
        simp [this]

theorem caStep_trusts (a p : Option CaList) (k g : Nat) (h : optWF a) :
    caOptTrusts (caStep a p) k g = (caOptTrusts a k g && caOptTrusts p k g) := by
  cases p with
  | none => simp [caStep, caOptTrusts]
  | some pl =>
    cases a with
    | none => simp [caStep, caOptTrusts]
    | some al => simp only [caStep, caOptTrusts]; exact caTrusts_inter al pl k g h

theorem caStep_wf (a p : Option CaList) (ha : optWF a) (hp : optWF p) : optWF (caStep a p) := by
  cases p with
  | none => exact ha
  | some pl =>
    cases a with
    | none => exact hp
    | some al => exact caWF_inter al pl ha

theorem caFold_wf (l : List AccountPolicy) (a : Option CaList) (ha : optWF a)
    (hl : ∀ p ∈ l, optWF p.caList) : optWF (l.foldl (fun m p => caStep m p.caList) a) :=
  List.foldlRecOn l _ ha fun m hm p hp => caStep_wf m p.caList hm (hl p hp)

theorem caFold_trusts (l : List AccountPolicy) (a : Option CaList) (k g : Nat) (ha : optWF a)
    (hl : ∀ p ∈ l, optWF p.caList) :
    caOptTrusts (l.foldl (fun m p => caStep m p.caList) a) k g =
      (caOptTrusts a k g && l.all fun p => caOptTrusts p.caList k g) := by
  induction l generalizing a with
  | nil => simp
  | cons q t ih =>
    simp only [List.foldl_cons, List.all_cons]
    rw [ih _ (caStep_wf a q.caList ha (hl q List.mem_cons_self))
      (fun p hp => hl p (List.mem_cons_of_mem _ hp)), caStep_trusts a q.caList k g ha, Bool.and_assoc]

theorem caFold_isSome (l : List AccountPolicy) (a : Option CaList) :
    (l.foldl (fun m p => caStep m p.caList) a).isSome = (a.isSome || l.any fun p => p.caList.isSome) := by
  induction l generalizing a with
  | nil => simp
  | cons q t ih =>
    simp only [List.foldl_cons, List.any_cons]
    rw [ih, ← Bool.or_assoc]
    congr 1
    cases a <;> cases h : q.caList <;> simp [caStep]

theorem finish_eq (a : Resolved) :
    finish a = { a with
      pwMinLength := if nistApplies a.credentialPolicy a.pwMinLength then pwSfaMin else a.pwMinLength } := by
  unfold finish
  split <;> simp [*]

theorem finish_pwMin (a : Resolved) :
    a.pwMinLength ≤ (finish a).pwMinLength ∧
      ((finish a).credentialPolicy < credMfa → pwSfaMin ≤ (finish a).pwMinLength) := by
  simp only [finish_eq, nistApplies, Bool.and_eq_true, decide_eq_true_eq, credMfa, pwSfaMin]
  split <;> omega

theorem foldFrom_pwMax (l : List AccountPolicy) : (foldFrom l).pwMaxLength = initPwMaxLength := by
  rw [foldFrom, finish_eq, foldl_step]
  rfl

/-- Two resolved policies mean the same: every scalar field equal, the CA requirement present in
both or in neither, and the same (CA, device) pairs trusted. -/
def Resolved.Same (r₁ r₂ : Resolved) : Prop :=
  r₁.privilegeExpiry = r₂.privilegeExpiry ∧ r₁.authsessionExpiry = r₂.authsessionExpiry ∧
  r₁.pwMinLength = r₂.pwMinLength ∧ r₁.pwMaxLength = r₂.pwMaxLength ∧
  r₁.credentialPolicy = r₂.credentialPolicy ∧ r₁.limitFilterTest = r₂.limitFilterTest ∧
  r₁.limitResults = r₂.limitResults ∧ r₁.allowFallback = r₂.allowFallback ∧
  r₁.caList.isSome = r₂.caList.isSome ∧ ∀ k g, caOptTrusts r₁.caList k g = caOptTrusts r₂.caList k g

theorem Resolved.Same.finish {a b : Resolved} (h : a.Same b) : (finish a).Same (finish b) := by
  obtain ⟨hpriv, hsess, hlen, hmax, hcred, hrest⟩ := h
  rw [finish_eq, finish_eq, hcred, hlen]
  exact ⟨hpriv, hsess, rfl, hmax, rfl, hrest⟩

end Kanidm.AccountPolicy
