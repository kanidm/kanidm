import KanidmModel.HostAuthz
import KanidmProofs.Lemmas.Ite
import KanidmProofs.Lemmas.Keyed
/-!
Vocabulary and lemmas for C45 (`KanidmProofs/C45.lean`): `BTreeSet` read as duplicate-free lists and the declarative
membership predicate `Member` of the property text; the cache as a finite map (`cacheGet_*`, over
`Lemmas/Keyed.lean`); `Known`, the records of an account in sight of the resolver, and `Fetched`, the three things
`get_usertoken` can do; `Published`, and `step_known`: a step brings no record into sight but the one its own
operation names.
-/
namespace Kanidm.HostAuthz
open Kanidm.Gen.HostAuthz

theorem mem_dedup (x : Nat) (l : List Nat) : x ∈ dedup l ↔ x ∈ l := by
  induction l with
  | nil => simp [dedup]
  | cons y ys ih =>
    by_cases h : y ∈ ys
    · simp only [dedup, List.contains_iff_mem, h, if_true, ih, List.mem_cons]
      exact ⟨Or.inr, fun hx => hx.elim (· ▸ h) id⟩
    · simp only [dedup, List.contains_iff_mem, h, if_false, List.mem_cons, ih]

/-- **The property's membership clause**, declaratively: some group of the record is named in
the allowed-login list by its name or by its uuid. -/
def Member (allow : List Nat) (t : UserTok) : Prop :=
  ∃ g ∈ t.groups, g.name ∈ allow ∨ g.uuid ∈ allow

instance (allow : List Nat) (t : UserTok) : Decidable (Member allow t) := by
  unfold Member; infer_instance

theorem mem_userSet (x : Nat) (t : UserTok) :
    x ∈ userSet t ↔ ∃ g ∈ t.groups, x ∈ groupKeys g.name g.uuid := by
  simp [userSet, mem_dedup, List.mem_flatMap]

theorem intersectionCount_pos (allow : List Nat) (t : UserTok) :
    0 < intersectionCount allow t ↔ ∃ x, x ∈ userSet t ∧ x ∈ allow := by
  simp [intersectionCount, List.length_pos_iff_exists_mem, mem_dedup]

/-- The set intersection of the code is non-empty exactly when the declarative clause holds
(depends on the generated `groupKeys`: which fields of a group are compared). -/
theorem inter_iff_member (allow : List Nat) (t : UserTok) :
    (∃ x, x ∈ userSet t ∧ x ∈ allow) ↔ Member allow t := by
  simp only [mem_userSet, groupKeys, Member]
  constructor
  · rintro ⟨x, ⟨g, hg, hx⟩, ha⟩
    simp only [List.mem_cons, List.not_mem_nil, or_false] at hx
    rcases hx with rfl | rfl
    · exact ⟨g, hg, Or.inl ha⟩
    · exact ⟨g, hg, Or.inr ha⟩
  · rintro ⟨g, hg, h | h⟩
    · exact ⟨g.name, ⟨g, hg, by simp⟩, h⟩
    · exact ⟨g.uuid, ⟨g, hg, by simp⟩, h⟩

theorem dedup_isEmpty (l : List Nat) : (dedup l).isEmpty = l.isEmpty := by
  cases l with
  | nil => rfl
  | cons y ys =>
    cases h : dedup (y :: ys) with
    | nil => exact absurd ((mem_dedup y (y :: ys)).mpr (List.mem_cons_self ..)) (h ▸ List.not_mem_nil)
    | cons _ _ => rfl

theorem cacheGet_eq (c : List (Nat × Entry)) (j : Nat) :
    cacheGet c j = (c.find? (fun p => Prod.fst p == j)).map Prod.snd := by
  unfold cacheGet
  cases c.find? (·.1 == j) <;> rfl

theorem cacheGet_nil (j : Nat) : cacheGet [] j = none := rfl

theorem cacheGet_cons (k : Nat) (e : Entry) (c : List (Nat × Entry)) (j : Nat) :
    cacheGet ((k, e) :: c) j = if k = j then some e else cacheGet c j := by
  unfold cacheGet
  by_cases h : k = j
  · simp [List.find?, h]
  · have hb : (k == j) = false := by simp [h]
    simp [List.find?, hb, h]

theorem cacheGet_erase (c : List (Nat × Entry)) (id j : Nat) :
    cacheGet (cacheErase c id) j = if j = id then none else cacheGet c j := by
  rw [cacheGet_eq, cacheGet_eq, cacheErase, Keyed.find_filter_key Prod.fst (· != id) c j]
  by_cases h : j = id <;> simp [h]

theorem cacheGet_put (c : List (Nat × Entry)) (id : Nat) (e : Entry) (j : Nat) :
    cacheGet (cachePut c id e) j = if j = id then some e else cacheGet c j := by
  unfold cachePut
  rw [cacheGet_cons, cacheGet_erase]
  by_cases h : j = id
  · simp [h]
  · have : ¬ id = j := fun h' => h h'.symm
    simp [h, this]

theorem cacheGet_map_expire (c : List (Nat × Entry)) (j : Nat) :
    cacheGet (c.map (fun (i, e) => (i, { e with expired := true }))) j =
      (cacheGet c j).map (fun e => { e with expired := true }) := by
  rw [cacheGet_eq, cacheGet_eq, Keyed.find_map Prod.fst ?_ j, Option.map_map, Option.map_map]
  · rfl
  · rintro ⟨_, _⟩ _; rfl

theorem getCached_some (st : St) (id : Nat) (t : UserTok) (h : (getCached st id).2 = some t) :
    ∃ e, cacheGet st.cache id = some e ∧ e.tok = t := by
  unfold getCached at h
  by_cases hn : id ∈ st.nx
  · simp [hn] at h
  · cases hc : cacheGet st.cache id with
    | none => simp [hn, hc] at h
    | some e =>
      simp only [List.contains_iff_mem, hn, hc, if_false] at h
      exact ⟨e, rfl, by simpa using h⟩

/-- The records of account `id` in sight of the resolver: its cached row, and the token the directory serves
now. -/
def Known (w : World) (st : St) (id : Nat) (t : UserTok) : Prop :=
  (∃ e, cacheGet st.cache id = some e ∧ e.tok = t) ∨
  (∃ gs v, w.dir id = .tok gs v ∧ t = ⟨true, gs, v⟩)

/-- What `get_usertoken` can do: answer what the cache answers (at most the provider state moves), store and
answer the token the directory serves now, or purge the row and answer nothing. -/
inductive Fetched (w : World) (st : St) (id : Nat) : St → Option UserTok → Prop
  | cached (n : Net) {o : Option UserTok} : (getCached st id).2 = o → Fetched w st id { st with net := n } o
  | fresh (n : Net) (gs : List GroupTok) (v : Bool) : w.dir id = .tok gs v →
      Fetched w st id
        { net := n, cache := cachePut st.cache id ⟨⟨true, gs, v⟩, false⟩, nx := st.nx } (some ⟨true, gs, v⟩)
  | purged (n : Net) :
      Fetched w st id { net := n, cache := cacheErase st.cache id, nx := id :: st.nx } none

theorem unixUserGet_some {w : World} {net n : Net} {id : Nat} {r : TokState} {t : UserTok}
    (h : unixUserGet w net id = (n, r, some t)) : ∃ gs v, w.dir id = .tok gs v ∧ t = ⟨true, gs, v⟩ := by
  revert h
  fun_cases unixUserGet w net id <;> intro h <;> cases h
  exact ⟨_, _, ‹_›, rfl⟩

theorem refresh_fetched (w : World) (st : St) (id : Nat) :
    Fetched w st id (refreshUsertoken w st id).1 (refreshUsertoken w st id).2 := by
  fun_cases refreshUsertoken w st id
  · next cached n _ t _ h =>  -- a token is stored
    -- whatever was cached, a token can only come from `unixUserGet`, so it is the one the directory serves
    have : ∃ gs v, w.dir id = .tok gs v ∧ t = ⟨true, gs, v⟩ := by
      clear_value cached
      split at h
      · split at h
        · exact unixUserGet_some h
        · cases h               -- the cached token's provider is unknown: nothing is fetched
      · exact unixUserGet_some h
    obtain ⟨gs, v, hd, rfl⟩ := this
    exact .fresh n gs v hd
  · exact .cached _ rfl    -- `update` without a token
  · exact .purged _        -- gone
  · exact .cached _ rfl    -- the cached answer stands

theorem getUsertoken_fetched (w : World) (st : St) (id : Nat) :
    Fetched w st id (getUsertoken w st id).1 (getUsertoken w st id).2 := by
  fun_cases getUsertoken w st id
  · exact refresh_fetched w st id                           -- expired or missing
  · next h => exact .cached st.net (congrArg Prod.snd h)    -- a live row, or a live nxcache entry

theorem Fetched.answer_known {w : World} {st st' : St} {id : Nat} {t : UserTok}
    (h : Fetched w st id st' (some t)) : Known w st id t := by
  cases h with
  | cached n ho => exact .inl (getCached_some st id t ho)
  | fresh n gs v hd => exact .inr ⟨gs, v, hd, rfl⟩

theorem Fetched.known_before {w : World} {st st' : St} {id : Nat} {o : Option UserTok}
    (h : Fetched w st id st' o) {j : Nat} {t : UserTok} (hk : Known w st' j t) : Known w st j t := by
  refine hk.elim (fun ⟨e, he, ht⟩ => ?_) .inr
  cases h with
  | cached n _ => exact .inl ⟨e, he, ht⟩
  | fresh n gs v hd =>
    rw [cacheGet_put] at he
    rcases ite_eq_cases he with ⟨rfl, he'⟩ | ⟨_, he'⟩
    · cases he'; exact .inr ⟨gs, v, hd, ht.symm⟩
    · exact .inl ⟨e, he', ht⟩
  | purged n =>
    rw [cacheGet_erase] at he
    exact .inl ⟨e, (of_ite_eq he nofun).2, ht⟩

theorem unixUserGet_online {w : World} {net : Net} (id : Nat) (hon : (checkOnline w net).2 = true) :
    unixUserGet w net id = match w.dir id with
      | .tok gs v => ((checkOnline w net).1, .update, some ⟨true, gs, v⟩)
      | .other r => (match replyNet r with
          | 0 => (checkOnline w net).1
          | 1 => .offline
          | _ => .check, replyState r, none) := by
  unfold unixUserGet
  revert hon
  rcases checkOnline w net with ⟨n, _ | _⟩ <;> intro hon
  · cases hon
  · rfl

theorem getUsertoken_of_stale {w : World} {st : St} {id : Nat} (hnx : id ∉ st.nx)
    (hc : cacheGet st.cache id = none ∨
      ∃ e, cacheGet st.cache id = some e ∧ e.expired = true ∧ e.tok.known = true)
    {n : Net} {r : TokState} {fresh : Option UserTok} (hu : unixUserGet w st.net id = (n, r, fresh)) :
    (∀ t, r = .update → fresh = some t → getUsertoken w st id =
        ({ net := n, cache := cachePut st.cache id ⟨t, false⟩, nx := st.nx }, some t)) ∧
    (r = .notFound → getUsertoken w st id =
        ({ net := n, cache := cacheErase st.cache id, nx := id :: st.nx }, none)) := by
  -- a missing or expired row of a known provider is refreshed
  have hstale : getUsertoken w st id = refreshUsertoken w st id ∧
      ∀ t, (getCached st id).2 = some t → t.known = true := by
    rcases hc with hc | ⟨e, hc, hex, hk⟩
    · simp [getUsertoken, getCached, hnx, hc]
    · simp [getUsertoken, getCached, hnx, hc, hex, hk]
  rw [hstale.1]
  constructor
  · rintro t rfl rfl  -- `update` with a token: stored
    cases hg : (getCached st id).2 <;> simp [refreshUsertoken, hg, hstale.2, hu, refreshAction]
  · rintro rfl        -- `notFound`: purged
    cases hg : (getCached st id).2 <;> simp [refreshUsertoken, hg, hstale.2, hu, refreshAction]

/-- A record of account `id` that existed at some point of a history: a row seeded into the cache
database, or a token the directory published for that account. -/
def Published (hist : List Op) (id : Nat) (t : UserTok) : Prop :=
  (∃ e, Op.seed id e ∈ hist ∧ e.tok = t) ∨
  (∃ gs v, Op.setDir id (.tok gs v) ∈ hist ∧ t = ⟨true, gs, v⟩)

theorem Published.mono {a b : List Op} {id : Nat} {t : UserTok} (hab : ∀ op ∈ a, op ∈ b)
    (h : Published a id t) : Published b id t :=
  h.imp (fun ⟨e, h1, h2⟩ => ⟨e, hab _ h1, h2⟩) fun ⟨gs, v, h1, h2⟩ => ⟨gs, v, hab _ h1, h2⟩

theorem pam_fetched (cfg : Cfg) (w : World) (st : St) (id : Nat) :
    ∃ o, Fetched w st id (pamAccountAllowed cfg w st id).1 o := by
  have hg := getUsertoken_fetched w st id
  fun_cases pamAccountAllowed cfg w st id
  · exact ⟨_, .cached st.net rfl⟩    -- a system account
  all_goals (rw [‹getUsertoken w st id = _›] at hg; exact ⟨_, hg⟩)

theorem step_known (cfg : Cfg) (w : World) (st : St) (op : Op) {j : Nat} {t : UserTok}
    (h : Known (step cfg w st op).1 (step cfg w st op).2.1 j t) : Known w st j t ∨ Published [op] j t := by
  cases op with
  | setDir i d =>
    refine h.elim (fun h => .inl (.inl h)) fun ⟨gs, v, hd, ht⟩ => ?_
    simp only [step, World.set] at hd
    rcases ite_eq_cases hd with ⟨rfl, rfl⟩ | ⟨_, hd⟩
    · exact .inr (.inr ⟨gs, v, List.mem_singleton_self _, ht⟩)
    · exact .inl (.inr ⟨gs, v, hd, ht⟩)
  | setSelf _ | markOffline | markNextCheck => exact .inl h
  | invalidate =>
    refine h.elim (fun ⟨e, he, ht⟩ => ?_) (.inl ∘ .inr)
    simp only [step, invalidate, cacheGet_map_expire, Option.map_eq_some_iff] at he
    obtain ⟨e0, he0, rfl⟩ := he
    exact .inl (.inl ⟨e0, he0, ht⟩)
  | seed i e0 =>
    refine h.elim (fun ⟨e, he, ht⟩ => ?_) (.inl ∘ .inr)
    simp only [step, cacheGet_put] at he
    rcases ite_eq_cases he with ⟨rfl, he'⟩ | ⟨_, he'⟩
    · cases he'; exact .inr (.inl ⟨_, List.mem_singleton_self _, ht⟩)
    · exact .inl (.inl ⟨e, he', ht⟩)
  | query i =>
    obtain ⟨_, hf⟩ := pam_fetched cfg w st i
    exact .inl (hf.known_before h)

theorem step_answer {cfg : Cfg} {w w' : World} {st st' : St} {op : Op} {r : Res}
    (hs : step cfg w st op = (w', st', some r)) :
    ∃ i, op = .query i ∧ r = (pamAccountAllowed cfg w st i).2 := by
  cases op with
  | query i => exact ⟨i, rfl, (Option.some.inj (congrArg (·.2.2) hs)).symm⟩
  | _ => cases hs

end Kanidm.HostAuthz
