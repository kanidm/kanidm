import KanidmModel.SoftLock
/-!
For C28 (soft lock).  The policy table is read through two functions, `windowEndOf` (the `reset_at` a failure
writes) and `delayOf` (its delay; `none` = locked until the window end).  On them rest the closed forms of
`record_failure` and `apply_time_step`, the invariant behind "a further failure never shortens the lock" (`Inv`),
and the one behind the budgets (`BInv`, `window_budget` for any `Windowed` policy).  The vocabulary of C28's
statements that is not part of the model is defined here, where it is first needed: `Policy.WF`, `windowEndOf`,
`lastTime`, `NoAdmin`, `Protocol`, `passwordCap`.
-/
namespace Kanidm.SoftLock
open Kanidm.Gen.SoftLock

theorem NS_pos : 0 < NS := by decide

/-- `e - e % w` with `e = s + w` is the end of the window containing `s`. -/
theorem windowReset_eq (w ct : Nat) : windowReset w ct = (asSecs ct / w + 1) * w * NS := by
  have h := Nat.div_add_mod (asSecs ct) w
  have : asSecs ct + w - asSecs ct % w = (asSecs ct / w + 1) * w := by
    rw [Nat.add_mul, Nat.one_mul, Nat.mul_comm]; omega
  simp only [windowReset, fromSecs, Nat.add_mod_right, this]

theorem lt_of_window {w k t : Nat} (hw : 0 < w) (h : asSecs t / w = k) : t < (k + 1) * w * NS := by
  have h1 : asSecs t < (k + 1) * w := by
    have := Nat.lt_mul_div_succ (asSecs t) hw
    rw [h, Nat.mul_comm] at this
    exact this
  unfold asSecs at h1
  exact (Nat.div_lt_iff_lt_mul NS_pos).mp h1

theorem windowReset_gt {w : Nat} (hw : 0 < w) (ct : Nat) : ct < windowReset w ct := by
  rw [windowReset_eq]
  exact lt_of_window hw rfl

theorem window_mono {w a b : Nat} (h : a ≤ b) : asSecs a / w ≤ asSecs b / w :=
  Nat.div_le_div_right (Nat.div_le_div_right h)

theorem windowReset_mono {w a b : Nat} (h : a ≤ b) : windowReset w a ≤ windowReset w b := by
  rw [windowReset_eq, windowReset_eq]
  exact Nat.mul_le_mul_right _ (Nat.mul_le_mul_right _ (Nat.succ_le_succ (window_mono h)))

/-- Delay (seconds) of the first row whose threshold exceeds `count`; `none` = the final `else`. -/
def rowDelay : List (Nat × Nat) → Nat → Option Nat
  | [], _ => none
  | (t, d) :: rest, count => if count < t then some d else rowDelay rest count

theorem rowsUnlock_eq (rows : List (Nat × Nat)) (c ct r : Nat) :
    rowsUnlock rows c ct r = match rowDelay rows c with
      | some d => ct + fromSecs d
      | none => r := by
  fun_induction rowDelay rows c with
  | case1 => rfl  -- empty table
  | case2 t d rest c h => exact if_pos h  -- this row
  | case3 t d rest c h ih => exact (if_neg h).trans ih  -- a later row

theorem rowDelay_mem {rows : List (Nat × Nat)} {c d : Nat} (h : rowDelay rows c = some d) :
    ∃ t, (t, d) ∈ rows := by
  fun_induction rowDelay rows c with
  | case1 => cases h  -- empty table
  | case2 t d' rest c _ => cases h; exact ⟨t, List.mem_cons_self⟩  -- this row
  | case3 t d' rest c _ ih => exact (ih h).imp fun _ => List.mem_cons_of_mem _  -- a later row

theorem rowDelay_none_of_cap {rows : List (Nat × Nat)} {cap c : Nat}
    (h : ∀ r ∈ rows, r.1 ≤ cap) (hc : cap ≤ c) : rowDelay rows c = none := by
  fun_induction rowDelay rows c with
  | case1 => rfl  -- empty table
  | case2 t d rest c hlt => have := h (t, d) List.mem_cons_self; omega  -- this row: excluded, `t ≤ cap ≤ c`
  | case3 t d rest c _ ih => exact ih (fun r hr => h r (List.mem_cons_of_mem _ hr)) hc  -- a later row

/-- Delays never decrease along the table (checked on the generated rows by evaluation). -/
def rowsMono : List (Nat × Nat) → Bool
  | [] => true
  | (_, d) :: rest => rest.all (fun r => decide (d ≤ r.2)) && rowsMono rest

theorem rowDelay_mono {rows : List (Nat × Nat)} (hm : rowsMono rows = true) {c c' d' : Nat}
    (hc : c ≤ c') (h : rowDelay rows c' = some d') : ∃ d, rowDelay rows c = some d ∧ d ≤ d' := by
  fun_induction rowDelay rows c with
  | case1 => cases h  -- empty table
  | case2 t d0 rest c h2 =>
    -- this row: `c` stops here, `c'` here or at a later one
    simp only [rowsMono, Bool.and_eq_true, List.all_eq_true, decide_eq_true_eq] at hm
    refine ⟨d0, rfl, ?_⟩
    rw [rowDelay] at h
    split at h
    · cases h; exact Nat.le_refl _
    · obtain ⟨t', ht'⟩ := rowDelay_mem h
      exact hm.1 (t', d') ht'
  | case3 t d0 rest c h2 ih =>  -- a later row, for `c` and so for `c'`
    simp only [rowsMono, Bool.and_eq_true] at hm
    exact ih hm.2 hc ((if_neg (by omega)).symm.trans h)

/-- Largest threshold of the Password table: from this count on the lock lasts until `reset_at`. -/
def passwordCap : Nat := (passwordRows.map (·.1)).foldl max 0

theorem passwordRows_le_cap : ∀ r ∈ passwordRows, r.1 ≤ passwordCap := by decide
theorem passwordRows_mono : rowsMono passwordRows = true := by decide
theorem passwordRows_pos : ∀ r ∈ passwordRows, 0 < r.2 := by decide

/-- `Totp(0)` panics in the code (`% 0`); every other policy value is meaningful. -/
def Policy.WF : Policy → Prop
  | .totp step => 0 < step
  | _ => True

/-- `reset_at` computed by the policy table for a failure at `ct`: the end of the window. -/
def windowEndOf : Policy → Nat → Nat
  | .password, ct => windowReset oneDay ct
  | .totp step, ct => windowReset step ct
  | .webauthn, ct => ct + fromSecs webauthnReset
  | .unrestricted, _ => 0

/-- Delay (seconds) of the lock written by a failure with count `c`; `none` = until the window end. -/
def delayOf : Policy → Nat → Option Nat
  | .password, c => rowDelay passwordRows c
  | .totp _, c => if c ≥ totpCap then none else some totpDelay
  | .webauthn, _ => some webauthnUnlock
  | .unrestricted, _ => none

/-- `unlock_at` written by a failure with count `c` at `ct`. -/
def unlockOf (p : Policy) (c ct : Nat) : Nat :=
  match delayOf p c with
  | some d => ct + fromSecs d
  | none => windowEndOf p ct

theorem failureNextStateInner_eq {p : Policy} (hp : p ≠ .unrestricted) (c ct : Nat) :
    failureNextStateInner p c ct = .locked c (windowEndOf p ct) (unlockOf p c ct) := by
  cases p with
  | password => simp [failureNextStateInner, windowEndOf, unlockOf, delayOf, rowsUnlock_eq]
  | totp step =>
    by_cases h : c ≥ totpCap <;> simp [failureNextStateInner, windowEndOf, unlockOf, delayOf, h]
  | webauthn => simp [failureNextStateInner, windowEndOf, unlockOf, delayOf]
  | unrestricted => exact absurd rfl hp

/-- Fails for a source without the wrapper, where `clampResets` is constantly `false`. -/
theorem clamp_locked (c r u : Nat) : clamp (.locked c r u) = .locked c (max r u) u := by
  simp only [clamp, clampResets, decide_eq_true_eq]
  split
  · rw [Nat.max_eq_right (by omega)]
  · rw [Nat.max_eq_left (by omega)]

theorem clamp_ge_unlock {c r u r' : Nat} (h : clamp (.locked c r u) = .locked c r' u) : u ≤ r' := by
  rw [clamp_locked] at h
  cases h
  exact Nat.le_max_right _ _

theorem failureNextState_eq {p : Policy} (hp : p ≠ .unrestricted) (c ct : Nat) :
    failureNextState p c ct =
      .locked c (max (windowEndOf p ct) (unlockOf p c ct)) (unlockOf p c ct) := by
  rw [failureNextState, failureNextStateInner_eq hp, clamp_locked]

theorem failureNextState_unrestricted (c ct : Nat) : failureNextState .unrestricted c ct = .init := rfl

theorem oneDay_pos : 0 < oneDay := by decide

theorem windowEndOf_gt {p : Policy} (hwf : p.WF) (hp : p ≠ .unrestricted) (ct : Nat) :
    ct < windowEndOf p ct := by
  cases p with
  | password => exact windowReset_gt oneDay_pos ct
  | totp step => exact windowReset_gt hwf ct
  | webauthn => exact Nat.lt_add_of_pos_right (by decide)
  | unrestricted => exact absurd rfl hp

theorem windowEndOf_mono {p : Policy} (hwf : p.WF) {a b : Nat} (h : a ≤ b) :
    windowEndOf p a ≤ windowEndOf p b := by
  cases p with
  | password => exact windowReset_mono h
  | totp step => exact windowReset_mono h
  | webauthn => exact Nat.add_le_add_right h _
  | unrestricted => exact Nat.le_refl _

theorem delayOf_pos {p : Policy} {c d : Nat} (h : delayOf p c = some d) : 0 < d := by
  cases p with
  | password =>
    obtain ⟨t, ht⟩ := rowDelay_mem h
    exact passwordRows_pos (t, d) ht
  | totp step =>
    simp only [delayOf] at h
    split at h
    · cases h
    · cases h; decide
  | webauthn => cases h; decide
  | unrestricted => cases h

theorem delayOf_mono {p : Policy} {c c' d' : Nat} (hc : c ≤ c') (h : delayOf p c' = some d') :
    ∃ d, delayOf p c = some d ∧ d ≤ d' := by
  cases p with
  | password => exact rowDelay_mono passwordRows_mono hc h
  | totp step =>
    simp only [delayOf] at h ⊢
    split at h
    · cases h
    · rw [if_neg (by omega)]
      exact ⟨_, rfl, by cases h; exact Nat.le_refl _⟩
  | webauthn => exact ⟨_, rfl, by cases h; exact Nat.le_refl _⟩
  | unrestricted => cases h

theorem unlockOf_gt {p : Policy} (hwf : p.WF) (hp : p ≠ .unrestricted) (c ct : Nat) :
    ct < unlockOf p c ct := by
  unfold unlockOf
  cases h : delayOf p c with
  | none => exact windowEndOf_gt hwf hp ct
  | some d => exact Nat.lt_add_of_pos_right (Nat.mul_pos (delayOf_pos h) NS_pos)

/-- The three generated counts of `record_failure` are all "one more than the state's count". -/
theorem recordFailure_state (s : SoftLock) (ct : Nat) :
    (recordFailure s ct).state = failureNextState s.policy (countOf s.state + 1) ct := by
  unfold recordFailure
  cases s.state <;> rfl

theorem recordFailure_locked {s : SoftLock} (hp : s.policy ≠ .unrestricted) (ct : Nat) :
    (recordFailure s ct).state =
      .locked (countOf s.state + 1)
        (max (windowEndOf s.policy ct) (unlockOf s.policy (countOf s.state + 1) ct))
        (unlockOf s.policy (countOf s.state + 1) ct) := by
  rw [recordFailure_state, failureNextState_eq hp]

theorem applyTimeStep_policy (s : SoftLock) (ct : Nat) (e : Option Nat) :
    (applyTimeStep s ct e).policy = s.policy := by
  unfold applyTimeStep
  cases s.state <;> rfl

theorem recorded_attempt (s : SoftLock) (ct : Nat) (e : Option Nat) (ok : Bool) :
    recorded s (.attempt ct e ok) = (isValid (applyTimeStep s ct e) && !ok) := by
  cases ok <;> cases h : isValid (applyTimeStep s ct e) <;> simp [recorded, attempt, h]

theorem exec_attempt (s : SoftLock) (ct : Nat) (e : Option Nat) (ok : Bool) :
    exec s (.attempt ct e ok) =
      if recorded s (.attempt ct e ok) then recordFailure (applyTimeStep s ct e) ct
      else applyTimeStep s ct e := by
  cases ok <;> cases h : isValid (applyTimeStep s ct e) <;> simp [recorded, exec, attempt, h]

theorem exec_policy (s : SoftLock) (e : Event) : (exec s e).policy = s.policy := by
  cases e with
  | step ct x => exact applyTimeStep_policy s ct x
  | fail ct => rfl
  | attempt ct x ok => rw [exec_attempt]; split <;> exact applyTimeStep_policy s ct x

theorem applyTimeStep_state (s : SoftLock) (ct : Nat) (e : Option Nat) :
    (applyTimeStep s ct e).state =
      match s.state with
      | .init => .init
      | .locked c r u =>
        if (boundReset s.lastExpireAt r e).2 < ct then .init
        else if u < ct then .unlocked c (boundReset s.lastExpireAt r e).2
        else .locked c (boundReset s.lastExpireAt r e).2 u
      | .unlocked c r => if r < ct then .init else .unlocked c r := by
  unfold applyTimeStep
  cases h : s.state with
  | init => exact h
  | locked c r u => simp only [lockedResets, lockedUnlocks, decide_eq_true_eq]
  | unlocked c r => simp only [unlockedResets, decide_eq_true_eq]

theorem boundReset_none (last r : Nat) : boundReset last r none = (last, r) := rfl

theorem boundReset_snd (last r : Nat) (e : Option Nat) :
    (boundReset last r e).2 = r ∨
      ∃ x, e = some x ∧ x ≠ last ∧ x < r ∧ (boundReset last r e).2 = x := by
  cases e with
  | none => exact Or.inl rfl
  | some x =>
    simp only [boundReset]
    by_cases h1 : expiryChanged last x = true
    · by_cases h2 : resetBeyondExpiry r x = true
      · rw [if_pos h1, if_pos h2]
        exact Or.inr ⟨x, rfl, Ne.symm (of_decide_eq_true h1), of_decide_eq_true h2, rfl⟩
      · rw [if_pos h1, if_neg h2]; exact Or.inl rfl
    · rw [if_neg h1]; exact Or.inl rfl

theorem applyTimeStep_locked {s : SoftLock} {c r u : Nat} (h : s.state = .locked c r u) (t : Nat) :
    (applyTimeStep s t none).state =
      if r < t then .init else if u < t then .unlocked c r else .locked c r u := by
  rw [applyTimeStep_state, h]
  rfl

theorem locked_stays {s : SoftLock} {c r u t : Nat} (h : s.state = .locked c r u)
    (hr : t ≤ r) (hu : t ≤ u) : (applyTimeStep s t none).state = .locked c r u := by
  rw [applyTimeStep_locked h, if_neg (Nat.not_lt.2 hr), if_neg (Nat.not_lt.2 hu)]

theorem locked_stays_foldl {c r u : Nat} (hur : u ≤ r) (ts : List Nat) (hts : ∀ t ∈ ts, t ≤ u)
    {a : SoftLock} (ha : a.state = .locked c r u) :
    (ts.foldl (fun a t => applyTimeStep a t none) a).state = .locked c r u :=
  List.foldlRecOn (motive := fun a : SoftLock => a.state = .locked c r u) ts _ ha
    fun _ hb t ht => locked_stays hb (Nat.le_trans (hts t ht) hur) (hts t ht)

theorem refused_iff (s : SoftLock) (t : Nat) :
    isValid (applyTimeStep s t none) = false ↔
      ∃ c r u, s.state = .locked c r u ∧ t ≤ r ∧ t ≤ u := by
  constructor
  · intro hv
    unfold isValid at hv
    cases hs : s.state with
    | init => simp [applyTimeStep_state, hs] at hv
    | unlocked c r => by_cases h1 : r < t <;> simp [applyTimeStep_state, hs, h1] at hv
    | locked c r u =>
      rw [applyTimeStep_locked hs] at hv
      refine ⟨c, r, u, rfl, ?_⟩
      by_cases h1 : r < t
      · simp [h1] at hv
      · by_cases h2 : u < t
        · simp [h1, h2] at hv
        · omega
  · rintro ⟨c, r, u, hs, hr, hu⟩
    rw [isValid, locked_stays hs hr hu]

/-- What every state reached under monotone time satisfies at time `now`: a delayed lock ends no
later than `now + delay(count)`. -/
def Inv (now : Nat) (s : SoftLock) : Prop :=
  match s.state with
  | .locked c _ u => ∀ d, delayOf s.policy c = some d → u ≤ now + fromSecs d
  | _ => True

theorem inv_step {now ct : Nat} {s : SoftLock} (h : Inv now s) (hm : now ≤ ct)
    (e : Option Nat) : Inv ct (applyTimeStep s ct e) := by
  unfold Inv at h ⊢
  rw [applyTimeStep_policy, applyTimeStep_state]
  cases hs : s.state with
  | init => trivial
  | locked c r u =>
    rw [hs] at h
    by_cases e1 : (boundReset s.lastExpireAt r e).2 < ct
    · simp [e1]
    · by_cases e2 : u < ct
      · simp [e1, e2]
      · simp only [e1, e2, if_false]
        exact fun d hd => Nat.le_trans (h d hd) (Nat.add_le_add_right hm _)
  | unlocked c r => by_cases e1 : r < ct <;> simp [e1]

theorem inv_fail {ct : Nat} (s : SoftLock) : Inv ct (recordFailure s ct) := by
  unfold Inv
  by_cases hp : s.policy = .unrestricted
  · rw [recordFailure_state, hp, failureNextState_unrestricted]; trivial
  · rw [recordFailure_locked hp]
    intro d (hd : delayOf s.policy _ = some d)
    rw [unlockOf, hd]
    exact Nat.le_refl _

theorem inv_exec {now : Nat} {s : SoftLock} (h : Inv now s) (e : Event)
    (hm : now ≤ e.time) : Inv e.time (exec s e) := by
  cases e with
  | step ct x => exact inv_step h hm x
  | fail ct => exact inv_fail s
  | attempt ct x ok =>
    rw [exec_attempt]
    split
    · exact inv_fail _
    · exact inv_step h hm x

/-- Time of the last event (or `now` for the empty history). -/
def lastTime : Nat → List Event → Nat
  | now, [] => now
  | _, e :: es => lastTime e.time es

theorem inv_run {now : Nat} {s : SoftLock} (h : Inv now s) (es : List Event)
    (hm : Mono now es) : Inv (lastTime now es) (run s es) := by
  induction es generalizing now s with
  | nil => exact h
  | cons e es ih => exact ih (inv_exec h e hm.1) hm.2

theorem run_policy (s : SoftLock) (es : List Event) : (run s es).policy = s.policy :=
  List.foldlRecOn (motive := fun a => a.policy = s.policy) es exec rfl
    fun b hb e _ => (exec_policy b e).trans hb

/-- For any state satisfying the invariant (raw failures while locked included): the new `reset_at`
is at least the window end, and the new delay, counted from a later time, is at least the old one. -/
theorem fail_keeps_refusal {now ct t : Nat} {s : SoftLock}
    (hp : s.policy ≠ .unrestricted) (hinv : Inv now s) (hlater : now ≤ ct)
    (hwin : t ≤ windowEndOf s.policy ct)
    (href : isValid (applyTimeStep s t none) = false) :
    isValid (applyTimeStep (recordFailure s ct) t none) = false := by
  rw [refused_iff] at href ⊢
  obtain ⟨c, r, u, hs, htr, htu⟩ := href
  unfold Inv at hinv
  rw [hs] at hinv
  refine ⟨_, _, _, recordFailure_locked hp ct, Nat.le_trans hwin (Nat.le_max_left _ _), ?_⟩
  rw [hs, unlockOf]
  cases hd : delayOf s.policy (countOf (.locked c r u) + 1) with
  | none => exact hwin
  | some d' =>
    obtain ⟨d, hd0, hle⟩ := delayOf_mono (Nat.le_succ c) hd
    have := hinv d hd0
    have : fromSecs d ≤ fromSecs d' := Nat.mul_le_mul_right _ hle
    simp only; omega

/-- A policy whose failures set `reset_at` to the end of the `w`-second window containing `ct`,
and from count `cap` on lock until then.  (`cap_pos`: the first failure from `Init` is always recorded.) -/
structure Windowed (p : Policy) (w cap : Nat) : Prop where
  locks : p ≠ .unrestricted
  width_pos : 0 < w
  cap_pos : 0 < cap
  windowEnd : ∀ ct, windowEndOf p ct = windowReset w ct
  capped : ∀ c, cap ≤ c → delayOf p c = none

theorem windowed_password : Windowed .password oneDay passwordCap :=
  ⟨nofun, oneDay_pos, by decide, fun _ => rfl, fun _ hc => rowDelay_none_of_cap passwordRows_le_cap hc⟩

theorem windowed_totp {step : Nat} (h : 0 < step) : Windowed (.totp step) step totpCap :=
  ⟨nofun, h, by decide, fun _ => rfl, fun _ hc => if_pos hc⟩

/-- No event carries an administrator-set soft-lock expiry. -/
def NoAdmin (es : List Event) : Prop := ∀ e ∈ es, e.expire = none

/-- The history follows the server's protocol: failures are recorded only through `attempt`. -/
def Protocol (es : List Event) : Prop := ∀ e ∈ es, ∀ ct, e ≠ .fail ct

theorem failsIn_cons_ne {w k : Nat} (s : SoftLock) {e : Event} (es : List Event)
    (h : asSecs e.time / w ≠ k) : failsIn w k s (e :: es) = failsIn w k (exec s e) es := by
  simp [failsIn, h]

theorem failsIn_cons_eq {w k : Nat} (s : SoftLock) {e : Event} (es : List Event)
    (h : asSecs e.time / w = k) :
    failsIn w k s (e :: es) = (if recorded s e then 1 else 0) + failsIn w k (exec s e) es := by
  simp [failsIn, h]

theorem failsIn_past {w k : Nat} (es : List Event) (s : SoftLock) (now : Nat)
    (hm : Mono now es) (hk : k < asSecs now / w) : failsIn w k s es = 0 := by
  induction es generalizing s now with
  | nil => rfl
  | cons e es ih =>
    have h1 : asSecs now / w ≤ asSecs e.time / w := window_mono hm.1
    rw [failsIn_cons_ne s es (by omega)]
    exact ih _ _ hm.2 (by omega)

/-- Budget invariant for a window ending at `E`, after `n` failures recorded in it: the lock was
written by one of them (`reset_at` not before `E`), has counted them all, and if it has been
released the count is still below `cap`. -/
def BInv (E cap n : Nat) (st : LockState) : Prop :=
  n = 0 ∨
  match st with
  | .init => False
  | .locked c r u => E ≤ r ∧ n ≤ c ∧ (cap ≤ c → E ≤ u)
  | .unlocked c r => E ≤ r ∧ n ≤ c ∧ c < cap

theorem binv_step {E cap n t : Nat} {s : SoftLock} (ht : t < E)
    (h : BInv E cap n s.state) : BInv E cap n (applyTimeStep s t none).state := by
  refine h.imp_right fun h => ?_
  cases hs : s.state with
  | init => rw [applyTimeStep_state, hs]; rw [hs] at h; exact h
  | locked c r u =>
    rw [hs] at h
    obtain ⟨hr, hn, hu⟩ : E ≤ r ∧ n ≤ c ∧ (cap ≤ c → E ≤ u) := h
    rw [applyTimeStep_locked hs, if_neg (by omega)]
    by_cases h2 : u < t
    · -- released before `E`: the count is below `cap`
      rw [if_pos h2]
      exact ⟨hr, hn, Nat.lt_of_not_le fun hc => by have := hu hc; omega⟩
    · rw [if_neg h2]
      exact ⟨hr, hn, hu⟩
  | unlocked c r =>
    rw [hs] at h
    obtain ⟨hr, hn, hc⟩ : E ≤ r ∧ n ≤ c ∧ c < cap := h
    rw [applyTimeStep_state, hs]
    simp only
    rw [if_neg (by omega)]
    exact ⟨hr, hn, hc⟩

theorem binv_fail {p : Policy} {w cap E n ct : Nat} (hW : Windowed p w cap)
    {s : SoftLock} (hs : s.policy = p) (hE : windowReset w ct = E) (hv : isValid s = true)
    (h : BInv E cap n s.state) :
    BInv E cap (n + 1) (recordFailure s ct).state ∧ n + 1 ≤ cap := by
  subst hs
  rw [recordFailure_locked hW.locks, hW.windowEnd, hE]
  have hcnt : n ≤ countOf s.state ∧ n + 1 ≤ cap := by
    rcases h with h | h
    · have := hW.cap_pos; omega
    · cases hst : s.state with
      | init => rw [hst] at h; exact h.elim
      | locked c r u => simp [isValid, hst] at hv
      | unlocked c r =>
        rw [hst] at h
        obtain ⟨_, hn, hc⟩ : E ≤ r ∧ n ≤ c ∧ c < cap := h
        exact ⟨hn, by omega⟩
  refine ⟨Or.inr ⟨Nat.le_max_left _ _, by omega, fun hc => ?_⟩, hcnt.2⟩
  rw [unlockOf, hW.capped _ hc, hW.windowEnd, hE]
  exact Nat.le_refl _

theorem binv_exec {p : Policy} {w cap k n : Nat} (hW : Windowed p w cap)
    {s : SoftLock} (hs : s.policy = p) {e : Event} (hexp : e.expire = none)
    (hfail : ∀ ct, e ≠ .fail ct) (hk : asSecs e.time / w = k)
    (hb : BInv ((k + 1) * w * NS) cap n s.state) (hn : n ≤ cap) :
    BInv ((k + 1) * w * NS) cap (n + if recorded s e then 1 else 0) (exec s e).state ∧
      n + (if recorded s e then 1 else 0) ≤ cap := by
  have ht := lt_of_window hW.width_pos hk
  cases e with
  | fail ct => exact absurd rfl (hfail ct)
  | step ct x => cases hexp; exact ⟨binv_step ht hb, hn⟩
  | attempt ct x ok =>
    cases hexp
    have hb1 : BInv _ cap n (applyTimeStep s ct none).state := binv_step ht hb
    rw [exec_attempt]
    by_cases hrec : recorded s (.attempt ct none ok) = true
    · rw [if_pos hrec, if_pos hrec]
      rw [recorded_attempt, Bool.and_eq_true] at hrec
      exact binv_fail hW ((applyTimeStep_policy _ _ _).trans hs)
        ((windowReset_eq w ct).trans (by rw [show asSecs ct / w = k from hk])) hrec.1 hb1
    · rw [if_neg hrec, if_neg hrec]
      exact ⟨hb1, hn⟩

theorem budget_aux {p : Policy} {w cap : Nat} (hW : Windowed p w cap) (k : Nat)
    (es : List Event) : ∀ (s : SoftLock) (now n : Nat), s.policy = p → Mono now es → NoAdmin es →
      Protocol es → BInv ((k + 1) * w * NS) cap n s.state → (n = 0 ∨ k ≤ asSecs now / w) →
      n ≤ cap → n + failsIn w k s es ≤ cap := by
  induction es with
  | nil => intro s now n _ _ _ _ _ _ hn; exact hn
  | cons e es ih =>
    intro s now n hs hm hna hpr hb hk hn
    obtain ⟨hexp, hna'⟩ := List.forall_mem_cons.1 hna
    obtain ⟨hfail, hpr'⟩ := List.forall_mem_cons.1 hpr
    have hpol : (exec s e).policy = p := (exec_policy s e).trans hs
    have hwin := window_mono (w := w) hm.1
    rcases Nat.lt_trichotomy (asSecs e.time / w) k with hlt | heq | hgt
    · -- before the window: nothing counted yet
      have hn0 : n = 0 := by omega
      rw [failsIn_cons_ne s es (by omega)]
      exact ih _ e.time n hpol hm.2 hna' hpr' (Or.inl hn0) (Or.inl hn0) hn
    · -- inside the window
      obtain ⟨hb', hn'⟩ := binv_exec hW hs hexp hfail heq hb hn
      have := ih _ e.time _ hpol hm.2 hna' hpr' hb' (Or.inr (Nat.le_of_eq heq.symm)) hn'
      rw [failsIn_cons_eq s es heq]
      omega
    · -- past the window: nothing more is counted
      rw [failsIn_cons_ne s es (by omega), failsIn_past es _ e.time hm.2 hgt]
      exact hn

theorem window_budget {p : Policy} {w cap : Nat} (hW : Windowed p w cap)
    (s : SoftLock) (hs : s.policy = p) (es : List Event) (now k : Nat)
    (hm : Mono now es) (hna : NoAdmin es) (hpr : Protocol es) : failsIn w k s es ≤ cap := by
  have := budget_aux hW k es s now 0 hs hm hna hpr (Or.inl rfl) (Or.inl rfl) (Nat.zero_le _)
  omega

end Kanidm.SoftLock
