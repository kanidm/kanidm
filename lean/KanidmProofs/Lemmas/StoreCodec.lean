import KanidmModel.StoreCodec
import KanidmProofs.Lemmas.Keyed
/-! Lemmas for C12, all for variable tables. Each layer of the model (variant tag, record, valueset,
attribute map, entry, replication message) reads back what it stored if the layer below does, and at
the bottom if the table passes its decidable check. The two loops of the model, `rehydrateAttrs` and
`DecodeField.accumulate`, are given in closed form. -/
namespace Kanidm.StoreCodec

theorem TagPair.ok_sound {p : TagPair} (h : p.ok = true) {a : Nat} (ha : a < p.nMem) :
    p.roundtrip a = some a := by
  unfold TagPair.ok at h
  have := (List.all_eq_true.mp h) a (List.mem_range.mpr ha)
  simpa using this

theorem TagPair.serdeOk_sound {p : TagPair} (h : p.serdeOk = true) {i j : Nat}
    (hi : i < p.nDb) (hj : j < p.nDb) (hne : i ≠ j) : p.dbSerdeIds[i]? ≠ p.dbSerdeIds[j]? := by
  unfold TagPair.serdeOk at h
  simp only [Bool.and_eq_true, List.all_eq_true, List.mem_range, Bool.or_eq_true, beq_iff_eq,
    bne_iff_ne] at h
  rcases h.2 i hi j hj with h' | h'
  · exact absurd h' hne
  · exact h'

/-- Evaluating `serdeOk` itself is cubic in the number of variants (a list lookup on either side
of every pair); `Nodup` is quadratic. -/
theorem TagPair.serdeOk_of_nodup {p : TagPair} (hl : p.dbSerdeIds.length = p.nDb)
    (hn : p.dbSerdeIds.Nodup) : p.serdeOk = true := by
  unfold TagPair.serdeOk
  simp only [Bool.and_eq_true, beq_iff_eq, List.all_eq_true, List.mem_range, Bool.or_eq_true,
    bne_iff_ne]
  refine ⟨hl, fun i hi j hj => ?_⟩
  by_cases hij : i = j
  · exact Or.inl hij
  · refine Or.inr fun h => hij ?_
    rw [List.getElem?_eq_getElem (hl ▸ hi), List.getElem?_eq_getElem (hl ▸ hj)] at h
    exact (List.getElem_inj hn).mp (Option.some.inj h)

theorem gather_length {xs js r : List Nat} (h : gather xs js = some r) : r.length = js.length := by
  fun_induction gather xs js generalizing r with
  | case1 => cases h; rfl  -- no index
  | case2 j js x r' hr hx ih =>  -- `j` in range, the rest gathered
    cases h; rw [List.length_cons, ih hr, List.length_cons]
  | case3 => cases h  -- `j` out of range, or the rest fails

theorem gather_get {xs js r : List Nat} (h : gather xs js = some r) (i : Nat) :
    r[i]? = (js[i]?).bind (fun j => xs[j]?) := by
  fun_induction gather xs js generalizing r i with
  | case1 => cases h; rfl  -- no index
  | case2 j js x r' hr hx ih =>  -- `j` in range, the rest gathered
    cases h
    cases i with
    | zero => exact hx.symm
    | succ i => exact ih hr i
  | case3 => cases h  -- `j` out of range, or the rest fails

theorem gather_some {xs js : List Nat} (h : ∀ j ∈ js, j < xs.length) : ∃ r, gather xs js = some r := by
  fun_induction gather xs js with
  | case1 => exact ⟨_, rfl⟩  -- no index
  | case2 => exact ⟨_, rfl⟩  -- `j` in range, the rest gathered
  | case3 j js hno ih =>  -- `j` out of range, or the rest fails: neither happens
    obtain ⟨r, hr⟩ := ih fun k hk => h k (List.mem_cons_of_mem _ hk)
    exact (hno _ r (List.getElem?_eq_getElem (h j List.mem_cons_self)) hr).elim

theorem gather_of_get {xs js r : List Nat} (hl : r.length = js.length)
    (h : ∀ i, i < js.length → (js[i]?).bind (fun j => xs[j]?) = r[i]?) : gather xs js = some r := by
  induction js generalizing r with
  | nil => rw [List.length_eq_zero_iff.mp hl]; rfl
  | cons j js ih =>
    obtain ⟨x, r, rfl⟩ := List.exists_cons_of_length_eq_add_one hl
    have h0 := h 0 (Nat.zero_lt_succ _)
    rw [List.getElem?_cons_zero, Option.bind_some, List.getElem?_cons_zero] at h0
    rw [gather, h0, ih (Nat.succ.inj hl) fun i hi => h (i + 1) (Nat.succ_lt_succ hi)]

/-- A flow `df` that leads every slot back through `ef` to itself undoes `ef`. -/
theorem gather_inverse {xs fs ef df : List Nat} (hfs : gather xs ef = some fs)
    (hlen : df.length = xs.length)
    (hinv : ∀ s, s < df.length → (df[s]?).bind (ef[·]?) = some s) : gather fs df = some xs := by
  refine gather_of_get hlen.symm fun s hs => ?_
  obtain ⟨t, ht, het⟩ := Option.bind_eq_some_iff.mp (hinv s hs)
  rw [ht, Option.bind_some, gather_get hfs t, het, Option.bind_some]

theorem RecPair.roundtrip_of_ok {p : RecPair} (h : p.ok = true) (v : RVal) (hv : p.wf v) :
    p.roundtrip v = some v := by
  unfold RecPair.wf at hv
  have hok := (List.all_eq_true.mp h) v.tag
    (List.mem_range.mpr (List.getElem?_eq_some_iff.mp hv).1)
  revert hok
  fun_cases RecPair.armOk p v.tag with
  | case1 => nofun  -- no encoder arm for the variant
  | case2 => nofun  -- no decoder arm for the stored variant
  | case3 e he d hd =>  -- both arms `e`, `d` found: the five checks
    intro hok
    simp only [Bool.and_eq_true, beq_iff_eq, List.all_eq_true, decide_eq_true_eq,
      List.mem_range] at hok
    obtain ⟨⟨⟨⟨hback, hdbAr⟩, hmemAr⟩, hrange⟩, hinv⟩ := hok
    have hn : d.flow.length = v.fields.length := by
      rw [hv] at hmemAr
      exact (Option.some.inj hmemAr).symm
    obtain ⟨fs, hfs⟩ := gather_some (xs := v.fields) (js := e.flow)
      (fun j hj => by have := hrange j hj; omega)
    have henc : p.encode v = some ⟨e.dst, fs⟩ := by
      simp [RecPair.encode, conv, he, hv, hfs]
    have hdec : p.decode ⟨e.dst, fs⟩ = some ⟨d.dst, v.fields⟩ := by
      have : p.dbArity[e.dst]? = some fs.length := by rw [hdbAr, gather_length hfs]
      simp [RecPair.decode, conv, hd, this, gather_inverse hfs hn hinv]
    rw [RecPair.roundtrip, henc, Option.bind_some, hdec, hback]

theorem toDbVS_ok {disp : TagPair} (h : disp.ok = true) (v : VS) (hk : v.kind < disp.nMem) :
    ∃ c, toDbVS disp v = some ⟨c, v.elems⟩ ∧ fromDbVS disp ⟨c, v.elems⟩ = some v := by
  obtain ⟨c, hc, hd⟩ := Option.bind_eq_some_iff.mp (TagPair.ok_sound h hk)
  exact ⟨c, by rw [toDbVS, hc]; rfl, by rw [fromDbVS, hd]; rfl⟩

theorem vs_roundtrip {disp : TagPair} (h : disp.ok = true) (v : VS) (hk : v.kind < disp.nMem) :
    (toDbVS disp v).bind (fromDbVS disp) = some v := by
  obtain ⟨c, hc, hd⟩ := toDbVS_ok h v hk
  rw [hc]; exact hd

def nonEmptyVS (kv : Nat × VS) : Bool := !kv.2.elems.isEmpty

/-- `to_dbentry`'s attribute map followed by `from_dbentry`'s: the non-empty valuesets come back
identically, the empty ones are dropped. -/
theorem attrs_roundtrip {disp : TagPair} (h : disp.ok = true) :
    ∀ (l : List (Nat × VS)), (∀ kv ∈ l, kv.2.kind < disp.nMem) →
    ∃ l', mapAttrs (toDbVS disp) l = some l' ∧
      mapAttrs (fromDbVS disp) (l'.filter fun kv => !kv.2.elems.isEmpty) = some (l.filter nonEmptyVS)
  | [], _ => ⟨[], rfl, rfl⟩
  | (k, v) :: rest, hk => by
    obtain ⟨r', hr1, hr2⟩ := attrs_roundtrip h rest (fun kv hkv => hk kv (List.mem_cons_of_mem _ hkv))
    obtain ⟨c, hc, hd⟩ := toDbVS_ok h v (hk (k, v) List.mem_cons_self)
    refine ⟨(k, ⟨c, v.elems⟩) :: r', by simp [mapAttrs, hc, hr1], ?_⟩
    cases he : v.elems.isEmpty <;> simp [List.filter, nonEmptyVS, he, mapAttrs, hd, hr2]

theorem entry_roundtrip {disp cst : TagPair} (hd : disp.ok = true) (single : VS → Option Nat)
    (uuidKey : Nat) (e : Entry) (hcs : cst.roundtrip e.cs.tag = some e.cs.tag)
    (hattrs : ∀ kv ∈ e.attrs, kv.2.kind < disp.nMem)
    (huuid : ((e.attrs.filter nonEmptyVS).lookup uuidKey).bind single = some e.uuid) :
    (toDbEntry disp cst e).bind (fun d => fromDbEntry disp cst single uuidKey d e.id)
      = some { e with attrs := e.attrs.filter nonEmptyVS } := by
  obtain ⟨l', h1, h2⟩ := attrs_roundtrip hd e.attrs hattrs
  obtain ⟨c, hc, hb⟩ := Option.bind_eq_some_iff.mp hcs
  simp [toDbEntry, fromDbEntry, convCState, hc, hb, h1, h2, huuid]

theorem replValue_decode {disp : TagPair} (h : disp.ok = true) {attrs : List (Nat × VS)}
    (hk : ∀ kv ∈ attrs, kv.2.kind < disp.nMem) (k : Nat) :
    (∀ d, replValue disp attrs k = some d → (fromDbVS disp d).isSome) ∧
    (replValue disp attrs k).bind (fromDbVS disp) =
      (attrs.lookup k).filter fun vs => !vs.elems.isEmpty := by
  unfold replValue
  cases hl : attrs.lookup k with
  | none => exact ⟨nofun, rfl⟩
  | some vs =>
    by_cases he : vs.elems = []
    · simp [he, Option.filter]
    · obtain ⟨c, hc, hd⟩ := toDbVS_ok h vs (hk (k, vs) (lookup_mem hl))
      simp [he, hc, hd, Option.filter]

/-- The attributes of the change state that `within` selects, each with its cid and what is sent
for it: the message body of `ReplEntryV1::new` / `ReplIncrementalEntryV1::new`. -/
def sent (disp : TagPair) (within : Nat → Nat → Bool) (e : Entry) : List (Nat × ReplAttr) :=
  (e.cs.changes.filter fun kc => within kc.1 kc.2).map fun kc =>
    (kc.1, ⟨kc.2, replValue disp e.attrs kc.1⟩)

theorem replNew_live {disp rst : TagPair} {within : Nat → Nat → Bool} {e : Entry} {t : Nat}
    (hl : e.cs.tag = 0) (ht : rst.encode 0 = some t) :
    replNew disp rst within e = some ⟨e.uuid, t, e.cs.atCid, sent disp within e⟩ := by
  simp only [replNew, hl, ht, if_true, sent, ← List.filterMap_eq_map, ← List.filterMap_filter]
  rfl

theorem rehydrateAttrs_eq {disp : TagPair} : ∀ (l : List (Nat × ReplAttr)), (l.map (·.1)).Nodup →
    (∀ kr ∈ l, ∀ d, kr.2.attr = some d → (fromDbVS disp d).isSome) →
    rehydrateAttrs disp l = some (l.map fun kr => (kr.1, kr.2.cid),
      l.filterMap fun kr => (kr.2.attr.bind (fromDbVS disp)).map fun v => (kr.1, v))
  | [], _, _ => rfl
  | (k, ra) :: rest, hnd, hdec => by
    have hk : ((rest.map fun kr => (kr.1, kr.2.cid)).any fun kc => kc.1 == k) = false := by
      rw [List.any_eq_false]
      intro kc hkc heq
      obtain ⟨kr, hkr, rfl⟩ := List.mem_map.mp hkc
      exact (List.nodup_cons.mp hnd).1 (List.mem_map.mpr ⟨kr, hkr, by simpa using heq⟩)
    unfold rehydrateAttrs
    rw [rehydrateAttrs_eq rest (List.nodup_cons.mp hnd).2 fun kr h => hdec kr (List.mem_cons_of_mem _ h)]
    simp only [hk]
    cases ha : ra.attr with
    | none => simp [ha]
    | some d =>
      obtain ⟨v, hv⟩ := Option.isSome_iff_exists.mp (hdec (k, ra) List.mem_cons_self d ha)
      simp [ha, hv]

theorem repl_live_roundtrip {disp rst : TagPair} (hd : disp.ok = true)
    (h0 : rst.roundtrip 0 = some 0) (within : Nat → Nat → Bool) (e : Entry)
    (hlive : e.cs.tag = 0) (hattrs : ∀ kv ∈ e.attrs, kv.2.kind < disp.nMem)
    (hnodup : (e.cs.changes.map (·.1)).Nodup) :
    (replNew disp rst within e).bind (replRehydrate disp rst) =
      some (e.uuid, (replExpected within e).1, (replExpected within e).2) := by
  obtain ⟨t, ht, hback⟩ := Option.bind_eq_some_iff.mp h0
  have hloop := rehydrateAttrs_eq (disp := disp) (sent disp within e)
    (by rw [sent, List.map_map]; exact (List.filter_sublist.map _).nodup hnodup)
    (by
      intro kr hkr
      obtain ⟨kc, -, rfl⟩ := List.mem_map.mp hkr
      exact (replValue_decode hd hattrs kc.1).1)
  have hval := fun k => (replValue_decode hd hattrs k).2
  rw [replNew_live hlive ht, Option.bind_some, replRehydrate, hback]
  simp only [if_true, hloop]
  -- both sides are maps over the selected part of the change state
  simp only [sent, List.map_map, List.filterMap_map, Function.comp_def, hval, List.map_id',
    replExpected, hlive, List.filterMap_filter]

theorem repl_tomb_roundtrip {disp rst : TagPair} (h1 : rst.roundtrip 1 = some 1)
    (within : Nat → Nat → Bool) (e : Entry) (htomb : e.cs.tag = 1) :
    (replNew disp rst within e).bind (replRehydrate disp rst)
      = some (e.uuid, ⟨1, e.cs.atCid, []⟩, []) := by
  obtain ⟨c, hc, hb⟩ := Option.bind_eq_some_iff.mp h1
  simp [replNew, htomb, hc, replRehydrate, hb]

/-! ## Decoders: the table's checks as propositions; accumulator fields (bit-mask pre-filters such as
`rs_filter`) -/

theorem literalOk_iff {n : Nat} {l : List DecodeField} :
    literalOk n l = true ↔ (∀ f ∈ l, f.ok = true) ∧ ∀ i, i < n → ∃ f ∈ l, f.field = i := by
  simp [literalOk]

theorem DecodeCtor.ok_iff {c : DecodeCtor} :
    c.ok = true ↔ c.via.isSome = true ∨
      (c.literals ≠ [] ∧ ∀ l ∈ c.literals, literalOk c.nFields l = true) := by
  simp [DecodeCtor.ok]

/-- An element converted by arm `i` has its bits ORed into the mask: the update stands in the loop
body, or in that arm. -/
def DecodeField.feeds (f : DecodeField) (i : Nat) : Bool :=
  decide (f.uniform > 0) || f.arms[i]?.any (·.updates)

theorem DecodeField.step_eq (f : DecodeField) (acc : Nat) (e : Nat × Nat) :
    f.step acc e = if f.feeds e.1 then acc ||| e.2 else acc := by
  unfold DecodeField.step DecodeField.feeds
  cases f.arms[e.1]? <;> simp

theorem DecodeField.testBit_foldl (f : DecodeField) (i : Nat) :
    ∀ (els : List (Nat × Nat)) (acc : Nat), (els.foldl f.step acc).testBit i =
      (acc.testBit i || els.any fun e => f.feeds e.1 && e.2.testBit i)
  | [], _ => by simp
  | e :: es, acc => by
    rw [List.foldl_cons, testBit_foldl f i es, step_eq, List.any_cons]
    cases f.feeds e.1 <;> simp [Nat.testBit_or, Bool.or_assoc]

theorem DecodeField.feeds_of_keeps {f : DecodeField} (hk : f.kind = 1) (h : f.ok = true)
    {e : Nat × Nat} (he : f.keeps e = true) : f.feeds e.1 = true := by
  unfold DecodeField.ok at h
  simp only [hk, Bool.or_eq_true, Bool.and_eq_true, List.all_eq_true] at h
  unfold DecodeField.keeps at he
  unfold DecodeField.feeds
  rcases h with h | ⟨-, h | ⟨-, h⟩⟩
  · exact absurd h (by decide)
  · rw [h]; rfl
  · cases ha : f.arms[e.1]? with
    | none => rw [ha] at he; cases he
    | some a =>
      rw [ha] at he
      have := h a (List.mem_of_getElem? ha)
      rw [DecodeArm.ok, show a.yields = true from he] at this
      rw [Option.any_some, show a.updates = true from this, Bool.or_true]

theorem DecodeField.mask_admits {f : DecodeField} (hk : f.kind = 1) (h : f.ok = true)
    (els : List (Nat × Nat)) {e : Nat × Nat} (he : e ∈ f.kept els) :
    maskAdmits (f.accumulate els) e.2 = true := by
  obtain ⟨hmem, hkeep⟩ := List.mem_filter.mp he
  rw [maskAdmits, beq_iff_eq]
  apply Nat.eq_of_testBit_eq
  intro i
  rw [Nat.testBit_and, DecodeField.accumulate, testBit_foldl]
  cases hb : e.2.testBit i
  · rfl
  · rw [Nat.zero_testBit, Bool.false_or, Bool.true_and]
    exact List.any_eq_true.mpr ⟨e, hmem, by rw [feeds_of_keeps hk h hkeep, hb]; rfl⟩

theorem DecodeCtor.mask_admits {c : DecodeCtor} (hc : c.ok = true)
    (hv : (!c.via.isSome || c.literals.isEmpty) = true) {l : List DecodeField} (hl : l ∈ c.literals)
    {f : DecodeField} (hf : f ∈ l) (hk : f.kind = 1) (els : List (Nat × Nat)) {e : Nat × Nat}
    (he : e ∈ f.kept els) : maskAdmits (f.accumulate els) e.2 = true := by
  rcases DecodeCtor.ok_iff.mp hc with hvia | ⟨-, h⟩
  · rw [hvia, Bool.not_true, Bool.false_or, List.isEmpty_iff] at hv
    rw [hv] at hl
    cases hl
  · exact DecodeField.mask_admits hk ((literalOk_iff.mp (h l hl)).1 f hf) els he

end Kanidm.StoreCodec
