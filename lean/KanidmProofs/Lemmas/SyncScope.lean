import KanidmModel.SyncScope
import KanidmProofs.Lemmas.Ite
import KanidmProofs.Lemmas.Grows
/-!
C50: attribute-map algebra, and what a phase of `scim_sync_apply` may do to one stored entry
(`Frame`, `Step`). The stored state is a list whose entries are rewritten where they stand and that
grows at the end (`Grows`, and the pointwise `Rel2` of the statements: Lemmas/Grows.lean).
-/
namespace Kanidm.SyncScope
open Kanidm.Access.Write
open Kanidm.Gen.Access
open Kanidm.Gen.SyncScope

theorem guard_ok {α : Type} {c : Bool} {e : Err} {rest : Except Err α} {a : α}
    (h : (if c = true then .error e else rest) = .ok a) : c = false ∧ rest = .ok a :=
  (ite_error_eq_ok.mp h).imp_left Bool.eq_false_iff.mpr

theorem guard_not_ok {α : Type} {c : Bool} {e : Err} {rest : Except Err α} {a : α}
    (h : (if (!c) = true then .error e else rest) = .ok a) : c = true ∧ rest = .ok a :=
  (ite_error_eq_ok.mp h).imp_left fun hc => by simpa using hc

theorem eq_or_trans {α : Type} {x y z : α} {p q : Prop} (h1 : y = x ∨ p) (h2 : z = y ∨ q)
    (hq : q → p) : z = x ∨ p := by
  rcases h1 with rfl | h1
  · exact h2.imp_right hq
  · exact .inr h1

theorem getA_nil (a : Nat) : getA [] a = [] := rfl

theorem getA_cons (k : Nat) (vs : List Nat) (m : List (Nat × List Nat)) (a : Nat) :
    getA ((k, vs) :: m) a = if a = k then vs else getA m a := by
  unfold getA
  by_cases h : a = k
  · subst h; simp [List.lookup]
  · have : (a == k) = false := by simpa using h
    simp [List.lookup, this, h]

theorem getA_purgeA (a : Nat) (m : List (Nat × List Nat)) (b : Nat) :
    getA (purgeA a m) b = if b = a then [] else getA m b := by
  induction m with
  | nil => simp [purgeA, getA]
  | cons p rest ih =>
    obtain ⟨k, vs⟩ := p
    unfold purgeA at ih ⊢
    by_cases hk : k = a
    · subst hk
      simp only [List.filter, bne_self_eq_false]
      rw [ih, getA_cons]
      by_cases hb : b = k <;> simp [hb]
    · have : (k != a) = true := by simpa using hk
      simp only [List.filter, this]
      rw [getA_cons, getA_cons, ih]
      by_cases hb : b = k
      · subst hb; simp [hk]
      · simp [hb]

theorem getA_setA (a : Nat) (vs : List Nat) (m : List (Nat × List Nat)) (b : Nat) :
    getA (setA a vs m) b = if b = a then vs else getA m b := by
  unfold setA
  cases he : vs.isEmpty
  · rw [if_neg Bool.false_ne_true, getA_cons, getA_purgeA]
    by_cases hb : b = a <;> simp [hb]
  · rw [if_pos rfl, getA_purgeA, List.isEmpty_iff.mp he]

/-- `add_ava` is `set_ava` of the union -/
theorem getA_addA (a : Nat) (vs : List Nat) (m : List (Nat × List Nat)) (b : Nat) :
    getA (addA a vs m) b = if b = a then union (getA m a) vs else getA m b :=
  getA_setA a (union (getA m a) vs) m b

/-- the value set of `a` after referential integrity removed the references to `D` -/
def stripped (R D : List Nat) (m : List (Nat × List Nat)) (a : Nat) : List Nat :=
  if R.contains a then (getA m a).filter (fun v => !D.contains v) else getA m a

theorem getA_stripAttrs (R D : List Nat) (m : List (Nat × List Nat)) (a : Nat) :
    getA (stripAttrs R D m) a = stripped R D m a := by
  induction m with
  | nil => simp [stripAttrs, stripped, getA]
  | cons p rest ih =>
    obtain ⟨k, vs⟩ := p
    unfold stripped at ih ⊢
    rw [stripAttrs, List.map_cons, ← stripAttrs, getA_cons]
    by_cases ha : a = k
    · subst ha
      cases h : R.contains a <;> simp [getA_cons]
    · cases h : R.contains k <;> simp [getA_cons, ha, ih]

theorem stripped_nil (R : List Nat) (m : List (Nat × List Nat)) (a : Nat) :
    stripped R [] m a = getA m a := by
  unfold stripped
  cases R.contains a <;> simp

theorem stripped_comp {R D1 D2 : List Nat} {m m' : List (Nat × List Nat)} {a : Nat}
    (h : getA m' a = stripped R D1 m a) : stripped R D2 m' a = stripped R (D1 ++ D2) m a := by
  unfold stripped at h ⊢
  rw [h]
  cases R.contains a
  · rfl
  · simp only [if_true, List.filter_filter]
    congr 1
    funext v
    simp [Bool.and_comm]

/-- a class the schema marks `sync_allowed` -/
def SyncClassOf (sch : Schema) (c : Nat) : Prop :=
  ∃ d, d ∈ sch.classes ∧ d.name = c ∧ d.syncAllowed = true

/-- the stored target of an import attribute the request may carry -/
def ImportTarget (sch : Schema) (auth : List Nat) (t : Nat) : Prop :=
  ∃ p, (p, t) ∈ credImportTargets ∧ (p ∈ phantomAttrSet sch ∨ p ∈ syncAllowAttrSet sch auth)

/-- attributes a request of an agreement with yield set `auth` can change on its entries -/
def Changeable (sch : Schema) (auth : List Nat) (a : Nat) : Prop :=
  a ∈ syncAllowAttrSet sch auth ∨ ImportTarget sch auth a

/-- uuids of entries of `l` owned by `su` -/
def okIn (su : Nat) (l : List Entry) (d : Nat) : Prop :=
  ∃ x, x ∈ l ∧ x.uuid = d ∧ x.syncParent = some su

/-- What a request of agreement `su` may make of a stored entry. `D`: deleted uuids whose references
referential integrity removed; `ok` says which uuids may be in `D` (`Sync` takes the entries `su` owns afterwards). -/
structure Frame (sch : Schema) (su : Nat) (auth : List Nat) (ok : Nat → Prop) (e e' : Entry) :
    Prop where
  uuid : e'.uuid = e.uuid
  parent : e'.syncParent = e.syncParent
  yld : e'.yieldAuth = e.yieldAuth
  cookie : e'.cookie = e.cookie ∨ e.uuid = su
  life : e'.life = e.life ∨ (e.syncParent = some su ∧ e.life = .live ∧ e'.life = .recycled)
  ext : e'.extId = e.extId ∨ e.syncParent = some su
  sc : e'.syncClasses = e.syncClasses ∨ e.syncParent = some su
  clsKeep : ∀ c, c ∈ e.classes → c ∈ e'.classes
  clsNew : ∀ c, c ∈ e'.classes → c ∈ e.classes ∨ (e.syncParent = some su ∧ SyncClassOf sch c)
  attrs : ∃ D, (∀ d, d ∈ D → ok d) ∧
    ∀ a, getA e'.attrs a ≠ stripped sch.refAttrs D e.attrs a →
      e.syncParent = some su ∧ Changeable sch auth a

theorem Frame.refl (sch : Schema) (su : Nat) (auth : List Nat) (ok : Nat → Prop) (e : Entry) :
    Frame sch su auth ok e e where
  uuid := rfl
  parent := rfl
  yld := rfl
  cookie := .inl rfl
  life := .inl rfl
  ext := .inl rfl
  sc := .inl rfl
  clsKeep := fun _ h => h
  clsNew := fun _ h => .inl h
  attrs := ⟨[], by simp, fun a h => absurd (stripped_nil _ _ a).symm h⟩

/-- a recycled or tombstoned entry is left exactly as it is -/
def KeepMasked (e e' : Entry) : Prop := e.masked = true → e' = e

structure Step (sch : Schema) (su : Nat) (auth : List Nat) (ok : Nat → Prop) (e e' : Entry) :
    Prop where
  frame : Frame sch su auth ok e e'
  masked : KeepMasked e e'

-- `su`: the agreement whose request is applied; `auth`: its yield-authority set as phase 1 read it
variable {sch : Schema} {su : Nat} {auth : List Nat} {ok : Nat → Prop}

theorem Frame.mono {ok' : Nat → Prop} (h : ∀ d, ok d → ok' d) {e e' : Entry}
    (f : Frame sch su auth ok e e') : Frame sch su auth ok' e e' :=
  { f with
    attrs :=
      match f.attrs with
      | ⟨D, hD, ha⟩ => ⟨D, fun d hd => h d (hD d hd), ha⟩ }

theorem Frame.trans {e e' e'' : Entry} (f : Frame sch su auth ok e e')
    (g : Frame sch su auth ok e' e'') : Frame sch su auth ok e e'' where
  uuid := by rw [g.uuid, f.uuid]
  parent := by rw [g.parent, f.parent]
  yld := by rw [g.yld, f.yld]
  cookie := eq_or_trans f.cookie g.cookie fun h => f.uuid ▸ h
  life := by
    rcases f.life with h1 | ⟨o, l, r⟩
    · rcases g.life with h2 | ⟨o, l, r⟩
      · exact .inl (by rw [h2, h1])
      · exact .inr ⟨by rw [← f.parent]; exact o, by rw [← h1]; exact l, r⟩
    · rcases g.life with h2 | ⟨_, l2, _⟩
      · exact .inr ⟨o, l, by rw [h2]; exact r⟩
      · rw [r] at l2; cases l2
  ext := eq_or_trans f.ext g.ext fun h => f.parent ▸ h
  sc := eq_or_trans f.sc g.sc fun h => f.parent ▸ h
  clsKeep := fun c h => g.clsKeep c (f.clsKeep c h)
  clsNew := fun c h => by
    rcases g.clsNew c h with h2 | ⟨o, s⟩
    · exact f.clsNew c h2
    · exact .inr ⟨by rw [← f.parent]; exact o, s⟩
  attrs := by
    obtain ⟨D1, hD1, h1⟩ := f.attrs
    obtain ⟨D2, hD2, h2⟩ := g.attrs
    refine ⟨D1 ++ D2, fun d hd => (List.mem_append.mp hd).elim (hD1 d) (hD2 d), fun a hne => ?_⟩
    by_cases hs1 : getA e'.attrs a = stripped sch.refAttrs D1 e.attrs a
    · obtain ⟨o, c⟩ := h2 a fun hc => hne (hc.trans (stripped_comp hs1))
      exact ⟨by rw [← f.parent]; exact o, c⟩
    · exact h1 a hs1

theorem Step.refl (e : Entry) : Step sch su auth ok e e :=
  ⟨Frame.refl sch su auth ok e, fun _ => rfl⟩

theorem Step.of_live {e e' : Entry} (hm : e.masked = false) (f : Frame sch su auth ok e e') :
    Step sch su auth ok e e' :=
  ⟨f, fun h => by rw [hm] at h; cases h⟩

theorem Step.mono {ok' : Nat → Prop} (h : ∀ d, ok d → ok' d) {e e' : Entry}
    (s : Step sch su auth ok e e') : Step sch su auth ok' e e' :=
  ⟨s.frame.mono h, s.masked⟩

theorem Step.trans (e e' e'' : Entry) (s : Step sch su auth ok e e') (t : Step sch su auth ok e' e'') :
    Step sch su auth ok e e'' :=
  ⟨s.frame.trans t.frame, fun h => by
    have h1 := s.masked h
    rw [t.masked (by rw [h1]; exact h), h1]⟩

theorem okIn_of_grows {N : Entry → Prop} {l l' : List Entry} (g : Grows (Step sch su auth ok) N l l')
    (d : Nat) (h : okIn su l d) : okIn su l' d := by
  obtain ⟨x, hx, hu, hp⟩ := h
  obtain ⟨y, hy, s⟩ := g.mem_left hx
  exact ⟨y, hy, by rw [s.frame.uuid]; exact hu, by rw [s.frame.parent]; exact hp⟩

end Kanidm.SyncScope
