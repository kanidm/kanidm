import KanidmModel.Actors
/-! Vocabulary (`Local`, `Inv`, `Enabled`) and lemmas of C47: the invariant of the supervisor-tree stop protocol
(read task by task: `Good`, `Edge`), the four kinds of change an event makes (`Trans`: all that the invariant and
`Ext` see of `step`), what persists along a schedule (`Ext`), and the progress argument (with
`stop_request_is_heard`). -/
namespace Kanidm.Actors
open Kanidm.Gen.Actors

/-- The generated statement orders `supRun`, `actorRun` enter the proofs here. -/
theorem Node.prog_eq (n : Node) : n.prog = [0, 1, 2] := by
  cases h : n.kind <;> simp [Node.prog, h] <;> rfl

theorem Node.done_iff (n : Node) : n.done = true ↔ 3 ≤ n.pc := by
  simp [Node.done, Node.prog_eq]

theorem Node.done_false_iff (n : Node) : n.done = false ↔ n.pc < 3 := by
  simp [Node.done, Node.prog_eq]

theorem Node.op_iff (n : Node) (k : Nat) : n.op = some k ↔ n.pc = k ∧ k < 3 := by
  rw [Node.op, Node.prog_eq]
  match n.pc with
  | 0 | 1 | 2 => simp; omega
  | _ + 3 => simp; omega

/-- Per-task facts. -/
def Local (n : Node) : Prop :=
  n.pc ≤ 3 ∧
  (n.kind = .sup → (n.sent = true ↔ 2 ≤ n.pc) ∧ (n.returned = true → 3 ≤ n.pc)) ∧
  (n.kind = .actor → (n.cleaned = true ↔ 3 ≤ n.pc) ∧ (n.sawStop = true → 2 ≤ n.pc)
      ∧ (n.inStep = true → n.pc = 1))

theorem Local.sup {n : Node} (hk : n.kind = .sup) : Local n ↔
    n.pc ≤ 3 ∧ (n.sent = true ↔ 2 ≤ n.pc) ∧ (n.returned = true → 3 ≤ n.pc) := by
  simp [Local, hk]

theorem Local.actor {n : Node} (hk : n.kind = .actor) : Local n ↔
    n.pc ≤ 3 ∧ (n.cleaned = true ↔ 3 ≤ n.pc) ∧ (n.sawStop = true → 2 ≤ n.pc) ∧
      (n.inStep = true → n.pc = 1) := by
  simp [Local, hk]

theorem Local.sent_iff {n : Node} (hl : Local n) (hk : n.kind = .sup) : n.sent = true ↔ 2 ≤ n.pc :=
  (hl.2.1 hk).1

theorem Local.returned_done {n : Node} (hl : Local n) (hk : n.kind = .sup) (hr : n.returned = true) :
    3 ≤ n.pc :=
  (hl.2.1 hk).2 hr

theorem Local.cleaned_iff {n : Node} (hl : Local n) (hk : n.kind = .actor) :
    n.cleaned = true ↔ 3 ≤ n.pc :=
  (hl.2.2 hk).1

theorem Local.sawStop_pc {n : Node} (hl : Local n) (hk : n.kind = .actor) (h : n.sawStop = true) :
    2 ≤ n.pc :=
  (hl.2.2 hk).2.1 h

structure Inv (σ : State) : Prop where
  bound : ∀ i, σ.size ≤ i → σ.nodes i = none
  par : ∀ i n p, σ.nodes i = some n → n.parent = some p →
      p < i ∧ ∃ pn, σ.nodes p = some pn ∧ pn.kind = .sup
  loc : ∀ i n, σ.nodes i = some n → Local n
  /-- a task subscribed before its supervisor's broadcast has the message (or is gone) -/
  sentKids : ∀ c cn p pn, σ.nodes c = some cn → cn.parent = some p → σ.nodes p = some pn →
      pn.sent = true → cn.late = false → cn.pending = true ∨ cn.done = true
  /-- a task subscribed before its supervisor task completed has completed before it -/
  doneKids : ∀ c cn p pn, σ.nodes c = some cn → cn.parent = some p → σ.nodes p = some pn →
      pn.done = true → cn.orphan = false → cn.done = true

/-- A local, monotone update of one task. -/
structure Upd (n n' : Node) : Prop where
  kind : n'.kind = n.kind
  parent : n'.parent = n.parent
  late : n'.late = n.late
  orphan : n'.orphan = n.orphan
  pc : n.pc ≤ n'.pc
  pending : n.pending = true → n'.pending = true

theorem Upd.refl (n : Node) : Upd n n := ⟨rfl, rfl, rfl, rfl, Nat.le_refl _, id⟩

theorem Upd.trans {a b c : Node} (h1 : Upd a b) (h2 : Upd b c) : Upd a c :=
  ⟨h2.kind.trans h1.kind, h2.parent.trans h1.parent, h2.late.trans h1.late,
    h2.orphan.trans h1.orphan, Nat.le_trans h1.pc h2.pc, h2.pending ∘ h1.pending⟩

theorem Upd.supStep (n : Node) (b : Bool) : Upd n { n with pc := n.pc + 1, sent := b } :=
  ⟨rfl, rfl, rfl, rfl, Nat.le_succ _, id⟩

theorem Upd.done_mono {n n' : Node} (u : Upd n n') (h : n.done = true) : n'.done = true :=
  (Node.done_iff n').mpr (Nat.le_trans ((Node.done_iff n).mp h) u.pc)

theorem Upd.setPending (m : Node) (b : Bool) : Upd m { m with pending := b || m.pending } :=
  ⟨rfl, rfl, rfl, rfl, Nat.le_refl _, fun e => by simp [e]⟩

theorem Inv.init : Inv init := by
  constructor <;> intros <;> simp_all [Kanidm.Actors.init]

theorem Inv.lt_size {σ : State} (h : Inv σ) {i : Nat} {n : Node} (hi : σ.nodes i = some n) :
    i < σ.size := by
  apply Decidable.byContradiction
  intro hc
  have := h.bound i (by omega)
  simp_all

/-- What the invariant says of a supervisor task `pn` and a task `cn` registered under it. -/
structure Edge (pn cn : Node) : Prop where
  kind : pn.kind = .sup
  sent : pn.sent = true → cn.late = false → cn.pending = true ∨ cn.done = true
  done : pn.done = true → cn.orphan = false → cn.done = true

theorem Edge.child {pn cn cn' : Node} (e : Edge pn cn) (u : Upd cn cn') : Edge pn cn' :=
  ⟨e.kind, fun a b => (e.sent a (u.late ▸ b)).imp u.pending u.done_mono,
    fun a b => u.done_mono (e.done a (u.orphan ▸ b))⟩

theorem Edge.parent {pn pn' cn : Node} (e : Edge pn cn) (hk : pn'.kind = pn.kind)
    (hs : pn'.sent = true → pn.sent = true ∨ cn.pending = true ∨ cn.done = true)
    (hd : pn'.done = true → pn.done = true ∨ cn.done = true) : Edge pn' cn :=
  ⟨hk.trans e.kind, fun a b => (hs a).elim (e.sent · b) id, fun a b => (hd a).elim (e.done · b) id⟩

/-- Task `j` of `σ` is in order: in itself, and with the supervisor it is registered under, an older
task. -/
structure Good (σ : State) (j : Nat) (m : Node) : Prop where
  lt : j < σ.size
  loc : Local m
  sup : ∀ p, m.parent = some p → p < j ∧ ∃ pn, σ.nodes p = some pn ∧ Edge pn m

theorem inv_iff_good {σ : State} : Inv σ ↔ ∀ j m, σ.nodes j = some m → Good σ j m := by
  constructor
  · intro h j m hj
    refine ⟨h.lt_size hj, h.loc j m hj, fun p hp => ?_⟩
    obtain ⟨hlt, pn, hpn, hk⟩ := h.par j m p hj hp
    exact ⟨hlt, pn, hpn, hk, h.sentKids j m p pn hj hp hpn, h.doneKids j m p pn hj hp hpn⟩
  · intro hg
    have edge {c cn p pn} (hc : σ.nodes c = some cn) (hp : cn.parent = some p)
        (hpn : σ.nodes p = some pn) : Edge pn cn := by
      obtain ⟨-, pn', hpn', e⟩ := (hg c cn hc).sup p hp
      cases hpn.symm.trans hpn'
      exact e
    refine ⟨fun i hi => ?_, fun i n p hi hp => ?_, fun i n hi => (hg i n hi).loc,
      fun c cn p pn hc hp hpn => (edge hc hp hpn).sent, fun c cn p pn hc hp hpn => (edge hc hp hpn).done⟩
    · cases hn : σ.nodes i with
      | none => rfl
      | some n => exact absurd (hg i n hn).lt (Nat.not_lt.mpr hi)
    · obtain ⟨hlt, pn, hpn, e⟩ := (hg i n hi).sup p hp
      exact ⟨hlt, pn, hpn, e.kind⟩

/-- `sent` may become true only if every child then has the message or is gone, `done` only if every child is
done. -/
theorem Inv.set {σ : State} {i : Nat} {n n' : Node} (h : Inv σ) (hi : σ.nodes i = some n)
    (u : Upd n n') (hl : Local n')
    (hs : n'.sent = true → n.sent = true ∨
      ∀ c cn, σ.nodes c = some cn → cn.parent = some i → cn.pending = true ∨ cn.done = true)
    (hd : n'.done = true → n.done = true ∨
      ∀ c cn, σ.nodes c = some cn → cn.parent = some i → cn.done = true) :
    Inv (σ.set i n') := by
  have good := inv_iff_good.mp h
  refine inv_iff_good.mpr fun j m hj => ?_
  simp only [State.set] at hj
  split at hj
  · -- the updated task; its supervisor is older, so another task
    cases hj; subst j
    refine ⟨(good i n hi).lt, hl, fun p hp => ?_⟩
    obtain ⟨hlt, pn, hpn, e⟩ := (good i n hi).sup p (u.parent ▸ hp)
    exact ⟨hlt, pn, (if_neg (Nat.ne_of_lt hlt)).trans hpn, e.child u⟩
  · refine ⟨(good j m hj).lt, (good j m hj).loc, fun p hp => ?_⟩
    obtain ⟨hlt, pn, hpn, e⟩ := (good j m hj).sup p hp
    refine ⟨hlt, ?_⟩
    simp only [State.set]
    split
    · -- a task registered under the updated one
      subst p; cases hi.symm.trans hpn
      exact ⟨n', rfl, e.parent u.kind (fun a => (hs a).imp_right (· j m hj hp))
        fun a => (hd a).imp_right (· j m hj hp)⟩
    · exact ⟨pn, hpn, e⟩

theorem broadcast_nodes (σ : State) (s j : Nat) : (σ.broadcast s).nodes j =
    (σ.nodes j).map fun m => { m with pending := liveChildOf s m || m.pending } := by
  simp only [State.broadcast]
  cases σ.nodes j with
  | none => rfl
  | some m => cases h : liveChildOf s m <;> simp [h]

theorem broadcast_some {σ : State} {s j : Nat} {m' : Node}
    (h : (σ.broadcast s).nodes j = some m') :
    ∃ m, σ.nodes j = some m ∧ m' = { m with pending := liveChildOf s m || m.pending } := by
  rw [broadcast_nodes] at h
  obtain ⟨m, hm, e⟩ := Option.map_eq_some_iff.mp h
  exact ⟨m, hm, e.symm⟩

theorem broadcast_child {σ : State} {s c : Nat} {cn : Node}
    (h : (σ.broadcast s).nodes c = some cn) (hp : cn.parent = some s) :
    cn.pending = true ∨ cn.done = true := by
  obtain ⟨m, _, rfl⟩ := broadcast_some h
  cases hd : m.done
  · exact Or.inl (by simp [liveChildOf, show m.parent = some s from hp, hd])
  · exact Or.inr hd

theorem Inv.broadcast_self {σ : State} (h : Inv σ) {s : Nat} {n : Node}
    (hn : σ.nodes s = some n) : (σ.broadcast s).nodes s = some n := by
  have : liveChildOf s n = false := by
    cases hp : n.parent with
    | none => simp [liveChildOf, hp]
    | some q => simp [liveChildOf, hp, Nat.ne_of_lt (h.par s n q hn hp).1]
  rw [broadcast_nodes, hn, Option.map_some, this]
  rfl

theorem Inv.broadcast {σ : State} (h : Inv σ) (s : Nat) : Inv (σ.broadcast s) := by
  refine inv_iff_good.mpr fun j m' hj => ?_
  obtain ⟨m, hm, rfl⟩ := broadcast_some hj
  have g := inv_iff_good.mp h j m hm
  refine ⟨g.lt, g.loc, fun p hp => ?_⟩
  obtain ⟨hlt, pn, hpn, e⟩ := g.sup p hp
  -- both ends may have got the message; nothing else changes
  exact ⟨hlt, { pn with pending := liveChildOf s pn || pn.pending }, by rw [broadcast_nodes, hpn]; rfl,
    (e.child (.setPending m _)).parent rfl Or.inl Or.inl⟩

/-- A task as `spawn` registers it: at its start, under a supervisor, with ghost flags that record
whether that supervisor had already broadcast or completed. -/
def Spawned (σ : State) (nn : Node) : Prop :=
  Local nn ∧ ∀ p, nn.parent = some p → ∃ pn, σ.nodes p = some pn ∧ pn.kind = .sup ∧
    (pn.sent = true → nn.late = true) ∧ (pn.done = true → nn.orphan = true)

theorem push_old {σ : State} (h : Inv σ) (nn : Node) {j : Nat} {m : Node} (hj : σ.nodes j = some m) :
    (σ.push nn).nodes j = some m :=
  (if_neg (Nat.ne_of_lt (h.lt_size hj))).trans hj

theorem Inv.push {σ : State} (h : Inv σ) {nn : Node} (hs : Spawned σ nn) : Inv (σ.push nn) := by
  refine inv_iff_good.mpr fun j m hj => ?_
  simp only [State.push] at hj
  split at hj
  · -- the new task
    cases hj; subst j
    refine ⟨Nat.lt_succ_self _, hs.1, fun p hp => ?_⟩
    obtain ⟨pn, hpn, hk, hla, hor⟩ := hs.2 p hp
    exact ⟨h.lt_size hpn, pn, push_old h nn hpn, hk, fun a b => (nomatch (hla a).symm.trans b),
      fun a b => nomatch (hor a).symm.trans b⟩
  · -- an old task: so is its supervisor
    have g := inv_iff_good.mp h j m hj
    refine ⟨Nat.lt_succ_of_lt g.lt, g.loc, fun p hp => ?_⟩
    obtain ⟨hlt, pn, hpn, e⟩ := g.sup p hp
    exact ⟨hlt, pn, push_old h nn hpn, e⟩

theorem noLiveChild_spec {σ : State} (h : Inv σ) {s : Nat} (hn : σ.noLiveChild s = true) :
    ∀ c cn, σ.nodes c = some cn → cn.parent = some s → cn.done = true := by
  intro c cn hc hp
  have := List.all_eq_true.mp hn c (List.mem_range.mpr (h.lt_size hc))
  simpa [hc, liveChildOf, hp] using this

theorem Inv.actor_no_kids {σ : State} (h : Inv σ) {a : Nat} {n : Node}
    (ha : σ.nodes a = some n) (hk : n.kind = .actor) :
    ∀ c cn, σ.nodes c = some cn → cn.parent = some a → cn.done = true := by
  intro c cn hc hp
  obtain ⟨_, pn, hpn, hks⟩ := h.par c cn a hc hp
  cases ha.symm.trans hpn
  rw [hk] at hks; cases hks

/-- `supEnv` is `K = .sup`, `actorStep` is `K = .actor`; every event of `step` that goes through them tests a
guard `c` and, where it holds, updates the task by `u`. -/
theorem nodeStep_spec {K : Kind} {σ σ' : State} {s : Nat} {c : Node → Prop} [DecidablePred c]
    {u : Node → Node}
    (h : (match σ.nodes s with
      | some n => if n.kind = K then (if c n then some (u n) else none).map (σ.set s) else none
      | none => none) = some σ') :
    ∃ n, σ.nodes s = some n ∧ n.kind = K ∧ c n ∧ σ' = σ.set s (u n) := by
  split at h
  · split at h
    · split at h
      · cases h; exact ⟨_, ‹_›, ‹_›, ‹_›, rfl⟩
      · cases h
    · cases h
  · cases h

theorem spawn_spec {σ σ' : State} {k : Kind} {p : Option Nat} (hs : spawn σ k p = some σ') :
    ∃ nn, σ' = σ.push nn ∧ Spawned σ nn := by
  revert hs
  fun_cases spawn σ k p <;> intro hs <;> cases hs
  · exact ⟨_, rfl, by simp [Local], nofun⟩ -- root supervisor: no parent
  · -- under a supervisor whose handle is alive and has not been asked to stop
    rename_i pn hpn hc
    simp only [Bool.and_eq_true, decide_eq_true_eq] at hc
    obtain ⟨⟨⟨⟨⟨hk, -⟩, -⟩, -⟩, -⟩, -⟩ := hc
    refine ⟨_, rfl, by cases k <;> simp [Local], fun q hq => ?_⟩
    cases hq
    exact ⟨pn, hpn, hk, id, id⟩

theorem supStep_eq_some {σ σ' : State} {s : Nat} : supStep σ s = some σ' ↔
    ∃ n, σ.nodes s = some n ∧ n.kind = .sup ∧
      (n.pc = 0 ∧ σ.canBreak n = true ∧ σ' = σ.set s { n with pc := n.pc + 1 } ∨
       n.pc = 1 ∧ σ' = (σ.broadcast s).set s { n with pc := n.pc + 1, sent := true } ∨
       n.pc = 2 ∧ σ.noLiveChild s = true ∧ σ' = σ.set s { n with pc := n.pc + 1 }) := by
  constructor
  · intro hs
    revert hs
    fun_cases supStep σ s <;> intro hs <;> cases hs
    · -- in the loop, and it can be left
      rename_i n hn hk hop hc
      exact ⟨n, hn, hk, .inl ⟨((Node.op_iff n 0).mp hop).1, hc, rfl⟩⟩
    · -- the broadcast
      rename_i n hn hk hop
      exact ⟨n, hn, hk, .inr (.inl ⟨((Node.op_iff n 1).mp hop).1, rfl⟩)⟩
    · -- waiting for the receivers, and all are closed
      rename_i n hn hk hop hc
      exact ⟨n, hn, hk, .inr (.inr ⟨((Node.op_iff n 2).mp hop).1, hc, rfl⟩)⟩
  · rintro ⟨n, hn, hk, h⟩
    have hop : ∀ k, n.pc = k → k < 3 → n.op = some k := fun k a b => (Node.op_iff n k).mpr ⟨a, b⟩
    rcases h with ⟨h0, hc, rfl⟩ | ⟨h1, rfl⟩ | ⟨h2, hc, rfl⟩
    · simp [Kanidm.Actors.supStep, hn, hk, hop 0 h0, hc]
    · simp [Kanidm.Actors.supStep, hn, hk, hop 1 h1]
    · simp [Kanidm.Actors.supStep, hn, hk, hop 2 h2, hc]

/-- An update of one task that neither sends a broadcast nor completes a supervisor: every step of the
environment and of an actor, and a supervisor leaving its loop. -/
structure Quiet (n n' : Node) : Prop extends Upd n n' where
  loc : Local n → Local n'
  sent : n'.sent = n.sent
  done : 3 ≤ n'.pc → 3 ≤ n.pc ∨ n.kind = .actor

theorem Inv.set_quiet {σ : State} {i : Nat} {n n' : Node} (h : Inv σ) (hi : σ.nodes i = some n)
    (q : Quiet n n') : Inv (σ.set i n') := by
  refine h.set hi q.toUpd (q.loc (h.loc i n hi)) (fun e => Or.inl (q.sent ▸ e)) fun e => ?_
  rcases q.done ((Node.done_iff n').mp e) with h3 | hk
  · exact Or.inl ((Node.done_iff n).mpr h3)
  · exact Or.inr (h.actor_no_kids hi hk)

/-- What an event can do to the system: register a task, update one task quietly, or take a
supervisor task through its broadcast or past its wait for the receivers to close. -/
inductive Trans (σ : State) : State → Prop
  | spawn {nn : Node} (hs : Spawned σ nn) : Trans σ (σ.push nn)
  | quiet {i : Nat} {n n' : Node} (hn : σ.nodes i = some n) (q : Quiet n n') : Trans σ (σ.set i n')
  | send {s : Nat} {n : Node} (hn : σ.nodes s = some n) (hk : n.kind = .sup) (hpc : n.pc = 1) :
      Trans σ ((σ.broadcast s).set s { n with pc := n.pc + 1, sent := true })
  | exit {s : Nat} {n : Node} (hn : σ.nodes s = some n) (hk : n.kind = .sup) (hpc : n.pc = 2)
      (hc : σ.noLiveChild s = true) : Trans σ (σ.set s { n with pc := n.pc + 1 })

theorem step_trans {σ σ' : State} {e : Ev} (hs : step σ e = some σ') : Trans σ σ' := by
  cases e with
  | spawnSup p =>
    obtain ⟨nn, rfl, hn⟩ := spawn_spec (p := p) hs
    exact .spawn hn
  | spawnActor p =>
    obtain ⟨nn, rfl, hn⟩ := spawn_spec (p := some p) hs
    exact .spawn hn
  | supStep s =>
    obtain ⟨n, hn, hk, ⟨h0, -, rfl⟩ | ⟨h1, rfl⟩ | ⟨h2, hc, rfl⟩⟩ := supStep_eq_some.mp hs
    · -- leaving the loop
      refine .quiet hn { toUpd := .supStep n n.sent, loc := fun hl => ?_, sent := rfl, done := fun h3 => ?_ }
      · have := (Local.sup hk).mp hl
        exact Iff.mpr (Local.sup hk) (by simp_all)
      · simp only at h3; omega
    · exact .send hn hk h1
    · exact .exit hn hk h2 hc
  | terminate r | stopReq r | dropHandle r =>
    -- flags the invariant does not read
    obtain ⟨n, hn, hk, -, rfl⟩ := nodeStep_spec (K := .sup) hs
    exact .quiet hn
      { kind := rfl, parent := rfl, late := rfl, orphan := rfl, pc := Nat.le_refl _,
        pending := fun e => by simp [e], loc := id, sent := rfl, done := Or.inl }
  | execReturn r | stopReturn r =>
    -- `returned` is set once the awaited task has completed
    obtain ⟨n, hn, hk, hc, rfl⟩ := nodeStep_spec (K := .sup) hs
    refine .quiet hn
      { kind := rfl, parent := rfl, late := rfl, orphan := rfl, pc := Nat.le_refl _, pending := id,
        loc := fun hl => ?_, sent := rfl, done := Or.inl }
    obtain ⟨hpc, hsent, -⟩ := (Local.sup hk).mp hl
    simp [execAwaitsTask, execTail, stopAwaitsTask, stopOps, Node.done_iff] at hc
    exact Iff.mpr (Local.sup hk) ⟨hpc, hsent, fun _ => hc.2⟩
  | setupDone a | ready a | stepDone a | selfStop a | seeStop a | cleanupDone a =>
    -- the guard fixes `pc`, and with it what `Local` says before and after
    obtain ⟨n, hn, hk, hc, rfl⟩ := nodeStep_spec (K := .actor) hs
    refine .quiet hn
      { kind := rfl, parent := rfl, late := rfl, orphan := rfl, pc := by simp, pending := id,
        loc := fun hl => ?_, sent := rfl, done := fun _ => Or.inr hk }
    have := (Local.actor hk).mp hl
    refine Iff.mpr (Local.actor hk) ?_
    simp only [Bool.and_eq_true, decide_eq_true_eq, Bool.not_eq_true', Node.op_iff] at hc
    simp_all

theorem Trans.inv {σ σ' : State} (h : Inv σ) (t : Trans σ σ') : Inv σ' := by
  cases t with
  | spawn hs => exact h.push hs
  | quiet hn q => exact h.set_quiet hn q
  | @send s n hn hk hpc =>
    have hl := (Local.sup hk).mp (h.loc s n hn)
    refine (h.broadcast s).set (h.broadcast_self hn) (.supStep n true)
      (Iff.mpr (Local.sup hk) (by simp_all))
      (fun _ => Or.inr fun c cn hc hp => broadcast_child hc hp) fun e => ?_
    have := (Node.done_iff _).mp e
    simp only at this; omega
  | @exit s n hn hk hpc hc =>
    -- all receivers closed: the task completes
    have hl := (Local.sup hk).mp (h.loc s n hn)
    exact h.set hn (.supStep n n.sent) (Iff.mpr (Local.sup hk) (by simp_all)) Or.inl
      fun _ => Or.inr (noLiveChild_spec h hc)

theorem Inv.step {σ σ' : State} (h : Inv σ) {e : Ev} (hs : step σ e = some σ') : Inv σ' :=
  (step_trans hs).inv h

theorem Reach.inv {σ : State} (h : Reach σ) : Inv σ := by
  induction h with
  | init => exact Inv.init
  | step e _ hs ih => exact ih.step hs

/-- Every task of `σ` is still there in `σ'`, changed only as `Upd` allows. -/
def Ext (σ σ' : State) : Prop :=
  ∀ j m, σ.nodes j = some m → ∃ m', σ'.nodes j = some m' ∧ Upd m m'

theorem Ext.refl (σ : State) : Ext σ σ := fun _ m hj => ⟨m, hj, Upd.refl m⟩

theorem Ext.trans {σ σ' σ'' : State} (h1 : Ext σ σ') (h2 : Ext σ' σ'') : Ext σ σ'' := by
  intro j m hj
  obtain ⟨m1, hm1, hmono1⟩ := h1 j m hj
  obtain ⟨m2, hm2, hmono2⟩ := h2 j m1 hm1
  exact ⟨m2, hm2, hmono1.trans hmono2⟩

theorem Ext.set {σ : State} {i : Nat} {n n' : Node} (hi : σ.nodes i = some n) (hm : Upd n n') :
    Ext σ (σ.set i n') := by
  intro j m hj
  simp only [State.set]
  split
  · subst j; cases hi.symm.trans hj; exact ⟨n', rfl, hm⟩
  · exact ⟨m, hj, Upd.refl m⟩

theorem Ext.push {σ : State} (h : Inv σ) (nn : Node) : Ext σ (σ.push nn) := by
  intro j m hj
  exact ⟨m, push_old h nn hj, Upd.refl m⟩

theorem Ext.broadcast (σ : State) (s : Nat) : Ext σ (σ.broadcast s) := by
  intro j m hj
  exact ⟨{ m with pending := liveChildOf s m || m.pending }, by rw [broadcast_nodes, hj]; rfl,
    .setPending m _⟩

theorem Trans.ext {σ σ' : State} (h : Inv σ) (t : Trans σ σ') : Ext σ σ' := by
  cases t with
  | spawn => exact Ext.push h _
  | quiet hn q => exact Ext.set hn q.toUpd
  | @send s n hn =>
    exact (Ext.broadcast σ s).trans (Ext.set (h.broadcast_self hn) (Upd.supStep n true))
  | @exit s n hn => exact Ext.set hn (Upd.supStep n n.sent)

theorem run_spec {σ σ' : State} (h : Reach σ) {es : List Ev} (hr : run σ es = some σ') :
    Reach σ' ∧ Ext σ σ' := by
  induction es generalizing σ with
  | nil => cases hr; exact ⟨h, Ext.refl _⟩
  | cons e es ih =>
    simp only [Kanidm.Actors.run] at hr
    split at hr
    · rename_i hs
      obtain ⟨hr', he⟩ := ih (Reach.step e h hs) hr
      exact ⟨hr', ((step_trans hs).ext h.inv).trans he⟩
    · cases hr

theorem reach_run {σ σ' : State} (h : Reach σ) {es : List Ev} (hr : run σ es = some σ') :
    Reach σ' :=
  (run_spec h hr).1

/-- Some step of task `i` itself (not of the environment) is enabled. -/
def Enabled (σ : State) (i : Nat) : Prop :=
  ∃ e, e ∈ [Ev.supStep i, .setupDone i, .stepDone i, .seeStop i, .cleanupDone i] ∧
    (step σ e).isSome = true

theorem Enabled.node {σ : State} {i : Nat} (h : Enabled σ i) : ∃ n, σ.nodes i = some n := by
  obtain ⟨e, he, hs⟩ := h
  cases hn : σ.nodes i with
  | some n => exact ⟨n, rfl⟩
  | none =>
    simp only [List.mem_cons, List.mem_nil_iff, or_false] at he
    rcases he with rfl | rfl | rfl | rfl | rfl <;>
      simp [step, actorStep, Kanidm.Actors.supStep, hn] at hs

theorem Desc.trans_child {σ : State} {s c d : Nat} {cn : Node} (hc : σ.nodes c = some cn)
    (hp : cn.parent = some s) (h : Desc σ c d) : Desc σ s d := by
  induction h with
  | refl => exact Desc.child hc hp Desc.refl
  | child hd hpd _ ih => exact Desc.child hd hpd ih

theorem live_child_of_not_noLiveChild {σ : State} {s : Nat} (h : σ.noLiveChild s = false) :
    ∃ c cn, σ.nodes c = some cn ∧ cn.parent = some s ∧ cn.done = false := by
  obtain ⟨c, -, hcc⟩ := List.all_eq_false.mp h
  cases hn : σ.nodes c with
  | none => simp [hn] at hcc
  | some cn =>
    simp [hn, liveChildOf] at hcc
    exact ⟨c, cn, hn, hcc.1, hcc.2⟩

/-- Every way of asking a supervisor task to stop is heard by its select loop: `Supervisor::stop`'s
mailbox message, the parent's broadcast, and the parent side going away. -/
theorem stop_request_is_heard (σ : State) (n : Node)
    (h : n.stopReq = true ∨ n.pending = true ∨ σ.parentClosed n = true) :
    σ.canBreak n = true := by
  rcases h with h | h | h <;>
    simp [State.canBreak, h, supParentRecvBreaks, supMboxStopBreaks]

theorem seeStop_enabled {σ : State} {a : Nat} {n : Node} (ha : σ.nodes a = some n)
    (hk : n.kind = .actor) (hl : n.pc = 1) (hi : n.inStep = false)
    (h : n.pending = true ∨ σ.parentClosed n = true) : (step σ (.seeStop a)).isSome = true := by
  have hop : n.op = some 1 := (Node.op_iff n 1).mpr ⟨hl, by omega⟩
  rcases h with h | h <;> simp [step, actorStep, ha, hk, hop, hi, h, actParentRecvBreaks]

theorem supStep_enabled {σ : State} {s : Nat} {n : Node} (hs : σ.nodes s = some n)
    (hk : n.kind = .sup) (h : n.pc = 0 ∧ σ.canBreak n = true ∨ n.pc = 1 ∨
      n.pc = 2 ∧ σ.noLiveChild s = true) : Enabled σ s := by
  refine ⟨.supStep s, List.mem_cons_self, Option.isSome_iff_exists.mpr ?_⟩
  rcases h with ⟨h0, hc⟩ | h1 | ⟨h2, hc⟩
  · exact ⟨_, supStep_eq_some.mpr ⟨n, hs, hk, Or.inl ⟨h0, hc, rfl⟩⟩⟩
  · exact ⟨_, supStep_eq_some.mpr ⟨n, hs, hk, Or.inr (Or.inl ⟨h1, rfl⟩)⟩⟩
  · exact ⟨_, supStep_eq_some.mpr ⟨n, hs, hk, Or.inr (Or.inr ⟨h2, hc, rfl⟩)⟩⟩

theorem actor_enabled {σ : State} {c : Nat} {cn : Node} (hc : σ.nodes c = some cn)
    (hk : cn.kind = .actor) (hp : cn.pending = true) (hd : cn.done = false) : Enabled σ c := by
  rw [Node.done_false_iff] at hd
  have h012 : cn.pc = 0 ∨ cn.pc = 1 ∨ cn.pc = 2 := by omega
  have hop : cn.op = some cn.pc := (Node.op_iff cn cn.pc).mpr ⟨rfl, hd⟩
  rcases h012 with h0 | h1 | h2
  · exact ⟨.setupDone c, by simp, by simp [step, actorStep, hc, hk, h0 ▸ hop]⟩
  · cases hi : cn.inStep with
    | true => exact ⟨.stepDone c, by simp, by simp [step, actorStep, hc, hk, h1 ▸ hop, hi]⟩
    | false => exact ⟨.seeStop c, by simp, seeStop_enabled hc hk h1 hi (Or.inl hp)⟩
  · exact ⟨.cleanupDone c, by simp, by simp [step, actorStep, hc, hk, h2 ▸ hop]⟩

/-- A supervisor that can leave its loop, or has left it, and has not completed has a task below it (or
itself) whose next step is enabled, as long as nothing was registered after a broadcast. By recursion on
`σ.size - s`: children have larger indices. -/
theorem stopping_progress_aux {σ : State} (inv : Inv σ)
    (hno : ∀ i n, σ.nodes i = some n → n.late = false) (s : Nat) (sn : Node)
    (hs : σ.nodes s = some sn) (hk : sn.kind = .sup) (hb : σ.canBreak sn = true ∨ 1 ≤ sn.pc)
    (hnd : sn.done = false) : ∃ d, Desc σ s d ∧ Enabled σ d := by
  have hsent := (inv.loc s sn hs).sent_iff hk
  rw [Node.done_false_iff] at hnd
  have h012 : sn.pc = 0 ∨ sn.pc = 1 ∨ sn.pc = 2 := by omega
  rcases h012 with h0 | h1 | h2
  · exact ⟨s, Desc.refl, supStep_enabled hs hk (Or.inl ⟨h0, hb.resolve_right (by omega)⟩)⟩
  · exact ⟨s, Desc.refl, supStep_enabled hs hk (Or.inr (Or.inl h1))⟩
  · cases hnl : σ.noLiveChild s with
    | true => exact ⟨s, Desc.refl, supStep_enabled hs hk (Or.inr (Or.inr ⟨h2, hnl⟩))⟩
    | false =>
      -- a live child has the broadcast waiting
      obtain ⟨c, cn, hc, hp, hcd⟩ := live_child_of_not_noLiveChild hnl
      have hpend : cn.pending = true :=
        (inv.sentKids c cn s sn hc hp hs (hsent.mpr (by omega)) (hno c cn hc)).resolve_right
          (by simp [hcd])
      cases hkc : cn.kind with
      | actor =>
        exact ⟨c, Desc.child hc hp Desc.refl, actor_enabled hc hkc hpend hcd⟩
      | sup =>
        have hsc := (inv.par c cn s hc hp).1
        obtain ⟨d, hd, he⟩ := stopping_progress_aux inv hno c cn hc hkc
          (Or.inl (stop_request_is_heard σ cn (.inr (.inl hpend)))) hcd
        exact ⟨d, Desc.trans_child hc hp hd, he⟩
termination_by σ.size - s
decreasing_by exact Nat.sub_lt_sub_left (Nat.lt_trans hsc (inv.lt_size hc)) hsc

end Kanidm.Actors
