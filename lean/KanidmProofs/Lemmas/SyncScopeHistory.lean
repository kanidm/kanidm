import KanidmProofs.Lemmas.SyncScopeApply
/-!
C50: lemmas about user modifications, yield changes and histories of operations.
-/
namespace Kanidm.SyncScope
open Kanidm.Access.Write
open Kanidm.Gen.Access
open Kanidm.Gen.SyncScope

/-- the part of an entry named by attribute `a` is the same in `e` and `e'` -/
structure SameAt (a : Nat) (e e' : Entry) : Prop where
  attrs : getA e'.attrs a = getA e.attrs a
  parent : a = A.SyncParentUuid → e'.syncParent = e.syncParent
  ext : a = A.SyncExternalId → e'.extId = e.extId
  cls : a = A.Class → e'.classes = e.classes
  sc : a = A.SyncClass → e'.syncClasses = e.syncClasses

theorem SameAt.refl (a : Nat) (e : Entry) : SameAt a e e :=
  ⟨rfl, fun _ => rfl, fun _ => rfl, fun _ => rfl, fun _ => rfl⟩

theorem SameAt.trans {a : Nat} {e e' e'' : Entry} (f : SameAt a e e') (g : SameAt a e' e'') :
    SameAt a e e'' :=
  ⟨by rw [g.attrs, f.attrs], fun h => by rw [g.parent h, f.parent h],
   fun h => by rw [g.ext h, f.ext h], fun h => by rw [g.cls h, f.cls h],
   fun h => by rw [g.sc h, f.sc h]⟩

theorem getA_applyAttr (k : Nat) (m : List (Nat × List Nat)) (md : Mod) (a : Nat) (h : k ≠ a) :
    getA (applyAttr k m md) a = getA m a := by
  have h' : a ≠ k := fun x => h x.symm
  cases md with
  | present _ v => simp [applyAttr, getA_addA, h']
  | removed _ v => simp [applyAttr, remA, getA_setA, h']
  | purged _ => simp [applyAttr, getA_purgeA, h']
  | set _ vs => simp [applyAttr, getA_setA, h']
  | assert _ _ => rfl

/-- What no user modification changes: `applyUserMod` does not apply the attributes of `frozenAttrs`
and has no branch for the lifecycle. -/
structure Frozen (e e' : Entry) : Prop where
  uuid : e'.uuid = e.uuid
  cookie : e'.cookie = e.cookie
  yld : e'.yieldAuth = e.yieldAuth
  life : e'.life = e.life

theorem Frozen.refl (e : Entry) : Frozen e e := ⟨rfl, rfl, rfl, rfl⟩

theorem Frozen.trans {e e' e'' : Entry} (f : Frozen e e') (g : Frozen e' e'') : Frozen e e'' :=
  ⟨g.uuid.trans f.uuid, g.cookie.trans f.cookie, g.yld.trans f.yld, g.life.trans f.life⟩

/-- each branch of `applyUserMod` writes the one field its guard names -/
theorem applyUserMod_spec {e e' : Entry} {m : Mod} (h : applyUserMod e m = some e') :
    Frozen e e' ∧
      ∀ a, umodAttr m ≠ a → SameAt a e e' := by
  have named {k a : Nat} (c : (umodAttr m == k) = true) (hne : umodAttr m ≠ a) (ha : a = k) : False :=
    hne ((beq_iff_eq.mp c).trans ha.symm)
  revert h
  fun_cases applyUserMod e m
  case case1 =>  -- an `Assert` on a frozen attribute
    rintro ⟨⟩
    exact ⟨⟨rfl, rfl, rfl, rfl⟩, fun a _ => SameAt.refl a e⟩
  case case2 => nofun  -- any other modification of a frozen attribute
  case case3 c =>  -- `sync_parent_uuid`
    intro h
    obtain ⟨p, -, rfl⟩ := Option.map_eq_some_iff.mp h
    exact ⟨⟨rfl, rfl, rfl, rfl⟩, fun a hne =>
      { SameAt.refl a e with parent := fun ha => (named c hne ha).elim }⟩
  case case4 c =>  -- `sync_external_id`
    intro h
    obtain ⟨x, -, rfl⟩ := Option.map_eq_some_iff.mp h
    exact ⟨⟨rfl, rfl, rfl, rfl⟩, fun a hne =>
      { SameAt.refl a e with ext := fun ha => (named c hne ha).elim }⟩
  case case5 c =>  -- `class`
    rintro ⟨⟩
    exact ⟨⟨rfl, rfl, rfl, rfl⟩, fun a hne =>
      { SameAt.refl a e with cls := fun ha => (named c hne ha).elim }⟩
  case case6 c =>  -- `sync_class`
    rintro ⟨⟩
    exact ⟨⟨rfl, rfl, rfl, rfl⟩, fun a hne =>
      { SameAt.refl a e with sc := fun ha => (named c hne ha).elim }⟩
  case case7 =>  -- any other attribute
    rintro ⟨⟩
    exact ⟨⟨rfl, rfl, rfl, rfl⟩, fun a hne =>
      { SameAt.refl a e with attrs := getA_applyAttr _ _ _ _ hne }⟩

/-- every branch returns the entry as it is -/
theorem applyUserMod_assert (e : Entry) (k v : Nat) : applyUserMod e (.assert k v) = some e := by
  show (if _ then some e else if _ then some e else if _ then some e else if _ then some e
    else if _ then some e else some e) = some e
  simp only [ite_self]

theorem applyUserMods_rel {R : Entry → Entry → Prop} (hr : ∀ e, R e e)
    (ht : ∀ {a b c}, R a b → R b c → R a c) {ml : List Mod} {e e' : Entry}
    (hm : ∀ m, m ∈ ml → ∀ x y, applyUserMod x m = some y → R x y)
    (h : applyUserMods e ml = some e') : R e e' := by
  revert hm h
  fun_induction applyUserMods e ml
  case case1 => rintro - ⟨⟩; exact hr _  -- []
  case case2 => nofun  -- the first modification fails
  case case3 e m rest e1 h1 ih =>  -- the first modification gives `e1`
    intro hm h
    exact ht (hm m List.mem_cons_self e e1 h1) (ih (fun x hx => hm x (List.mem_cons_of_mem _ hx)) h)

theorem applyUserMods_inv {ml : List Mod} {e e' : Entry} (h : applyUserMods e ml = some e') :
    Frozen e e' :=
  applyUserMods_rel Frozen.refl Frozen.trans (fun _ _ _ _ hxy => (applyUserMod_spec hxy).1) h

theorem applyUserMods_sameAt (a : Nat) {ml : List Mod} {e e' : Entry}
    (hn : ∀ m, m ∈ ml → isAssert m = true ∨ umodAttr m ≠ a) (h : applyUserMods e ml = some e') :
    SameAt a e e' := by
  refine applyUserMods_rel (SameAt.refl a) SameAt.trans (fun m hm x y hxy => ?_) h
  rcases hn m hm with ha | hne
  · cases m with
    | assert k v =>
      rw [applyUserMod_assert] at hxy
      cases hxy
      exact SameAt.refl a x
    | present _ _ => cases ha
    | removed _ _ => cases ha
    | purged _ => cases ha
    | set _ _ => cases ha
  · exact (applyUserMod_spec hxy).2 a hne

theorem applyUserMods_same (a : Nat) : ∀ (ml : List Mod) (e e' : Entry),
    (∀ m, m ∈ ml → umodAttr m ≠ a) → applyUserMods e ml = some e' → SameAt a e e' :=
  fun _ _ _ hn => applyUserMods_sameAt a fun m hm => .inr (hn m hm)

/-- What an accepted `userModify` did to an entry it wrote: a live entry with the target uuid, the
access decision allowed the modifications on it, and `e'` is what they make of it. -/
structure UserWrote (id : Ident) (acps : List AcpModify) (st : State) (target : Nat) (ml : List Mod)
    (e e' : Entry) : Prop where
  target : e.uuid = target
  live : e.masked = false
  allowed :
    modifyAllowPerEntry id (modifyRelatedAcp id acps) (agreementsOf st) (toEnt e) ml = true
  applied : applyUserMods e ml = some e'

theorem userModify_ok {id : Ident} {acps : List AcpModify} {st st' : State} {target : Nat}
    {ml : List Mod} (h : userModify id acps st target ml = .ok st') :
    Grows (fun e e' =>
      UserWrote id acps st target ml e e' ∨ ((e.uuid ≠ target ∨ e.masked = true) ∧ e' = e))
      (fun _ => False) st st' := by
  rw [userModify] at h
  dsimp only at h
  obtain ⟨-, h⟩ := guard_ok h
  obtain ⟨-, h⟩ := guard_ok h
  obtain ⟨c2, h⟩ := guard_not_ok h
  obtain ⟨c3, h⟩ := guard_not_ok h
  cases h
  refine .map _ fun x hx => ?_
  cases hs : x.uuid == target && !x.masked
  · refine .inr ⟨?_, rfl⟩
    by_cases hu : x.uuid = target
    · exact .inr (by simpa [hu] using hs)
    · exact .inl hu
  · have hc : x ∈ st.filter fun e => e.uuid == target && !e.masked :=
      List.mem_filter.mpr ⟨hx, hs⟩
    obtain ⟨x', hx'⟩ := Option.isSome_iff_exists.mp (List.all_eq_true.mp c3 x hc)
    rw [hx']
    have : x.uuid = target ∧ x.masked = false := by simpa using hs
    unfold modifyAllowOperation at c2
    exact .inl ⟨this.1, this.2,
      List.all_eq_true.mp c2 (toEnt x) (List.mem_map.mpr ⟨x, hc, rfl⟩), hx'⟩

theorem userModify_uuids {id : Ident} {acps : List AcpModify} {st st' : State} {target : Nat}
    {ml : List Mod} {N : Entry → Prop} (h : userModify id acps st target ml = .ok st') :
    Grows (fun e e' => e'.uuid = e.uuid) N st st' := by
  refine (userModify_ok h).mono (fun e e' hr => ?_) fun _ h => h.elim
  rcases hr with w | ⟨_, rfl⟩
  · exact (applyUserMods_inv w.applied).uuid
  · rfl

theorem setYield_uuids {st st' : State} {su : Nat} {y : Option (List Nat)} {N : Entry → Prop}
    (h : setYield st su y = .ok st') : Grows (fun e e' => e'.uuid = e.uuid) N st st' := by
  unfold setYield at h
  obtain ⟨-, h⟩ := guard_not_ok h
  cases h
  refine .map _ fun x _ => ?_
  cases x.uuid == su && !x.masked <;> rfl

theorem step_eq (sch : Schema) (st : State) (op : Op) :
    step sch st op = st ∨
      match op with
      | .sync id req _ => apply sch id st req = .ok (step sch st op)
      | .yield su y => setYield st su y = .ok (step sch st op)
      | .user id acps target ml _ => userModify id acps st target ml = .ok (step sch st op) := by
  unfold step
  fun_cases stepRes sch st op
  -- a sync request, a user modification: accepted, and by the stages after it
  case case2 h | case6 h => exact .inr h
  case case4 su y =>  -- a yield change: the answer of `setYield`
    cases h : setYield st su y with
    | error _ => exact .inl rfl
    | ok _ => exact .inr h
  all_goals exact .inl rfl  -- refused, by the operation or by a stage after it

theorem run_cons (sch : Schema) (st : State) (op : Op) (ops : List Op) :
    run sch st (op :: ops) = run sch (step sch st op) ops := rfl

theorem run_nil (sch : Schema) (st : State) : run sch st [] = st := rfl

theorem run_grows {R : Entry → Entry → Prop} {N : Entry → Prop} (hr : ∀ e, R e e)
    (ht : ∀ a b c, R a b → R b c → R a c) (hN : ∀ x y, N x → R x y → N y) (sch : Schema)
    (ops : List Op) (hstep : ∀ op, op ∈ ops → ∀ st, Grows R N st (step sch st op)) (st : State) :
    Grows R N st (run sch st ops) :=
  ops.foldlRecOn (step sch) (motive := Grows R N st) (.refl hr st) fun st' g op hop =>
    g.trans (hstep op hop st') ht hN fun _ h => h

end Kanidm.SyncScope
