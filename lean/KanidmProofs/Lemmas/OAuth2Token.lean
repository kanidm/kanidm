import KanidmModel.OAuth2.Token
import KanidmProofs.Lemmas.SessionPlugin
import KanidmProofs.C36
/-!
Helper lemmas for C39: the vocabulary of the property (`Revoked`, `ExpiredAt`, `LiveAt`, read off
the property text), `check_oauth2_account_uuid_valid` (`acctValid` is C36's `o2Check`, and its closed
form is C36's), lookups through a write transaction, and "a revoked session stays revoked under every
write — or is trimmed away, never live again" (on C36's `DeadO2` / `DeadUat` and its
`dead_…_stays_dead_write` lemmas; C36's write step starts with the `Entry::invalidate` trim).
-/
namespace Kanidm.OAuth2.Token
open Kanidm.OAuth2 Kanidm.Gen.OAuth2Token Kanidm.SessionPlugin Kanidm.SessionMerge Kanidm.Gen.SessionOrd

def Revoked (s : Sess) : Prop := ∃ c, s.state = .revokedAt c

/-- The session has an expiry and it has passed: expired *at* its expiry instant. -/
def ExpiredAt (s : Sess) (ct : Nat) : Prop := ∃ x, s.state = .expiresAt x ∧ x ≤ ct

def LiveAt (s : Sess) (ct : Nat) : Prop := ¬ Revoked s ∧ ¬ ExpiredAt s ct

/-- Five minutes in nanoseconds, as the property text of C36 has it. -/
def fiveMinutesNs : Nat := 300 * 1000000000

def uatOf (e : Entry) (p : Nat) : Option Sess := e.uats.bind (fun m => lookup m p)

theorem uatOf_eq_some {e : Entry} {k : Nat} {s : Sess} :
    uatOf e k = some s ↔ ∃ m, e.uats = some m ∧ lookup m k = some s := by
  unfold uatOf
  cases e.uats <;> simp

theorem stateLive_iff (s : Sess) (ct : Nat) : stateLive s.state ct = true ↔ LiveAt s ct := by
  unfold stateLive liveRevoked liveExpires liveNever LiveAt Revoked ExpiredAt
  cases s.state <;> simp

theorem stateLive_false_iff (s : Sess) (ct : Nat) : stateLive s.state ct = false ↔ (Revoked s ∨ ExpiredAt s ct) := by
  rw [← Bool.not_eq_true, stateLive_iff, LiveAt, Classical.not_and_iff_not_or_not, Classical.not_not,
    Classical.not_not]

/-! ## `acctValid` is C36's `o2Check`

Both transcribe `check_oauth2_account_uuid_valid`, each over its own regenerated operators; they are the
same function, so what C36 proves of `o2Check` holds of `acctValid`. -/

theorem stateLive_eq (s : SState) (ct : Nat) : stateLive s ct = chkStateLive ct s := by
  cases s <;> rfl

theorem acctValid_eq_o2Check (e : Entry) (sid : Nat) (parent : Option Nat) (iat ct : Nat) :
    acctValid e sid parent iat ct = o2Check e sid parent iat ct := by
  have hg : validGrace ct iat = Kanidm.Gen.SessionPlugin.chkGraceValid ct iat graceWindow := rfl
  unfold acctValid o2Check
  simp only [stateLive_eq, hg]
  -- what is left are the leaves: both sides are the same tree over the same tests
  generalize Kanidm.Gen.SessionPlugin.chkGraceValid ct iat graceWindow = g
  cases withinWindow e ct
  · rfl
  · cases lookup e.o2s sid with
    | none => cases g <;> rfl
    | some o =>
      dsimp only
      generalize chkStateLive ct o.state = l
      cases parent with
      | none => cases l <;> rfl
      | some p =>
        dsimp only
        cases l
        · rfl
        · cases e.uats.bind fun m => lookup m p with
          | none => cases e.apis.contains p <;> cases g <;> rfl
          | some u => dsimp only; generalize chkStateLive ct u.state = l'; cases l' <;> rfl

theorem liveAt_iff (s : Sess) (ct : Nat) : LiveAt s ct ↔ Kanidm.SessionPlugin.LiveAt ct s := by
  rw [← stateLive_iff, stateLive_eq, chkStateLive_iff]

/-- The exact condition under which `check_oauth2_account_uuid_valid` lets a token through. -/
theorem acctValid_true_iff (e : Entry) (sid : Nat) (parent : Option Nat) (iat ct : Nat) :
    acctValid e sid parent iat ct = true ↔
      withinWindow e ct = true ∧
      ((∃ o, lookup e.o2s sid = some o ∧ LiveAt o ct ∧
          ∀ p, parent = some p →
            (∃ u, uatOf e p = some u ∧ LiveAt u ct) ∨
            (uatOf e p = none ∧ (p ∈ e.apis ∨ ct < iat * 1000000000 + fiveMinutesNs))) ∨
       (lookup e.o2s sid = none ∧ ct < iat * 1000000000 + fiveMinutesNs)) := by
  simp only [liveAt_iff]
  rw [acctValid_eq_o2Check]
  exact o2Check_true_iff e sid parent iat ct

theorem lookup_setAcct (l : List (Nat × Entry)) (a : Nat) (e : Entry) (b : Nat) :
    lookup (setAcct l a e) b = (lookup l b).map (fun x => if b = a then e else x) := by
  have : setAcct l a e = l.map (fun p => (p.1, if p.1 = a then e else p.2)) :=
    List.map_congr_left fun p _ => by split <;> simp_all
  rw [this]
  exact lookup_map_val (fun k x => if k = a then e else x) l b

theorem update_spec {w w' : World} {a : Nat} {f : Entry → Entry} {m : Mod} {ct : Nat}
    (h : w.update a f m ct = some w') :
    ∃ e, w.acct a = some e ∧ w'.acct a = some (Kanidm.SessionPlugin.step (f e) (.write m ct w.cid)) ∧
      (∀ b, b ≠ a → w'.acct b = w.acct b) ∧ w'.reg = w.reg ∧ w'.nextSid = w.nextSid := by
  revert h
  fun_cases World.update w a f m ct <;> intro h <;> cases h
  rename_i e he
  refine ⟨e, he, ?_, ?_, rfl, rfl⟩
  · simp only [World.acct] at he ⊢
    rw [lookup_setAcct, he]; simp
  · intro b hb
    simp only [World.acct]
    rw [lookup_setAcct]; simp [hb]

theorem write_spec {w w' : World} {a : Nat} {m : Mod} {ct : Nat} (h : w.write a m ct = some w') :
    ∃ e, w.acct a = some e ∧ w'.acct a = some (Kanidm.SessionPlugin.step e (.write m ct w.cid)) ∧
      (∀ b, b ≠ a → w'.acct b = w.acct b) ∧ w'.reg = w.reg ∧ w'.nextSid = w.nextSid :=
  update_spec (f := id) h

theorem update_isSome {w : World} {a : Nat} {e : Entry} (f : Entry → Entry) (m : Mod) (ct : Nat)
    (h : w.acct a = some e) : ∃ w', w.update a f m ct = some w' := by
  unfold World.update; simp [h]

/-! ## A session on record through a write

C36 follows the three stages of a write (trim, modlist, plugin) through membership (`UatAt`,
`(k, s) ∈ e.o2s`); a token names its session by id, so here the same closed forms (`trimEntry` is a
filter, on the login sessions as long as they are no more than `sessionMaximum`; `applyMod_uats`,
`applyMod_o2s`; `plugin_uats`, `plugin_o2s`) are read through `lookup`.
Neither reading needs distinct keys. -/

theorem lookup_trim_o2s {t : Nat} {e : Entry} {k : Nat} {s : Sess} (h : lookup e.o2s k = some s)
    (hk : ∀ c, s.state = .revokedAt c → ¬ c < t) : lookup (trimEntry t e).o2s k = some s :=
  lookup_filter_keep h (keepSess_of_fresh o2Trim_spec hk)

theorem lookup_write_o2s {e : Entry} {k : Nat} {s : Sess} (md : Mod) (ct cid : Nat)
    (h : lookup e.o2s k = some s) (hk : ∀ c, s.state = .revokedAt c → ¬ c < trimCidOf cid) :
    lookup (Kanidm.SessionPlugin.step e (.write md ct cid)).o2s k =
      some (o2Post (Kanidm.SessionPlugin.step e (.write md ct cid)).uats ct cid (modO2 cid md k s)) := by
  show lookup (plugin ct cid _).o2s k = _
  rw [lookup_plugin_o2s, lookup_applyMod_o2s (lookup_trim_o2s h hk)]
  rfl

theorem uatOf_trim {t : Nat} {e : Entry} {k : Nat} {s : Sess} (h : uatOf e k = some s)
    (hB : ∀ m, e.uats = some m → m.length ≤ sessionMaximum)
    (hk : ∀ c, s.state = .revokedAt c → ¬ c < t) : uatOf (trimEntry t e) k = some s := by
  obtain ⟨m, hm, hl⟩ := uatOf_eq_some.mp h
  refine uatOf_eq_some.mpr ⟨_, by simp only [trimEntry, hm]; rfl, ?_⟩
  rw [sessTrimAll_eq (hB m hm)]
  exact lookup_filter_keep hl (keepSess_of_fresh sessTrim_spec hk)

/-- A login session on record goes through `modUat`, whatever the modlist (recording a session
under its id is vacant-only). -/
theorem uatOf_applyMod {cid : Nat} {e : Entry} {md : Mod} {k : Nat} {s : Sess} (h : uatOf e k = some s) :
    uatOf (applyMod cid e md) k = some (modUat cid md k s) := by
  obtain ⟨m, hm, hl⟩ := uatOf_eq_some.mp h
  have key := applyMod_uats cid e md
  unfold uatOf
  split at key <;> rw [key, hm]
  · exact (lookup_insertVacant m _ k _).trans (by rw [hl]; rfl)
  · exact (lookup_mapKV _ m k).trans (by rw [hl]; rfl)

theorem uatOf_plugin (ct cid : Nat) (e : Entry) (k : Nat) :
    uatOf (plugin ct cid e) k = (uatOf e k).map (uatPost (credIds e) ct cid) := by
  unfold uatOf
  rw [plugin_uats]
  cases e.uats with
  | none => rfl
  | some m => exact lookup_mapVals _ m k

/-! ## Revoked stays revoked (one write)

The modlist and the plugin never touch a revoked session (`Evol.of_revoked`, `modO2_of_revoked`,
`o2Post_of_revoked`); the trim in front of them drops a revocation older than the changelog window, so
through a whole write the same record is kept exactly when the trim keeps it.  The unconditional
form — revoked or gone, never live again — is C36's `dead_oauth2_stays_dead_write` /
`dead_stays_dead_write` (`DeadO2`, `DeadUat`). -/

def RevokedIn (m : SMap) (k : Nat) : Prop := ∃ s, lookup m k = some s ∧ Revoked s

theorem revokedIn_o2s_write (e : Entry) (md : Mod) (ct cid k : Nat) (h : RevokedIn e.o2s k)
    (hkeep : ∀ s c, lookup e.o2s k = some s → s.state = .revokedAt c → ¬ c < trimCidOf cid) :
    RevokedIn (Kanidm.SessionPlugin.step e (.write md ct cid)).o2s k := by
  obtain ⟨s, hs, c, hr⟩ := h
  refine ⟨s, ?_, c, hr⟩
  rw [lookup_write_o2s md ct cid hs fun c hc => hkeep s c hs hc, modO2_of_revoked hr, o2Post_of_revoked hr]

def UatRevoked (e : Entry) (k : Nat) : Prop := ∃ s, uatOf e k = some s ∧ Revoked s

theorem uatRevoked_write (e : Entry) (md : Mod) (ct cid k : Nat) (h : UatRevoked e k)
    (hB : ∀ m, e.uats = some m → m.length ≤ sessionMaximum)
    (hkeep : ∀ s c, uatOf e k = some s → s.state = .revokedAt c → ¬ c < trimCidOf cid) :
    UatRevoked (Kanidm.SessionPlugin.step e (.write md ct cid)) k := by
  obtain ⟨s, hs, c, hr⟩ := h
  refine ⟨s, ?_, c, hr⟩
  show uatOf (plugin ct cid _) k = _
  rw [uatOf_plugin, uatOf_applyMod (uatOf_trim hs hB fun c hc => hkeep s c hs hc)]
  exact congrArg some ((evol_write _ ct cid md k s).of_revoked hr)

theorem deadO2_of_revokedIn {e : Entry} {k : Nat} (hn : KeysNodup e.o2s) (h : RevokedIn e.o2s k) :
    DeadO2 e k := by
  obtain ⟨s, hs, hr⟩ := h
  intro s' hs'
  have := lookup_eq_some_of_mem hn hs'
  rw [hs] at this; cases this
  exact hr

theorem deadUat_of_uatRevoked {e : Entry} {k : Nat} (hn : ∀ m, e.uats = some m → KeysNodup m)
    (h : UatRevoked e k) : DeadUat e k := by
  obtain ⟨s, hs, hr⟩ := h
  obtain ⟨m, hm, hl⟩ := uatOf_eq_some.mp hs
  rintro s' ⟨m', hm', hmem⟩
  rw [hm] at hm'; cases hm'
  have := lookup_eq_some_of_mem (hn m hm) hmem
  rw [hl] at this; cases this
  exact hr

theorem deadO2_revokeO2_write (e : Entry) (ct cid k : Nat) :
    DeadO2 (Kanidm.SessionPlugin.step e (.write (.revokeO2 k) ct cid)) k := by
  intro s' hs'
  obtain ⟨s1, hm1, rfl⟩ := mem_plugin_o2s.mp hs'
  rcases mem_applyMod_o2s.mp hm1 with ⟨s0, _, rfl⟩ | ⟨_, _, _, hmd, _⟩
  · obtain ⟨c, hc⟩ := revoke_revoked cid s0
    rw [modO2_revokeO2, o2Post_of_revoked hc]
    exact ⟨c, hc⟩
  · cases hmd

/-- Everything under a dead OAuth2 session id fails the validity test once the token's grace window
has passed: a revoked session at once, a session the trim has dropped like any session not on record. -/
theorem deadO2_not_valid {e : Entry} {sid : Nat} (h : DeadO2 e sid) (parent : Option Nat) {iat ct : Nat}
    (hg : iat * 1000000000 + fiveMinutesNs ≤ ct) : acctValid e sid parent iat ct = false := by
  cases hv : acctValid e sid parent iat ct with
  | false => rfl
  | true =>
    obtain ⟨_, ⟨o, ho, hlo, _⟩ | ⟨_, hn⟩⟩ := (acctValid_true_iff e sid parent iat ct).mp hv
    · exact absurd (h.of_lookup ho) hlo.1
    · omega

theorem deadUat_not_valid {e : Entry} {p : Nat} (h : DeadUat e p) (hapi : p ∉ e.apis) (sid : Nat)
    {iat ct : Nat} (hg : iat * 1000000000 + fiveMinutesNs ≤ ct) :
    acctValid e sid (some p) iat ct = false := by
  rw [acctValid_eq_o2Check]
  exact orphan_oauth2_unusable_after_grace e sid p iat ct hg h.not_live hapi

/-- A write that grants OAuth2 session `sid` again with a later expiry, over a record that is not
revoked: the trim keeps the record, the grant replaces it, and the plugin leaves `issued_at` alone. -/
theorem grant_stamps_issued {e : Entry} {sid : Nat} {s : Sess} (hs : lookup e.o2s sid = some s)
    (hlive : ¬ Revoked s) {exp : Nat} (hext : ∀ x, s.state = .expiresAt x → x < exp)
    (parent : Option Nat) (ct cid : Nat) :
    ∃ s', lookup (Kanidm.SessionPlugin.step e (.write (.grant sid parent (some exp) ct) ct cid)).o2s sid = some s' ∧
      s'.issued = ct := by
  have hrep : Kanidm.Gen.SessionPlugin.o2InsertReplaces (SState.cmp (.expiresAt exp) s.state) = true := by
    cases hst : s.state with
    | revokedAt c => exact absurd ⟨c, hst⟩ hlive
    | neverExpires => simp [SState.cmp, Kanidm.Gen.SessionPlugin.o2InsertReplaces]
    | expiresAt x =>
      simp only [SState.cmp, Kanidm.Gen.SessionPlugin.o2InsertReplaces, beq_iff_eq]
      exact Nat.compare_eq_gt.mpr (hext x hst)
  refine ⟨_, lookup_write_o2s _ ct cid hs fun c hc => absurd ⟨c, hc⟩ hlive, ?_⟩
  rw [o2Post_issued]
  exact congrArg Sess.issued (if_pos ⟨rfl, hrep⟩)

end Kanidm.OAuth2.Token
