import KanidmModel.Bearer
import KanidmProofs.Lemmas.Window
/-!
The vocabulary C32's theorems are stated in, and the lemmas under them: the specification
predicates (plain arithmetic, no generated operator on the right-hand sides — so that a changed
comparison or constant in the source breaks a proof instead of silently re-stating the theorem),
the decision tables of the single checks, and
`validate` read as parser followed by account check.
-/
namespace Kanidm.Bearer
open Kanidm.Gen.Bearer

/-- The key is known to the domain key object and not revoked. -/
def KeyOk (w : World) (k : Nat) : Prop := w.keys k = some false

def InWindow (acc : Account) (ct : Nat) : Prop :=
  (∀ v, acc.validFrom = some v → v ≤ ct) ∧ (∀ x, acc.expire = some x → ct ≤ x)

/-- The recorded session state is consistent with the token's expiry and not revoked. -/
def SessionLive (st : SState) (uexp : Option Nat) : Prop :=
  (∃ e, st = .expiresAt e ∧ uexp = some e) ∨ (st = .neverExpires ∧ uexp = none)

/-- Strictly inside the five-minute grace window after issue (nanoseconds, literal). -/
def InGrace (issuedAt ct : Nat) : Prop := ct < issuedAt + 300 * 1000000000

def Recorded (acc : Account) (sid : Nat) (uexp : Option Nat) : Prop :=
  ∃ s, acc.sessions sid = some s ∧ SessionLive s.state uexp

theorem graceWindow_eq : graceWindow = 300 * 1000000000 := by decide

theorem jwsVerify_iff (w : World) (t : Token) :
    jwsVerify w t = true ↔ KeyOk w t.kid ∧ t.sigok = true := by
  unfold jwsVerify KeyOk
  cases h : w.keys t.kid with
  | none => simp
  | some b => cases b <;> simp

theorem withinWindow_iff (acc : Account) (ct : Nat) :
    withinWindow acc ct = true ↔ InWindow acc ct :=
  optBounds_iff (R := (· ≤ ·)) acc.validFrom acc.expire ct

theorem SessionLive_iff (st : SState) (uexp : Option Nat) : SessionLive st uexp ↔ st = stateOf uexp := by
  cases uexp <;> simp [SessionLive, stateOf]

theorem recorded_iff (acc : Account) (sid : Nat) (uexp : Option Nat) :
    Recorded acc sid uexp ↔ ∃ v, acc.sessions sid = some v ∧ v.state = stateOf uexp := by
  simp only [Recorded, SessionLive_iff]

theorem stateOf_ne_revoked (uexp : Option Nat) : stateOf uexp ≠ .revokedAt := by
  cases uexp <;> exact SState.noConfusion

theorem stateOf_injective {e e' : Option Nat} (h : stateOf e = stateOf e') : e = e' := by
  cases e <;> cases e' <;> cases h <;> rfl

theorem sessionArms_eval (st : SState) (uexp : Option Nat) :
    evalArms uatSessionExpEq uatSessionArms st uexp = some (decide (st = stateOf uexp)) := by
  cases st <;> cases uexp <;>
    simp [uatSessionArms, evalArms, Arm.fires, StPat.matches, ExpPat.matches, guardHolds,
      uatSessionExpEq, stateOf]
  split <;> simp [*]

theorem sessionArms_total (st : SState) (uexp : Option Nat) :
    evalArms uatSessionExpEq uatSessionArms st uexp ≠ none := by
  rw [sessionArms_eval]; exact Option.some_ne_none _

/-- The arm table in the property's terms (a changed arm result or order breaks it). -/
theorem sessionArms_iff (st : SState) (uexp : Option Nat) :
    evalArms uatSessionExpEq uatSessionArms st uexp = some true ↔ SessionLive st uexp := by
  rw [sessionArms_eval, SessionLive_iff, Option.some.injEq, decide_eq_true_iff]

theorem uatNoSession_iff (ct iat : Nat) :
    uatNoSession ct (uatGrace iat graceWindow) = true ↔ InGrace iat ct := by
  unfold uatNoSession uatGrace InGrace
  rw [graceWindow_eq]
  by_cases h : ct ≥ iat + 300 * 1000000000 <;> simp [h] <;> omega

theorem apitNoSession_iff (ct iat : Nat) :
    apitNoSession ct (apitGrace iat graceWindow) = true ↔ InGrace iat ct := by
  unfold apitNoSession apitGrace InGrace
  rw [graceWindow_eq]
  by_cases h : ct ≥ iat + 300 * 1000000000 <;> simp [h] <;> omega

theorem checkUat_iff (ct uuid sid iat : Nat) (exp : Option Nat) (acc : Account) :
    checkUat ct uuid sid iat exp acc = true ↔
      InWindow acc ct ∧
        (uuid = anonymous ∨
          (uuid ≠ anonymous ∧
            ((Recorded acc sid exp) ∨ (acc.sessions sid = none ∧ InGrace iat ct)))) := by
  unfold checkUat
  rw [← withinWindow_iff]
  cases withinWindow acc ct with
  | false => simp
  | true =>
    by_cases ha : uuid = anonymous
    · simp [ha, uatIsAnonymous, uatAnonymousResult]
    · cases hs : acc.sessions sid with
      | none => simp [ha, uatIsAnonymous, Recorded, hs, uatNoSession_iff]
      | some v => simp [ha, uatIsAnonymous, Recorded, hs, sessionArms_eval, SessionLive_iff]

theorem checkApit_iff (ct tid iat : Nat) (acc : Account) :
    checkApit ct tid iat acc = true ↔
      InWindow acc ct ∧ ((acc.apiTokens tid).isSome = true ∨
        (acc.apiTokens tid = none ∧ InGrace iat ct)) := by
  unfold checkApit
  rw [← withinWindow_iff]
  cases withinWindow acc ct with
  | false => simp
  | true =>
    cases hs : acc.apiTokens tid with
    | none => simp [apitNoSession_iff]
    | some r => simp [apitSessionPresentResult]

theorem validate_of_not_verified {w : World} {t : Token} (ct : Nat) (h : jwsVerify w t = false) :
    validate w t ct = .notAuthenticated := by
  simp [validate, parseToken, h]

theorem processUat_ident_iff (w : World) (ct u sid iat : Nat) (exp : Option Nat) (a' s' : Nat) :
    processUat w ct u sid iat exp = .ident a' s' ↔
      a' = u ∧ s' = sid ∧ ∃ acc, w.accounts u = some acc ∧ checkUat ct u sid iat exp acc = true := by
  unfold processUat
  cases w.accounts u with
  | none => simp
  | some acc =>
    by_cases hc : checkUat ct u sid iat exp acc = true <;> simp [hc, eq_comm (a := a'), eq_comm (a := s')]

theorem processApit_ident_iff (w : World) (ct a tid iat a' s' : Nat) :
    processApit w ct a tid iat = .ident a' s' ↔
      a' = a ∧ s' = tid ∧ ∃ acc, w.accounts a = some acc ∧ checkApit ct tid iat acc = true := by
  unfold processApit
  cases w.accounts a with
  | none => simp
  | some acc =>
    by_cases hc : checkApit ct tid iat acc = true <;> simp [hc, eq_comm (a := a'), eq_comm (a := s')]

theorem validate_uat_ident_iff (w : World) (k : Nat) (sig : Bool) (a s iat : Nat) (exp : Option Nat)
    (ct a' s' : Nat) :
    validate w ⟨k, sig, .uat a s iat exp⟩ ct = .ident a' s' ↔
      jwsVerify w ⟨k, sig, .uat a s iat exp⟩ = true ∧ (∀ e, exp = some e → ct < e) ∧
        processUat w ct a s iat exp = .ident a' s' := by
  unfold validate parseToken
  cases jwsVerify w ⟨k, sig, .uat a s iat exp⟩ with
  | false => simp
  | true =>
    cases exp with
    | none => simp
    | some e =>
      by_cases he : e ≤ ct
      · simp [uatExpired, he, Nat.not_lt.mpr he]
      · simp [uatExpired, he, Nat.lt_of_not_le he]

theorem validate_apit_ident_iff (w : World) (k : Nat) (sig : Bool) (a tid iat : Nat)
    (exp : Option Nat) (ct a' s' : Nat) :
    validate w ⟨k, sig, .apit a tid iat exp⟩ ct = .ident a' s' ↔
      jwsVerify w ⟨k, sig, .apit a tid iat exp⟩ = true ∧ (∀ e, exp = some e → ct < e) ∧
        processApit w ct a tid iat = .ident a' s' := by
  unfold validate parseToken
  cases jwsVerify w ⟨k, sig, .apit a tid iat exp⟩ with
  | false => simp
  | true =>
    cases exp with
    | none => cases hacc : w.accounts a <;> simp [processApit, hacc]
    | some e =>
      by_cases he : e ≤ ct
      · simp [apitExpired, he, Nat.not_lt.mpr he]
      · cases hacc : w.accounts a <;> simp [apitExpired, he, Nat.lt_of_not_le he, processApit, hacc]

theorem validate_apic_ident_iff (w : World) (k : Nat) (sig : Bool) (sid ct a' s' : Nat) :
    validate w ⟨k, sig, .apic sid⟩ ct = .ident a' s' ↔
      jwsVerify w ⟨k, sig, .apic sid⟩ = true ∧
        ∃ a acc r, findApiOwner w sid = some a ∧ w.accounts a = some acc ∧
          acc.apiTokens sid = some r ∧ (∀ e, r.expiry = some e → ct < e) ∧
          processApit w ct a sid r.issuedAt = .ident a' s' := by
  unfold validate parseToken
  cases jwsVerify w ⟨k, sig, .apic sid⟩ with
  | false => simp
  | true =>
    simp only [Bool.not_true, Bool.false_eq_true, if_false, true_and]
    constructor
    · intro h
      cases ho : findApiOwner w sid with
      | none => simp [ho] at h
      | some a =>
        cases hacc : w.accounts a with
        | none => simp [ho, hacc] at h
        | some acc =>
          cases hr : acc.apiTokens sid with
          | none => simp [ho, hacc, hr] at h
          | some r =>
            simp only [ho, hacc, hr] at h
            refine ⟨a, acc, r, rfl, hacc, hr, ?_⟩
            cases hx : r.expiry with
            | none => exact ⟨fun e he => (nomatch he), by simpa [hx] using h⟩
            | some e =>
              by_cases he : e ≤ ct
              · simp [hx, apicExpired, he] at h
              · exact ⟨fun e' he' => by cases he'; omega, by simpa [hx, apicExpired, he] using h⟩
    · rintro ⟨a, acc, r, ho, hacc, hr, he, hp⟩
      cases hx : r.expiry with
      | none => simpa [ho, hacc, hr, hx] using hp
      | some e =>
        have : ¬ e ≤ ct := Nat.not_le.mpr (he e hx)
        simpa [ho, hacc, hr, hx, apicExpired, this] using hp

end Kanidm.Bearer
