import KanidmModel.Migration
import KanidmProofs.Lemmas.Keyed
/-! C48: what the assert list of a definition does to one attribute. `gen_modlist_assert` is given in closed
form (`assertMods` over `assertedPairs`); an attribute is then either named by no pair (untouched) or, the
attributes of a definition being distinct, by exactly one: the list is split there. At the end, for the create
arm: `mergeCreateOnce` leaves the lookup of every attribute but `member` and `member_create_once` alone. -/
namespace Kanidm.Migration
open Kanidm.Gen.Migration

def keys (d : Def) : List Nat := d.map (·.1)

theorem applyMods_cons (e : Ent) (m : Mod) (ms : List Mod) :
    applyMods e (m :: ms) = applyMods (applyMod e m) ms := rfl

theorem applyMods_append (e : Ent) (ms ns : List Mod) :
    applyMods e (ms ++ ns) = applyMods (applyMods e ms) ns := by
  simp [applyMods, List.foldl_append]

theorem applyMod_other (e : Ent) (m : Mod) (a : Nat) (h : m.attr ≠ a) : applyMod e m a = e a := by
  cases m <;> exact if_neg fun hab => h hab.symm

theorem applyMods_other (e : Ent) (ms : List Mod) (a : Nat) (h : ∀ m ∈ ms, m.attr ≠ a) :
    applyMods e ms a = e a :=
  List.foldlRecOn ms applyMod (motive := fun e' => e' a = e a) rfl fun e' he m hm =>
    (applyMod_other e' m a (h m hm)).trans he

theorem applyMod_present_self (e : Ent) (k w v : Nat) :
    v ∈ applyMod e (.present k w) k ↔ v ∈ e k ∨ v = w := by
  by_cases hw : w ∈ e k
  · simp only [applyMod, if_true, hw]
    exact ⟨Or.inl, fun h => h.elim id fun h => h ▸ hw⟩
  · simp [applyMod, hw]

theorem mem_applyMods_present (e : Ent) (k : Nat) (vs : List Nat) (v : Nat) :
    v ∈ applyMods e (vs.map (Mod.present k)) k ↔ v ∈ e k ∨ v ∈ vs := by
  induction vs generalizing e with
  | nil => simp [applyMods]
  | cons w ws ih =>
    simp only [List.map_cons, applyMods_cons, ih, applyMod_present_self, List.mem_cons, or_assoc]

theorem modsFor_attr (r : Bool) (k : Nat) (vs : List Nat) : ∀ m ∈ modsFor r k vs, m.attr = k := by
  intro m hm
  unfold modsFor at hm
  rcases List.mem_append.mp hm with h | h
  · split at h
    · simp at h; subst h; rfl
    · simp at h
  · rcases List.mem_map.mp h with ⟨v, _, rfl⟩
    rfl

theorem modsFor_other (e : Ent) (r : Bool) (k : Nat) (vs : List Nat) (a : Nat) (h : a ≠ k) :
    applyMods e (modsFor r k vs) a = e a :=
  applyMods_other _ _ _ (fun m hm => by rw [modsFor_attr r k vs m hm]; exact fun hk => h hk.symm)

theorem mem_modsFor_self (e : Ent) (r : Bool) (k : Nat) (vs : List Nat) (v : Nat) :
    v ∈ applyMods e (modsFor r k vs) k ↔
      (if purgeWhen r (forcePurgeAttrs.contains k) then v ∈ vs else (v ∈ e k ∨ v ∈ vs)) := by
  unfold modsFor
  split
  · rw [List.cons_append, List.nil_append, applyMods_cons, mem_applyMods_present]
    simp [applyMod]
  · rw [List.nil_append, mem_applyMods_present]

/-- the pairs of a definition `gen_modlist_assert` emits modifications for -/
def assertedPairs (d : Def) : Def := d.filter fun p => p.1 != attrUuid

theorem assertedPairs_cons (k : Nat) (vs : List Nat) (rest : Def) :
    assertedPairs ((k, vs) :: rest) =
      if k = attrUuid then assertedPairs rest else (k, vs) :: assertedPairs rest := by
  unfold assertedPairs
  rw [List.filter_cons]
  split <;> simp_all

/-- the modifications emitted for a list of pairs when `R` is the schema's multi-value answer -/
def assertMods (R : Nat → Bool) (l : Def) : List Mod := l.flatMap fun p => modsFor (R p.1) p.1 p.2

theorem assertMods_cons (R : Nat → Bool) (k : Nat) (vs : List Nat) (l : Def) :
    assertMods R ((k, vs) :: l) = modsFor (R k) k vs ++ assertMods R l := List.flatMap_cons

theorem assertMods_append (R : Nat → Bool) (s t : Def) :
    assertMods R (s ++ t) = assertMods R s ++ assertMods R t := List.flatMap_append

theorem genModlistAssert_eq (multi : Nat → Option Bool) (d : Def) :
    genModlistAssert multi d =
      if (assertedPairs d).all (fun p => (multi p.1).isSome) then
        some (assertMods (fun k => (multi k).getD false) (assertedPairs d))
      else none := by
  induction d with
  | nil => rfl
  | cons p rest ih =>
    obtain ⟨k, vs⟩ := p
    rw [genModlistAssert, ih, assertedPairs_cons]
    by_cases hk : k = attrUuid
    · rw [if_pos (by simp [skipUuid, hk]), if_pos hk]
    · rw [if_neg (by simp [skipUuid, hk]), if_neg hk, List.all_cons, assertMods_cons]
      cases multi k with
      | none => rfl
      | some r =>
        simp only [Option.isSome_some, Bool.true_and, Option.getD_some]
        by_cases hall : ((assertedPairs rest).all fun p => (multi p.1).isSome) = true
        · rw [if_pos hall, if_pos hall]
        · rw [if_neg hall, if_neg hall]

theorem assertMods_other (R : Nat → Bool) (l : Def) (e : Ent) (a : Nat) (h : a ∉ keys l) :
    applyMods e (assertMods R l) a = e a :=
  applyMods_other _ _ _ fun m hm hma => by
    obtain ⟨p, hp, hm⟩ := List.mem_flatMap.1 hm
    exact h (hma ▸ modsFor_attr _ _ _ m hm ▸ List.mem_map_of_mem hp)

theorem mem_assertMods_self (R : Nat → Bool) (l : Def) (e : Ent) (hnd : (keys l).Nodup) {a : Nat}
    {vs : List Nat} (ha : (a, vs) ∈ l) (v : Nat) :
    v ∈ applyMods e (assertMods R l) a ↔
      (if purgeWhen (R a) (forcePurgeAttrs.contains a) then v ∈ vs else (v ∈ e a ∨ v ∈ vs)) := by
  obtain ⟨s, t, rfl⟩ := List.append_of_mem ha
  rw [keys, List.map_append, List.map_cons, List.nodup_append] at hnd
  obtain ⟨_, ht, hst⟩ := hnd
  rw [assertMods_append, assertMods_cons, applyMods_append, applyMods_append,
    assertMods_other R t _ a (List.nodup_cons.1 ht).1, mem_modsFor_self,
    assertMods_other R s e a fun h => hst a h a List.mem_cons_self rfl]

theorem mem_strip_iff {d : Def} {p : Nat × List Nat} :
    p ∈ stripForMigrate d ↔ p ∈ d ∧ p.1 ≠ attrMemberCreateOnce ∧ p.1 ∉ ignoreAttrs := by
  simp [stripForMigrate]

/-- what the migrate arm asserts of a definition: `stripForMigrate`, then the uuid skip -/
theorem mem_asserted_strip {d : Def} {p : Nat × List Nat} :
    p ∈ assertedPairs (stripForMigrate d) ↔
      p ∈ d ∧ p.1 ≠ attrUuid ∧ p.1 ≠ attrMemberCreateOnce ∧ p.1 ∉ ignoreAttrs := by
  rw [assertedPairs, List.mem_filter, mem_strip_iff, bne_iff_ne]
  exact ⟨fun ⟨⟨h1, h2⟩, h3⟩ => ⟨h1, h3, h2⟩, fun ⟨h1, h3, h2⟩ => ⟨⟨h1, h2⟩, h3⟩⟩

theorem keys_asserted_strip_nodup {d : Def} (h : (keys d).Nodup) :
    (keys (assertedPairs (stripForMigrate d))).Nodup :=
  ((List.filter_sublist.trans List.filter_sublist).map _).nodup h

theorem genModlistAssert_some {multi : Nat → Option Bool} {d : Def} {ms : List Mod}
    (h : genModlistAssert multi d = some ms) :
    (∀ p ∈ assertedPairs d, ∃ r, multi p.1 = some r) ∧
      ms = assertMods (fun k => (multi k).getD false) (assertedPairs d) := by
  rw [genModlistAssert_eq] at h
  obtain ⟨hall, rfl⟩ := Option.ite_some_none_eq_some.mp h
  exact ⟨fun p hp => Option.isSome_iff_exists.1 (List.all_eq_true.1 hall p hp), rfl⟩

theorem lookup_map_member_ne (d : Def) (w : List Nat) (a : Nat) (h : a ≠ attrMember) :
    (d.map (fun p => if p.1 == attrMember then (p.1, w) else p)).lookup a = d.lookup a := by
  induction d with
  | nil => rfl
  | cons p rest ih =>
    obtain ⟨k, ws⟩ := p
    rw [List.map_cons]
    split
    · next hk =>
      cases (eq_of_beq hk : k = attrMember)
      rw [List.lookup_cons, List.lookup_cons, ih, beq_false_of_ne h]
    · rw [List.lookup_cons, List.lookup_cons, ih]

theorem mergeCreateOnce_lookup (d : Def) (a : Nat) (h1 : a ≠ attrMemberCreateOnce)
    (h2 : a ≠ attrMember) : (mergeCreateOnce d).lookup a = d.lookup a := by
  unfold mergeCreateOnce
  split
  · rfl
  · simp only
    split
    · rw [lookup_map_member_ne _ _ a h2, lookup_filter_ne d h1]
    · rw [List.lookup_append, List.lookup_cons, beq_false_of_ne h2, lookup_filter_ne d h1]
      exact Option.or_none

end Kanidm.Migration
