import KanidmModel.Bearer
/-!
C32 — the write side over arbitrary histories (`run`/`step`):

* `Inv`: what holds of every searchable entry after a history from the empty server — its uuid is
  registered; a session that is present and not revoked was issued with the credential the entry has
  now and was put there by a `record` event after which no event killed it (`LiveHist`: revocation,
  deletion of the account, a credential change that drops the issuing credential, or a write to the
  account at or after the session's expiry); an api-token record that is present was put there by an
  `apiIssue` event after which it was neither destroyed nor its account deleted (`ApiHist`).
* revoked sessions and deleted accounts (`Dead`) and revoked keys stay that way, from any world.
-/
namespace Kanidm.Bearer
open Kanidm.Gen.Bearer

/-- The time at which `op` modifies the entry of account `a` (so that the consistency plugin runs
on it), if it does. -/
def Op.touchTime (a : Nat) : Op → Option Nat
  | .record a' _ _ _ t => if a' = a then some t else none
  | .revoke a' _ t => if a' = a then some t else none
  | .setCred a' _ t => if a' = a then some t else none
  | .setValid a' _ _ t => if a' = a then some t else none
  | .apiIssue a' _ _ _ t => if a' = a then some t else none
  | .apiDestroy a' _ t => if a' = a then some t else none
  | _ => none

/-- Does `op` end the life of session `s` of account `a` (issued with credential `c`, recorded
in state `st`)? -/
def kills (op : Op) (a s c : Nat) (st : SState) : Bool :=
  (match op with
   | .revoke a' s' _ => decide (a' = a ∧ s' = s)
   | .delete a' => decide (a' = a)
   | .setCred a' c' _ => decide (a' = a ∧ c' ≠ some c)
   | _ => false)
  || (match op.touchTime a, st with
      | some t, .expiresAt e => decide (e ≤ t)
      | _, _ => false)

/-- Does `op` remove the api-token record `tid` of account `a`? -/
def killsApi (op : Op) (a tid : Nat) : Bool :=
  match op with
  | .apiDestroy a' tid' _ => decide (a' = a ∧ tid' = tid)
  | .delete a' => decide (a' = a)
  | _ => false

/-- Newest event first: only events that `kill` lets pass, then an event satisfying `written`. -/
def KeptSince (written : Op → Prop) (kill : Op → Bool) (h : List Op) : Prop :=
  ∃ later op earlier, h = later ++ op :: earlier ∧ written op ∧ ∀ o ∈ later, kill o = false

theorem KeptSince.wrote {written : Op → Prop} {kill : Op → Bool} {op : Op} (h : List Op)
    (hw : written op) : KeptSince written kill (op :: h) :=
  ⟨[], op, h, rfl, hw, fun _ ho => nomatch ho⟩

theorem KeptSince.kept {written : Op → Prop} {kill : Op → Bool} {h : List Op} {op : Op}
    (hk : KeptSince written kill h) (hkill : kill op = false) : KeptSince written kill (op :: h) :=
  let ⟨later, w, earlier, heq, hw, hall⟩ := hk
  ⟨op :: later, w, earlier, congrArg (op :: ·) heq, hw, List.forall_mem_cons.mpr ⟨hkill, hall⟩⟩

def LiveHist (h : List Op) (a s c : Nat) (st : SState) : Prop :=
  KeptSince (fun op => ∃ e t, op = .record a s c e t ∧ st = stateOf e) (fun op => kills op a s c st) h

def ApiHist (h : List Op) (a tid : Nat) (r : ApiRec) : Prop :=
  KeptSince (fun op => ∃ t, op = .apiIssue a tid r.expiry r.issuedAt t)
    (fun op => killsApi op a tid) h

theorem sweep_live {cred : Option Nat} {t : Nat} {v : Session}
    (h : (sweepSession cred t v).state ≠ .revokedAt) :
    sweepSession cred t v = v ∧ cred = some v.cred ∧
      ∀ e, v.state = .expiresAt e → ¬ e ≤ t := by
  revert h
  fun_cases sweepSession cred t v
  case case1 hs => exact fun h => absurd hs h  -- already revoked: untouched
  case case2 hs hc =>  -- never expires, credential still there: kept
    exact fun _ => ⟨rfl, hc, fun e he => nomatch hs.symm.trans he⟩
  case case5 e0 hs hc hx =>  -- expires later, credential still there: kept
    refine fun _ => ⟨rfl, hc, fun e he => ?_⟩
    cases hs.symm.trans he
    simpa [sweepExpired] using hx
  all_goals exact fun h => absurd rfl h  -- credential gone, or expired: revoked now

theorem sweep_revoked {cred : Option Nat} {t : Nat} {v : Session}
    (h : v.state = .revokedAt) : (sweepSession cred t v).state = .revokedAt := by
  unfold sweepSession; simp [h]

theorem touch_sessions (acc : Account) (t s : Nat) :
    (touch acc t).sessions s = (acc.sessions s).map (sweepSession acc.cred t) := rfl

theorem touch_api (acc : Account) (t : Nat) : (touch acc t).apiTokens = acc.apiTokens := rfl

theorem touch_cred (acc : Account) (t : Nat) : (touch acc t).cred = acc.cred := rfl

theorem of_vacantInsert_eq_some {α : Type} {g : Nat → Option α} {s k : Nat} {v x : α}
    (h : (if k = s then some ((g s).getD v) else g k) = some x) :
    g k = some x ∨ (k = s ∧ g s = none ∧ x = v) := by
  by_cases hk : k = s
  · subst hk
    rw [if_pos rfl] at h
    cases hg : g k with
    | none => rw [hg] at h; exact Or.inr ⟨rfl, rfl, (Option.some.inj h).symm⟩
    | some y => rw [hg] at h; exact Or.inl h
  · rw [if_neg hk] at h
    exact Or.inl h

theorem insertSession_sessions (acc : Account) (s : Nat) (v : Session) (k : Nat) :
    (insertSession acc s v).sessions k =
      if k = s then some ((acc.sessions s).getD v) else acc.sessions k := by
  unfold insertSession
  cases h : acc.sessions s with
  | none => rfl
  | some v0 => by_cases hk : k = s <;> simp [hk, h]

theorem insertSession_apiTokens (acc : Account) (s : Nat) (v : Session) :
    (insertSession acc s v).apiTokens = acc.apiTokens := by
  unfold insertSession; split <;> rfl

theorem removeSession_sessions (acc : Account) (s k : Nat) :
    (removeSession acc s).sessions k =
      if k = s then (acc.sessions s).map revokeSession else acc.sessions k := by
  unfold removeSession
  cases h : acc.sessions s with
  | none => by_cases hk : k = s <;> simp [hk, h]
  | some v0 => rfl

theorem removeSession_apiTokens (acc : Account) (s : Nat) :
    (removeSession acc s).apiTokens = acc.apiTokens := by
  unfold removeSession; split <;> rfl

theorem insertApi_apiTokens (acc : Account) (tid : Nat) (r : ApiRec) (k : Nat) :
    (insertApi acc tid r).apiTokens k =
      if k = tid then some ((acc.apiTokens tid).getD r) else acc.apiTokens k := by
  unfold insertApi
  cases h : acc.apiTokens tid with
  | none => rfl
  | some r0 => by_cases hk : k = tid <;> simp [hk, h]

theorem insertApi_sessions (acc : Account) (tid : Nat) (r : ApiRec) :
    (insertApi acc tid r).sessions = acc.sessions := by
  unfold insertApi; split <;> rfl

theorem removeApi_apiTokens (acc : Account) (tid k : Nat) :
    (removeApi acc tid).apiTokens k = if k = tid then none else acc.apiTokens k := rfl

theorem setAccount_accounts (w : World) (a : Nat) (acc : Account) (k : Nat) :
    (setAccount w a acc).accounts k = if k = a then some acc else w.accounts k := rfl

theorem modifyAccount_accounts (w : World) (a t : Nat) (f : Account → Account) (k : Nat) :
    (modifyAccount w a t f).accounts k =
      if k = a then (w.accounts a).map (fun acc => touch (f acc) t) else w.accounts k := by
  unfold modifyAccount
  cases h : w.accounts a with
  | none => by_cases hk : k = a <;> simp [hk, h]
  | some acc => rfl

theorem modifyAccount_keys (w : World) (a t : Nat) (f : Account → Account) :
    (modifyAccount w a t f).keys = w.keys := by
  unfold modifyAccount; cases w.accounts a <;> rfl

theorem modifyAccount_ids (w : World) (a t : Nat) (f : Account → Account) :
    (modifyAccount w a t f).ids = w.ids := by
  unfold modifyAccount; cases w.accounts a <;> rfl

theorem step_addAccount_old {w : World} {a0 : Nat} (c0 : Option Nat) (h : a0 ∈ w.ids) :
    step w (.addAccount a0 c0) = w := by
  have : w.ids.contains a0 = true := by simpa using h
  simp only [step, this, if_true]

theorem step_addAccount_new {w : World} {a0 : Nat} (c0 : Option Nat) (h : a0 ∉ w.ids) :
    step w (.addAccount a0 c0) =
      { accounts := fun k => if k = a0 then some ⟨none, none, c0, fun _ => none, fun _ => none⟩
                             else w.accounts k,
        ids := w.ids ++ [a0], keys := w.keys } := by
  have : ¬ w.ids.contains a0 = true := by simpa using h
  simp only [step, this, Bool.false_eq_true, if_false]; rfl

theorem step_keyAdd_accounts (w : World) (k : Nat) : (step w (.keyAdd k)).accounts = w.accounts := by
  simp only [step]; cases w.keys k <;> rfl

theorem step_keyAdd_ids (w : World) (k : Nat) : (step w (.keyAdd k)).ids = w.ids := by
  simp only [step]; cases w.keys k <;> rfl

/-- The account `op` modifies through `modifyAccount`, with time and entry transformer. -/
def Op.asModify : Op → Option (Nat × Nat × (Account → Account))
  | .record a s c e t => some (a, t, fun acc => insertSession acc s ⟨stateOf e, c⟩)
  | .revoke a s t => some (a, t, fun acc => removeSession acc s)
  | .setCred a c t => some (a, t, fun acc => { acc with cred := c })
  | .setValid a vf ex t => some (a, t, fun acc => { acc with validFrom := vf, expire := ex })
  | .apiIssue a tid e iat t => some (a, t, fun acc => insertApi acc tid ⟨e, iat⟩)
  | .apiDestroy a tid t => some (a, t, fun acc => removeApi acc tid)
  | _ => none

theorem step_asModify {op : Op} {a t : Nat} {f : Account → Account}
    (h : op.asModify = some (a, t, f)) (w : World) : step w op = modifyAccount w a t f := by
  cases op <;> cases h <;> rfl

theorem touchTime_of_asModify {op : Op} {a t : Nat} {f : Account → Account}
    (h : op.asModify = some (a, t, f)) (k : Nat) :
    op.touchTime k = if a = k then some t else none := by
  cases op <;> cases h <;> rfl

theorem kills_other_account {op : Op} {a t : Nat} {f : Account → Account}
    (hm : op.asModify = some (a, t, f)) {k : Nat} (hk : k ≠ a) (s c : Nat) (st : SState) :
    kills op k s c st = false := by
  have hak : ¬ a = k := fun h => hk h.symm
  unfold kills
  rw [touchTime_of_asModify hm k, if_neg hak]
  cases op with
  | revoke a' s' t' => cases hm; exact Bool.or_eq_false_iff.mpr ⟨decide_eq_false fun h => hak h.1, rfl⟩
  | setCred a' c' t' => cases hm; exact Bool.or_eq_false_iff.mpr ⟨decide_eq_false fun h => hak h.1, rfl⟩
  | record _ _ _ _ _ | setValid _ _ _ _ | apiIssue _ _ _ _ _ | apiDestroy _ _ _ => rfl
  | _ => cases hm

theorem killsApi_other_account {op : Op} {a t : Nat} {f : Account → Account}
    (hm : op.asModify = some (a, t, f)) {k : Nat} (hk : k ≠ a) (tid : Nat) :
    killsApi op k tid = false := by
  cases op with
  | apiDestroy a' tid' t' => cases hm; exact decide_eq_false fun h => hk h.1.symm
  | record _ _ _ _ _ | revoke _ _ _ | setCred _ _ _ | setValid _ _ _ _ | apiIssue _ _ _ _ _ => rfl
  | _ => cases hm

theorem asModify_live_session {op : Op} {a t : Nat} {f : Account → Account}
    (hm : op.asModify = some (a, t, f)) {acc : Account} {s : Nat} {v : Session}
    (hs : (f acc).sessions s = some v) (hv : v.state ≠ .revokedAt)
    (hc : (f acc).cred = some v.cred) (hx : ∀ e, v.state = .expiresAt e → ¬ e ≤ t) :
    (acc.sessions s = some v ∧ kills op a s v.cred v.state = false) ∨
    ∃ e, op = .record a s v.cred e t ∧ v.state = stateOf e := by
  -- `kills` is the event's own test or the plugin's expiry sweep; the sweep part is `hx`
  have hsweep : (match op.touchTime a, v.state with
      | some t, .expiresAt e => decide (e ≤ t)
      | _, _ => false) = false := by
    rw [touchTime_of_asModify hm a, if_pos rfl]
    cases hst : v.state with
    | expiresAt e => exact decide_eq_false (hx e hst)
    | _ => rfl
  cases op with
  | record a' s' c' e' t' =>
    cases hm
    rw [insertSession_sessions] at hs
    rcases of_vacantInsert_eq_some hs with hp | ⟨rfl, _, rfl⟩
    · exact Or.inl ⟨hp, Bool.or_eq_false_iff.mpr ⟨rfl, hsweep⟩⟩
    · exact Or.inr ⟨e', rfl, rfl⟩
  | revoke a' s' t' =>
    cases hm
    rw [removeSession_sessions] at hs
    by_cases hss : s = s'
    · subst hss
      rw [if_pos rfl] at hs
      obtain ⟨vp, _, rfl⟩ := Option.map_eq_some_iff.mp hs
      exact absurd rfl hv
    · rw [if_neg hss] at hs
      exact Or.inl ⟨hs, Bool.or_eq_false_iff.mpr ⟨decide_eq_false fun h => hss h.2.symm, hsweep⟩⟩
  | setCred a' c' t' =>
    cases hm
    obtain rfl : c' = some v.cred := hc
    exact Or.inl ⟨hs, Bool.or_eq_false_iff.mpr ⟨decide_eq_false fun h => h.2 rfl, hsweep⟩⟩
  | setValid a' vf ex t' => cases hm; exact Or.inl ⟨hs, Bool.or_eq_false_iff.mpr ⟨rfl, hsweep⟩⟩
  | apiIssue a' tid e' iat t' =>
    cases hm
    rw [insertApi_sessions] at hs
    exact Or.inl ⟨hs, Bool.or_eq_false_iff.mpr ⟨rfl, hsweep⟩⟩
  | apiDestroy a' tid t' => cases hm; exact Or.inl ⟨hs, Bool.or_eq_false_iff.mpr ⟨rfl, hsweep⟩⟩
  | _ => cases hm

theorem asModify_api {op : Op} {a t : Nat} {f : Account → Account}
    (hm : op.asModify = some (a, t, f)) {acc : Account} {tid : Nat} {r : ApiRec}
    (hr : (f acc).apiTokens tid = some r) :
    (acc.apiTokens tid = some r ∧ killsApi op a tid = false) ∨
    ∃ e iat, op = .apiIssue a tid e iat t ∧ r = ⟨e, iat⟩ := by
  cases op with
  | record a' s' c' e' t' => cases hm; rw [insertSession_apiTokens] at hr; exact Or.inl ⟨hr, rfl⟩
  | revoke a' s' t' => cases hm; rw [removeSession_apiTokens] at hr; exact Or.inl ⟨hr, rfl⟩
  | setCred a' c' t' => cases hm; exact Or.inl ⟨hr, rfl⟩
  | setValid a' vf ex t' => cases hm; exact Or.inl ⟨hr, rfl⟩
  | apiIssue a' tid' e' iat t' =>
    cases hm
    rw [insertApi_apiTokens] at hr
    rcases of_vacantInsert_eq_some hr with hp | ⟨rfl, _, rfl⟩
    · exact Or.inl ⟨hp, rfl⟩
    · exact Or.inr ⟨e', iat, rfl, rfl⟩
  | apiDestroy a' tid' t' =>
    cases hm
    rw [removeApi_apiTokens] at hr
    by_cases htt : tid = tid'
    · rw [if_pos htt] at hr; cases hr
    · rw [if_neg htt] at hr
      exact Or.inl ⟨hr, decide_eq_false fun h => htt h.2.symm⟩
  | _ => cases hm

theorem asModify_revoked {op : Op} {a t : Nat} {f : Account → Account}
    (hm : op.asModify = some (a, t, f)) {acc : Account} {s : Nat} {v : Session}
    (hs : acc.sessions s = some v) (hv : v.state = .revokedAt) :
    ∃ v', (f acc).sessions s = some v' ∧ v'.state = .revokedAt := by
  cases op with
  | record a' s' c' e' t' =>
    cases hm
    refine ⟨v, ?_, hv⟩
    rw [insertSession_sessions]
    by_cases hss : s = s'
    · subst hss; rw [if_pos rfl, hs]; rfl
    · rw [if_neg hss, hs]
  | revoke a' s' t' =>
    cases hm
    by_cases hss : s = s'
    · subst hss
      exact ⟨revokeSession v, by rw [removeSession_sessions, if_pos rfl, hs]; rfl, rfl⟩
    · exact ⟨v, by rw [removeSession_sessions, if_neg hss, hs], hv⟩
  | apiIssue a' tid e' iat t' => cases hm; exact ⟨v, by rw [insertApi_sessions, hs], hv⟩
  | setCred _ _ _ | setValid _ _ _ _ | apiDestroy _ _ _ => cases hm; exact ⟨v, hs, hv⟩
  | _ => cases hm

/-- The three ways the entry of account `a` comes out of an event; the step lemmas of `Inv` and
`Dead` are read off them. -/
theorem step_account {w : World} {op : Op} {a : Nat} {acc : Account}
    (h : (step w op).accounts a = some acc) :
    (∃ t f acc0, op.asModify = some (a, t, f) ∧ w.accounts a = some acc0 ∧ acc = touch (f acc0) t) ∨
    (w.accounts a = some acc ∧ (∀ s c st, kills op a s c st = false) ∧
      ∀ tid, killsApi op a tid = false) ∨
    (∃ c, op = .addAccount a c ∧ a ∉ w.ids ∧ acc = ⟨none, none, c, fun _ => none, fun _ => none⟩) := by
  cases hm : op.asModify with
  | some m =>
    obtain ⟨a0, t, f⟩ := m
    rw [step_asModify hm, modifyAccount_accounts] at h
    by_cases hk : a = a0
    · subst hk
      rw [if_pos rfl] at h
      obtain ⟨acc0, h0, rfl⟩ := Option.map_eq_some_iff.mp h
      exact Or.inl ⟨t, f, acc0, rfl, h0, rfl⟩
    · rw [if_neg hk] at h
      exact Or.inr (Or.inl ⟨h, kills_other_account hm hk, killsApi_other_account hm hk⟩)
  | none =>
    cases op with
    | addAccount a0 c0 =>
      by_cases hc : a0 ∈ w.ids
      · rw [step_addAccount_old c0 hc] at h
        exact Or.inr (Or.inl ⟨h, fun _ _ _ => rfl, fun _ => rfl⟩)
      · rw [step_addAccount_new c0 hc] at h
        by_cases hk : a = a0
        · subst hk
          exact Or.inr (Or.inr ⟨c0, rfl, hc, (Option.some.inj ((if_pos rfl).symm.trans h)).symm⟩)
        · exact Or.inr (Or.inl ⟨(if_neg hk).symm.trans h, fun _ _ _ => rfl, fun _ => rfl⟩)
    | delete a0 =>
      by_cases hk : a = a0
      · exact absurd ((if_pos hk).symm.trans h) (by simp)
      · have hne : ¬ a0 = a := fun h => hk h.symm
        exact Or.inr (Or.inl ⟨(if_neg hk).symm.trans h,
          fun _ _ _ => Bool.or_eq_false_iff.mpr ⟨decide_eq_false hne, rfl⟩, fun _ => decide_eq_false hne⟩)
    | keyAdd k0 =>
      rw [step_keyAdd_accounts] at h
      exact Or.inr (Or.inl ⟨h, fun _ _ _ => rfl, fun _ => rfl⟩)
    | keyRevoke k0 => exact Or.inr (Or.inl ⟨h, fun _ _ _ => rfl, fun _ => rfl⟩)
    | _ => cases hm

theorem step_key_revoked {w : World} {k : Nat} (h : w.keys k = some true) (op : Op) :
    (step w op).keys k = some true := by
  cases hm : op.asModify with
  | some m =>
    obtain ⟨a0, t, f⟩ := m
    rw [step_asModify hm, modifyAccount_keys]; exact h
  | none =>
    cases op with
    | addAccount a0 c0 =>
      by_cases hc : a0 ∈ w.ids
      · rw [step_addAccount_old c0 hc]; exact h
      · rw [step_addAccount_new c0 hc]; exact h
    | delete a0 => exact h
    | keyAdd k0 =>
      simp only [step]
      cases hk : w.keys k0 with
      | some b => exact h
      | none =>
        have hkk : k ≠ k0 := by intro hkk; subst hkk; rw [hk] at h; cases h
        exact (if_neg hkk).trans h
    | keyRevoke k0 =>
      by_cases hkk : k = k0
      · exact if_pos hkk
      · exact (if_neg hkk).trans h
    | _ => cases hm

/-- The uuid was created once and its entry is either gone or carries session `s` as revoked:
no token for `(a, s)` can be honoured, now or later. -/
def Dead (w : World) (a s : Nat) : Prop :=
  a ∈ w.ids ∧ (w.accounts a = none ∨
    ∃ acc v, w.accounts a = some acc ∧ acc.sessions s = some v ∧ v.state = .revokedAt)

theorem step_ids_mono {w : World} {a : Nat} (h : a ∈ w.ids) (op : Op) : a ∈ (step w op).ids := by
  cases hm : op.asModify with
  | some m =>
    obtain ⟨a0, t, f⟩ := m
    rw [step_asModify hm, modifyAccount_ids]; exact h
  | none =>
    cases op with
    | addAccount a0 c0 =>
      by_cases hc : a0 ∈ w.ids
      · rw [step_addAccount_old c0 hc]; exact h
      · rw [step_addAccount_new c0 hc]; exact List.mem_append_left _ h
    | keyAdd k0 => rw [step_keyAdd_ids]; exact h
    | delete _ | keyRevoke _ => exact h
    | _ => cases hm

theorem step_dead {w : World} {a s : Nat} (h : Dead w a s) (op : Op) : Dead (step w op) a s := by
  obtain ⟨hid, hd⟩ := h
  refine ⟨step_ids_mono hid op, ?_⟩
  cases hacc : (step w op).accounts a with
  | none => exact Or.inl rfl
  | some acc =>
    right
    rcases step_account hacc with ⟨t, f, acc0, hm, h0, rfl⟩ | ⟨h0, _, _⟩ | ⟨c, _, hnew, _⟩
    · rcases hd with hn | ⟨acc1, v, h1, hs, hv⟩
      · rw [h0] at hn; cases hn
      · rw [h0] at h1; cases h1
        obtain ⟨v', hs', hv'⟩ := asModify_revoked hm hs hv
        exact ⟨_, sweepSession (f acc0).cred t v', rfl, by rw [touch_sessions, hs']; rfl,
          sweep_revoked hv'⟩
    · rcases hd with hn | ⟨acc1, v, h1, hs, hv⟩
      · rw [h0] at hn; cases hn
      · rw [h0] at h1; cases h1
        exact ⟨acc, v, rfl, hs, hv⟩
    · exact absurd hid hnew

theorem dead_of_revoke {w : World} {u sid : Nat} (hid : u ∈ w.ids) {acc : Account} {v : Session}
    (hacc : w.accounts u = some acc) (hs : acc.sessions sid = some v) (t : Nat) :
    Dead (step w (.revoke u sid t)) u sid := by
  refine ⟨step_ids_mono hid _, Or.inr ?_⟩
  refine ⟨_, sweepSession (removeSession acc sid).cred t (revokeSession v),
    (modifyAccount_accounts _ u t _ u).trans (by rw [if_pos rfl, hacc]; rfl), ?_, sweep_revoked rfl⟩
  rw [touch_sessions, removeSession_sessions, if_pos rfl, hs]; rfl

theorem dead_of_delete {w : World} {u : Nat} (hid : u ∈ w.ids) (sid : Nat) :
    Dead (step w (.delete u)) u sid :=
  ⟨step_ids_mono hid _, Or.inl (if_pos rfl)⟩

theorem run_cons (w : World) (op : Op) (ops : List Op) : run w (op :: ops) = run (step w op) ops := rfl

theorem run_append (w : World) (xs ys : List Op) : run w (xs ++ ys) = run (run w xs) ys := by
  simp [run, List.foldl_append]

theorem run_inv {P : World → Prop} (hstep : ∀ {w}, P w → ∀ op, P (step w op)) {w : World} (h : P w)
    (ops : List Op) : P (run w ops) :=
  ops.foldlRecOn step h fun _ hw op _ => hstep hw op

/-- The history comes out newest first. -/
theorem run_inv_hist {P : World → List Op → Prop}
    (hstep : ∀ {w h}, P w h → ∀ op, P (step w op) (op :: h)) {w : World} {h : List Op} (hi : P w h)
    (ops : List Op) : P (run w ops) (ops.reverse ++ h) := by
  induction ops generalizing w h with
  | nil => exact hi
  | cons op rest ih =>
    rw [run_cons, List.reverse_cons, List.append_assoc]
    exact ih (hstep hi op)

/-- What holds of a searchable entry `acc` of account `a` after the events `h` (newest first) from
the empty server, `ids` being the uuids created so far. -/
structure AccInv (h : List Op) (ids : List Nat) (a : Nat) (acc : Account) : Prop where
  reg : a ∈ ids
  sess : ∀ s v, acc.sessions s = some v → v.state ≠ .revokedAt →
    acc.cred = some v.cred ∧ LiveHist h a s v.cred v.state
  api : ∀ tid r, acc.apiTokens tid = some r → ApiHist h a tid r

def Inv (w : World) (h : List Op) : Prop := ∀ a acc, w.accounts a = some acc → AccInv h w.ids a acc

theorem Inv.empty : Inv World.empty [] := fun _ _ hacc => nomatch hacc

theorem Inv.step {w : World} {h : List Op} (hi : Inv w h) (op : Op) : Inv (step w op) (op :: h) := by
  intro a acc hacc
  rcases step_account hacc with ⟨t, f, acc0, hm, h0, rfl⟩ | ⟨h0, hk, hka⟩ | ⟨c, rfl, hnew, rfl⟩
  · obtain ⟨hid, hsess, hapi⟩ := hi a acc0 h0
    refine ⟨step_ids_mono hid op, fun s v hs hv => ?_, fun tid r hr => ?_⟩
    · -- a session the plugin left alone: its credential is the entry's, its expiry lies ahead
      rw [touch_sessions] at hs
      obtain ⟨v0, hf, rfl⟩ := Option.map_eq_some_iff.mp hs
      obtain ⟨hsame, hcred, hexp⟩ := sweep_live hv
      rw [hsame] at hv ⊢
      refine ⟨hcred, ?_⟩
      rcases asModify_live_session hm hf hv hcred hexp with ⟨hp, hk⟩ | ⟨e, rfl, hst⟩
      · exact (hsess s v0 hp hv).2.kept hk
      · exact .wrote _ ⟨e, t, rfl, hst⟩
    · rcases asModify_api hm hr with ⟨hp, hk⟩ | ⟨e, iat, rfl, rfl⟩
      · exact (hapi tid r hp).kept hk
      · exact .wrote _ ⟨t, rfl⟩
  · obtain ⟨hid, hsess, hapi⟩ := hi a acc h0
    exact ⟨step_ids_mono hid op,
      fun s v hs hv => ⟨(hsess s v hs hv).1, (hsess s v hs hv).2.kept (hk _ _ _)⟩,
      fun tid r hr => (hapi tid r hr).kept (hka tid)⟩
  · rw [step_addAccount_new c hnew]
    exact ⟨List.mem_append_right _ (List.mem_singleton.mpr rfl), fun _ _ hs => (nomatch hs),
      fun _ _ hr => nomatch hr⟩

theorem Inv.run (ops : List Op) : Inv (run World.empty ops) ops.reverse := by
  have := run_inv_hist Inv.step Inv.empty ops
  rwa [List.append_nil] at this

end Kanidm.Bearer
