import KanidmModel.Access.DefaultRoles
/-
Helper lemmas for C25: the upward closure `memberofClosure` is the least closed superset of the
direct memberships (extensive, closed, least), for every nesting table; the three-valued reading
`hpEval` of a target filter is sound for every entry that is a member of the high-privilege group
and is not the caller.
-/
namespace Kanidm.Access.Default
open Kanidm.Filter
open Kanidm.Access.Write
open Kanidm.Gen.Access
open Kanidm.Gen

/-- `mo` is closed under the nesting `gs`: with a group it contains every group that group is a
`member` of — what `memberof` is (plugins/memberof.rs; C17). -/
def Closed (gs : List (Nat × List Nat)) (mo : List Nat) : Prop :=
  ∀ g, g ∈ mo → ∀ p ms, (p, ms) ∈ gs → g ∈ ms → p ∈ mo

theorem mem_parentsOf {gs : List (Nat × List Nat)} {x p : Nat} :
    p ∈ parentsOf gs x ↔ ∃ ms, (p, ms) ∈ gs ∧ x ∈ ms := by
  unfold parentsOf
  simp only [List.mem_map, List.mem_filter, List.contains_iff_mem]
  constructor
  · rintro ⟨⟨q, ms⟩, ⟨hmem, hx⟩, rfl⟩
    exact ⟨ms, hmem, hx⟩
  · rintro ⟨ms, hmem, hx⟩
    exact ⟨(p, ms), ⟨hmem, hx⟩, rfl⟩

/-! `addNew` appends what is new, so a round changes the length exactly when it adds something. -/

theorem mem_addNew_iff {x : Nat} (l acc : List Nat) : x ∈ addNew acc l ↔ x ∈ acc ∨ x ∈ l := by
  fun_induction addNew acc l with
  | case1 acc => simp -- nothing offered
  | case2 acc p ps ih => -- `p` offered, then `ps`
    rw [ih, List.mem_cons]
    split
    · rename_i hp
      have := List.contains_iff_mem.mp hp
      exact ⟨fun h => h.imp_right .inr,
        fun h => h.elim .inl fun h => h.elim (fun h => .inl (h ▸ this)) .inr⟩
    · rw [List.mem_append, List.mem_singleton, or_assoc]

theorem prefix_addNew (l acc : List Nat) : acc <+: addNew acc l := by
  fun_induction addNew acc l with
  | case1 acc => exact List.prefix_rfl -- nothing offered
  | case2 acc p ps ih => -- `p` offered, then `ps`
    refine List.IsPrefix.trans ?_ ih
    split
    · exact List.prefix_rfl
    · exact List.prefix_append _ _

theorem addNew_of_subset (l acc : List Nat) (h : ∀ x, x ∈ l → x ∈ acc) : addNew acc l = acc := by
  fun_induction addNew acc l with
  | case1 acc => rfl -- nothing offered
  | case2 acc p ps ih => -- `p` offered, then `ps`
    rw [if_pos (List.contains_iff_mem.mpr (h p List.mem_cons_self))] at ih ⊢
    exact ih fun x hx => h x (List.mem_cons_of_mem _ hx)

theorem length_addNew_iff (l acc : List Nat) :
    (addNew acc l).length = acc.length ↔ ∀ x, x ∈ l → x ∈ acc := by
  constructor
  · intro h x hx
    rw [(prefix_addNew l acc).eq_of_length h.symm]
    exact (mem_addNew_iff l acc).mpr (.inr hx)
  · intro h
    rw [addNew_of_subset l acc h]

theorem mem_closeStep_iff {gs : List (Nat × List Nat)} {s : List Nat} {x : Nat} :
    x ∈ closeStep gs s ↔ x ∈ s ∨ ∃ g, g ∈ s ∧ ∃ ms, (x, ms) ∈ gs ∧ g ∈ ms := by
  simp only [closeStep, mem_addNew_iff, List.mem_flatMap, mem_parentsOf]

/-- The test `closeN` stops on: a round that adds nothing has found a closed list. -/
theorem length_closeStep_iff {gs : List (Nat × List Nat)} {s : List Nat} :
    (closeStep gs s).length = s.length ↔ Closed gs s := by
  simp only [closeStep, length_addNew_iff, List.mem_flatMap, mem_parentsOf, Closed]
  exact ⟨fun h g hg p ms hmem hgm => h p ⟨g, hg, ms, hmem, hgm⟩,
    fun h p ⟨g, hg, ms, hmem, hgm⟩ => h g hg p ms hmem hgm⟩

/-- The rows of the nesting table whose group is not in `s`. A round of the closure that adds
anything removes one of them, so the table's length bounds the number of such rounds. -/
def missing (gs : List (Nat × List Nat)) (s : List Nat) : List (Nat × List Nat) :=
  gs.filter fun g => !s.contains g.1

theorem length_missing_lt {gs : List (Nat × List Nat)} {s s' : List Nat}
    (hsub : ∀ x, x ∈ s → x ∈ s') {p : Nat} {ms : List Nat} (hmem : (p, ms) ∈ gs) (hps : p ∉ s)
    (hps' : p ∈ s') : (missing gs s').length < (missing gs s).length := by
  have : missing gs s' = (missing gs s).filter fun g => !s'.contains g.1 := by
    unfold missing
    rw [List.filter_filter]
    refine List.filter_congr fun g _ => ?_
    cases hc : s.contains g.1
    · simp
    · simpa using hsub _ (List.contains_iff_mem.mp hc)
  rw [this]
  exact List.length_filter_lt_length_iff_exists.mpr
    ⟨(p, ms), List.mem_filter.mpr ⟨hmem, by simpa using hps⟩, by simpa using hps'⟩

theorem closeN_closed {gs : List (Nat × List Nat)} (n : Nat) (s : List Nat) :
    (missing gs s).length ≤ n → Closed gs (closeN gs n s) := by
  fun_induction closeN gs n s with
  | case1 s => -- no fuel
    -- no row is missing: every group of the table is in `s`
    intro h _ _ p ms hmem _
    have := List.filter_eq_nil_iff.mp (List.length_eq_zero_iff.mp (Nat.le_zero.mp h)) (p, ms) hmem
    simpa using this
  | case2 n s s' heq => -- a round that adds nothing
    exact fun _ => length_closeStep_iff.mp (by simpa using heq)
  | case3 n s s' hne ih => -- a round that adds something
    -- the round added a group of the table that `s` lacks
    intro h
    obtain ⟨g, hg⟩ := Classical.not_forall.mp (mt length_closeStep_iff.mpr (by simpa using hne))
    simp only [Classical.not_forall] at hg
    obtain ⟨hgs, p, ms, hmem, hgm, hp⟩ := hg
    exact ih (Nat.le_of_lt_succ (Nat.lt_of_lt_of_le (length_missing_lt
      (fun x hx => mem_closeStep_iff.mpr (.inl hx)) hmem hp
      (mem_closeStep_iff.mpr (.inr ⟨g, hgs, ms, hmem, hgm⟩))) h))

/-- **The closure is closed**: the fuel `gs.length` is enough for `closeN` to reach its fixpoint,
whatever the direct memberships are (groups of the table or not, repeated or not). -/
theorem memberofClosure_closed (gs : List (Nat × List Nat)) (direct : List Nat) :
    Closed gs (memberofClosure gs direct) :=
  closeN_closed _ _ (List.length_filter_le _ _)

theorem closeN_of_closed {gs : List (Nat × List Nat)} {s : List Nat} (h : Closed gs s) (n : Nat) :
    closeN gs n s = s := by
  fun_induction closeN gs n s with
  | case1 | case2 => rfl -- no fuel; a round that adds nothing
  | case3 n s s' hne => -- a round that adds something: not on a closed list
    exact absurd (by simpa using length_closeStep_iff.mpr h) hne

theorem subset_closeN {gs : List (Nat × List Nat)} {x : Nat} (n : Nat) (s : List Nat) :
    x ∈ s → x ∈ closeN gs n s := by
  fun_induction closeN gs n s with
  | case1 | case2 => exact id -- no fuel; a round that adds nothing
  | case3 n s s' _ ih => exact fun hx => ih (mem_closeStep_iff.mpr (.inl hx)) -- another round

/-- **The closure is least**, among sets given as predicates. -/
theorem closeN_induction {gs : List (Nat × List Nat)} {P : Nat → Prop}
    (hP : ∀ g, P g → ∀ p ms, (p, ms) ∈ gs → g ∈ ms → P p) (n : Nat) (s : List Nat) :
    (∀ x, x ∈ s → P x) → ∀ x, x ∈ closeN gs n s → P x := by
  fun_induction closeN gs n s with
  | case1 | case2 => exact id -- no fuel; a round that adds nothing
  | case3 n s s' _ ih => -- another round: what it adds is a parent of something in `s`
    refine fun hs => ih fun y hy => ?_
    rcases mem_closeStep_iff.mp hy with h | ⟨g, hg, ms, hmem, hgm⟩
    · exact hs y h
    · exact hP g (hs g hg) y ms hmem hgm

/-- **The closure is the least closed set**: whatever the model computes as `memberof` for the
direct memberships `direct` is contained in every closed set that contains `direct`. -/
theorem memberofClosure_subset {gs : List (Nat × List Nat)} {mo direct : List Nat}
    (hc : Closed gs mo) (hd : ∀ x, x ∈ direct → x ∈ mo) :
    ∀ x, x ∈ memberofClosure gs direct → x ∈ mo :=
  closeN_induction hc _ _ hd

theorem mem_hpGroupsOf {gs : List (Nat × List Nat)} {hp g : Nat} :
    g ∈ hpGroupsOf gs hp ↔
      (∃ ms, (g, ms) ∈ gs) ∧ (g = hp ∨ hp ∈ memberofClosure gs [g]) := by
  simp [hpGroupsOf, List.mem_filter]

/-- A member of a group of the high-privilege closure has the high-privilege group in its
`memberof`. -/
theorem hp_of_mem_hpGroups {gs : List (Nat × List Nat)} {mo : List Nat} {hp g : Nat}
    (hc : Closed gs mo) (hg : g ∈ mo) (hh : g ∈ hpGroupsOf gs hp) : hp ∈ mo := by
  rcases (mem_hpGroupsOf.mp hh).2 with rfl | h
  · exact hg
  · exact memberofClosure_subset hc (fun x hx => List.mem_singleton.mp hx ▸ hg) hp h

/-- What cannot reach `hp` has a closure that cannot reach `hp`. -/
theorem closure_avoids {gs : List (Nat × List Nat)} {hp : Nat} {S : List Nat}
    (hS : ∀ s, s ∈ S → ¬ (s = hp ∨ hp ∈ memberofClosure gs [s])) :
    ∀ x, x ∈ memberofClosure gs S → ¬ (x = hp ∨ hp ∈ memberofClosure gs [x]) := by
  refine closeN_induction (fun g hg p ms hmem hgm => ?_) _ _ hS
  -- `p` is in the closure of `[g]`, and with it everything above `p`
  have hcl := memberofClosure_closed gs [g]
  have hp' : p ∈ memberofClosure gs [g] :=
    hcl g (subset_closeN _ _ List.mem_cons_self) p ms hmem hgm
  rintro (rfl | h)
  · exact hg (.inr hp')
  · exact hg (.inr (memberofClosure_subset hcl (fun x hx => List.mem_singleton.mp hx ▸ hp') hp h))

theorem kleeneAnd_sound {a b : Option Bool} {x y r : Bool}
    (ha : ∀ v, a = some v → x = v) (hb : ∀ v, b = some v → y = v)
    (h : kleeneAnd a b = some r) : (x && y) = r := by
  unfold kleeneAnd at h
  split at h
  · cases h; rw [ha false rfl]; rfl -- the left is `false`
  · cases h; rw [hb false rfl]; exact Bool.and_false x -- the right is `false`
  · cases h; rw [ha true rfl, hb true rfl]; rfl -- both are `true`
  · cases h -- otherwise unknown

theorem kleeneOr_sound {a b : Option Bool} {x y r : Bool}
    (ha : ∀ v, a = some v → x = v) (hb : ∀ v, b = some v → y = v)
    (h : kleeneOr a b = some r) : (x || y) = r := by
  unfold kleeneOr at h
  split at h
  · cases h; rw [ha true rfl]; rfl -- the left is `true`
  · cases h; rw [hb true rfl]; exact Bool.or_true x -- the right is `true`
  · cases h; rw [ha false rfl, hb false rfl]; rfl -- both are `false`
  · cases h -- otherwise unknown

theorem kleeneNot_sound {a : Option Bool} {x r : Bool} (ha : ∀ v, a = some v → x = v)
    (h : kleeneNot a = some r) : (!x) = r := by
  cases a with
  | none => cases h
  | some v => cases h; rw [ha v rfl]

section
variable (S : ValSem) (hp : Nat) (self : Val) (fe : Filter.Entry)
variable (hhp : (fe A.MemberOf).contains (Val.num hp) = true)
  (hns : (fe A.Uuid).contains self = false)
include hhp hns

theorem hpEval_sound_all :
    (∀ (f : FC) (b : Bool), hpEval hp f = some b → f.matches S self A.Uuid fe = b) ∧
    (∀ (l : List FC) (b : Bool), hpEvalAll hp l = some b → FC.matchesAll S self A.Uuid fe l = b) ∧
    (∀ (l : List FC) (b : Bool), hpEvalAny hp l = some b → FC.matchesAny S self A.Uuid fe l = b) := by
  refine hpEval.mutual_induct_unfolding hp
    (fun f r => ∀ b, r = some b → f.matches S self A.Uuid fe = b)
    (fun l r => ∀ b, r = some b → FC.matchesAll S self A.Uuid fe l = b)
    (fun l r => ∀ b, r = some b → FC.matchesAny S self A.Uuid fe l = b)
    ?eqT ?_ ?_ ?_ ?_ ?presT ?_ ?_ ?or ?and ?inc ?not ?self ?inv ?allNil ?allCons ?anyNil ?anyCons
  case eqT =>
    rintro a v hc b ⟨⟩
    rw [Bool.and_eq_true, beq_iff_eq, beq_iff_eq] at hc
    rw [hc.1, hc.2]
    simpa [FC.matches] using hhp
  case presT =>
    rintro a hc b ⟨⟩
    rw [beq_iff_eq] at hc
    have : fe A.MemberOf ≠ [] := fun he => by rw [he] at hhp; cases hhp
    simp [FC.matches, hc, this]
  case or => exact fun l ih b h => by unfold FC.matches; exact ih b h
  case and => exact fun l ih b h => by unfold FC.matches; exact ih b h
  case not => exact fun f ih b h => by unfold FC.matches; exact kleeneNot_sound ih h
  case self =>
    rintro b ⟨⟩
    have : self ∉ fe A.Uuid := fun hm => by
      rw [← List.contains_iff_mem, hns] at hm
      cases hm
    simp [FC.matches, this]
  case allCons => exact fun f fs ih1 ih2 b h => by unfold FC.matchesAll; exact kleeneAnd_sound ih1 ih2 h
  case anyCons => exact fun f fs ih1 ih2 b h => by unfold FC.matchesAny; exact kleeneOr_sound ih1 ih2 h
  case inc | inv => rintro _ b ⟨⟩; simp [FC.matches]
  case allNil => rintro b ⟨⟩; simp [FC.matchesAll]
  case anyNil => rintro b ⟨⟩; simp [FC.matchesAny]
  -- the leaves on which `hpEval` does not commit
  all_goals intros; rename_i h; cases h

/-- **Soundness of the three-valued reading.** On an entry whose `memberof` contains `hp` and
whose `uuid` is not the caller's, a target filter evaluates to what `hpEval` says whenever
`hpEval` commits to a value. -/
theorem hpEval_sound :
    ∀ (f : FC) (b : Bool), hpEval hp f = some b → f.matches S self A.Uuid fe = b :=
  (hpEval_sound_all S hp self fe hhp hns).1
end

end Kanidm.Access.Default
