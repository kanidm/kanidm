import KanidmModel.PwQuality
import KanidmProofs.Lemmas.Ite
/-!
Helper lemmas for C31.  About the gates only the soundness direction is proved: what a gate, or a regenerated
comparison, guarantees when it does *not* fire.  So the lemmas hold of any gate list that contains the code
and of any comparison at least as strict as today's.
-/
namespace Kanidm.PwQuality
open Kanidm.Gen.PwQuality
open Kanidm.AccountPolicy (Resolved)

theorem cu_short_sound (g b mn mx : Nat) (h : cuTooShort g b mn mx = false) : mn ≤ g := by
  simp only [cuTooShort, decide_eq_false_iff_not] at h; omega

theorem cu_long_sound (g b mn mx : Nat) (h : cuTooLong g b mn mx = false) : g ≤ mx := by
  simp only [cuTooLong, decide_eq_false_iff_not] at h; omega

theorem posix_short_sound (g b mn mx : Nat) (h : posixTooShort g b mn mx = false) :
    mn ≤ g ∧ pwSfaMin ≤ g := by
  simp only [posixTooShort, decide_eq_false_iff_not, pwSfaMin] at h ⊢; omega

theorem posix_long_sound (g b mn mx : Nat) (h : posixTooLong g b mn mx = false) : b ≤ pwMaxNist := by
  simp only [posixTooLong, decide_eq_false_iff_not, pwMaxNist] at h ⊢; omega

theorem cu_weak_sound (s : Nat) (h : cuWeak s = false) : 4 ≤ s := by
  simp only [cuWeak, decide_eq_false_iff_not] at h; omega

theorem posix_weak_sound (s : Nat) (h : posixWeak s = false) : 4 ≤ s := by
  simp only [posixWeak, decide_eq_false_iff_not] at h; omega

theorem firstReject_eq (gates : List Nat) (g : Nat → Option Reject) :
    firstReject gates g = gates.findSome? g := by
  induction gates with
  | nil => rfl
  | cons c t ih => rw [firstReject, List.findSome?_cons, ih]; cases g c <;> rfl

theorem firstReject_none {gates : List Nat} {g : Nat → Option Reject} :
    firstReject gates g = none ↔ ∀ c ∈ gates, g c = none :=
  firstReject_eq gates g ▸ List.findSome?_eq_none_iff

theorem firstReject_some {gates : List Nat} {g : Nat → Option Reject} {r : Reject}
    (h : firstReject gates g = some r) : ∃ c ∈ gates, g c = some r :=
  List.exists_of_findSome?_eq_some (firstReject_eq gates g ▸ h)

theorem lengthGate_none {short long : Nat → Nat → Nat → Nat → Bool} {sr lr : Nat → Nat → Nat}
    {pol : Resolved} {i : Input} (h : lengthGate short long sr lr pol i = none) :
    short i.graphemes (utf8Len i.text) pol.pwMinLength pol.pwMaxLength = false ∧
    long i.graphemes (utf8Len i.text) pol.pwMinLength pol.pwMaxLength = false :=
  have ⟨h1, h'⟩ := of_ite_eq h nofun
  ⟨Bool.eq_false_iff.2 h1, Bool.eq_false_iff.2 (of_ite_eq h' nofun).1⟩

theorem radiusGate_none {ctx : Ctx} {i : Input} (h : radiusGate ctx i = none) :
    ∀ r, ctx.radius = some r → containsSub i.text r = false := by
  intro r hr
  unfold radiusGate at h
  rw [hr] at h
  exact Bool.eq_false_iff.2 (of_ite_eq h nofun).1

theorem relatedGate_none {ctx : Ctx} {i : Input} (h : relatedGate ctx i = none) :
    ∀ r ∈ ctx.related, containsSub i.text r = false := fun r hr =>
  Bool.eq_false_iff.2 fun hc => (of_ite_eq h nofun).1 (List.any_eq_true.2 ⟨r, hr, hc⟩)

theorem scoreGate_none {weak : Nat → Bool} {i : Input} (h : scoreGate weak i = none) :
    weak i.score = false :=
  Bool.eq_false_iff.2 (of_ite_eq h nofun).1

theorem badlistGate_none {lowered : Bool} {lower : List Nat → List Nat} {ctx : Ctx} {i : Input}
    (h : badlistGate lowered lower ctx i = none) : lookupKey lowered lower i.text ∉ ctx.badlist :=
  fun hm => (of_ite_eq h nofun).1 (List.contains_iff_mem.mpr hm)

/-- The tail of the three setters: the quality check, then the store. -/
theorem quality_ok {σ : Type} {q : Option Reject} {s s' : σ}
    (h : (match q with | some r => Except.error (Err.quality r) | none => .ok s) = .ok s') :
    q = none ∧ s = s' := by
  cases q with
  | some r => cases h
  | none => exact ⟨rfl, Except.ok.inj h⟩

theorem utf8Width_pos (c : Nat) : 1 ≤ utf8Width c := by
  unfold utf8Width
  repeat' split
  all_goals decide

theorem length_le_utf8Len (t : List Nat) : t.length ≤ utf8Len t := by
  induction t with
  | nil => simp [utf8Len]
  | cons c t ih =>
    have := utf8Width_pos c
    simp only [List.length_cons, utf8Len]; omega

theorem lowerGreekAux_no_capital_sigma (t : List Nat) (h : ∀ c ∈ t, c ≠ 0x3A3) (p : Bool) :
    lowerGreekAux p t = t.map lower1 := by
  induction t generalizing p with
  | nil => rfl
  | cons c t ih =>
    have hc : c ≠ 0x3A3 := h c List.mem_cons_self
    have ht : ∀ d ∈ t, d ≠ 0x3A3 := fun d hd => h d (List.mem_cons_of_mem _ hd)
    simp only [lowerGreekAux, hc, if_false, List.map_cons, ih ht]

theorem fold1_eq_lower1_of_not_sigma (c : Nat) (h : isSigma c = false) : fold1 c = lower1 c := by
  simp only [isSigma, Bool.or_eq_false_iff, decide_eq_false_iff_not] at h
  simp [fold1, h.2]

theorem lowerGreek_of_sigma_free (t : List Nat) (h : ∀ c ∈ t, isSigma c = false) :
    lowerGreek t = t.map fold1 := by
  rw [List.map_congr_left fun c hc => fold1_eq_lower1_of_not_sigma c (h c hc)]
  refine lowerGreekAux_no_capital_sigma t (fun c hc hs => ?_) _
  have := h c hc
  simp [isSigma, hs] at this

end Kanidm.PwQuality
