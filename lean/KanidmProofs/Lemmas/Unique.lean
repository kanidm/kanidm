import KanidmModel.Unique
import KanidmProofs.Lemmas.Keyed
/-! C19: the invariant the obligations are stated in, with its lemmas; the clash vocabulary (`Clash`, `Covered`)
stands before the lemmas on the conflict step. -/
namespace Kanidm.Unique
open Kanidm.Gen

/-- No uuid twice in the database, whatever the state of the entries. -/
def IdsNodup (s : State) : Prop := (s.map (·.id)).Nodup

/-- Two live entries that share a value of a unique attribute are the same uuid. -/
def KeysUnique (s : State) : Prop :=
  ∀ e1 ∈ s, ∀ e2 ∈ s, e1.isLive = true → e2.isLive = true →
    ∀ k, k ∈ e1.keys → k ∈ e2.keys → e1.id = e2.id

def Uniq (s : State) : Prop := IdsNodup s ∧ KeysUnique s

theorem eq_of_idsNodup {s : State} (h : IdsNodup s) {a b : Entry} (ha : a ∈ s) (hb : b ∈ s)
    (hid : a.id = b.id) : a = b :=
  Keyed.eq_of_key_eq Entry.id h ha hb hid

theorem nodupB_iff (l : List Nat) : nodupB l = true ↔ l.Nodup := by
  induction l with
  | nil => simp [nodupB]
  | cons a l ih =>
    simp only [nodupB, Bool.and_eq_true, Bool.not_eq_true', List.contains_eq_mem,
      decide_eq_false_iff_not, ih, List.nodup_cons]

theorem keysUniqueB_iff (s : State) : keysUniqueB s = true ↔ KeysUnique s := by
  simp only [keysUniqueB, KeysUnique, List.all_eq_true, Bool.or_eq_true, Bool.not_eq_true',
    Bool.and_eq_false_iff, beq_iff_eq, List.contains_eq_mem, decide_eq_false_iff_not]
  constructor
  · intro h e1 h1 e2 h2 hl1 hl2 k hk1 hk2
    rcases h e1 h1 e2 h2 with (hf | hid) | hk
    · rcases hf with hf | hf
      · rw [hl1] at hf; cases hf
      · rw [hl2] at hf; cases hf
    · exact hid
    · exact absurd hk2 (hk k hk1)
  · intro h e1 h1 e2 h2
    by_cases hl1 : e1.isLive = true
    · by_cases hl2 : e2.isLive = true
      · by_cases hshare : ∃ k, k ∈ e1.keys ∧ k ∈ e2.keys
        · obtain ⟨k, hk1, hk2⟩ := hshare
          exact Or.inl (Or.inr (h e1 h1 e2 h2 hl1 hl2 k hk1 hk2))
        · exact Or.inr (fun k hk1 hk2 => hshare ⟨k, hk1, hk2⟩)
      · exact Or.inl (Or.inl (Or.inr (by simpa using hl2)))
    · exact Or.inl (Or.inl (Or.inl (by simpa using hl1)))

theorem forall_claims {cands : List Entry} {P : Key × Nat → Prop} :
    (∀ x ∈ claims cands, P x) ↔ ∀ c ∈ cands, c.isLive = true → ∀ k ∈ c.keys, P (k, c.id) := by
  simp only [claims, UniqueOps.candMaskHidesRecycled, Bool.not_true, Bool.false_or,
    List.mem_flatMap, List.mem_filter, List.mem_map]
  exact ⟨fun h c hc hl k hk => h _ ⟨c, ⟨hc, hl⟩, k, hk, rfl⟩,
    fun h x ⟨c, ⟨hc, hl⟩, k, hk, hx⟩ => hx ▸ h c hc hl k hk⟩

/-- **Duplicates in one request / against the database are refused, and nothing else is.**
`enforce_unique` accepts exactly the candidate sets that are clash-free among themselves and
against the live entries of the database (other uuids). -/
theorem enforce_unique_exact (db cands : List Entry) :
    enforceUnique db cands = true ↔
      (∀ c1 ∈ cands, ∀ c2 ∈ cands, c1.isLive = true → c2.isLive = true →
        ∀ k, k ∈ c1.keys → k ∈ c2.keys → c1.id = c2.id) ∧
      (∀ c ∈ cands, c.isLive = true → ∀ e ∈ db, e.isLive = true →
        ∀ k, k ∈ c.keys → k ∈ e.keys → e.id = c.id) := by
  simp only [enforceUnique, UniqueOps.inRequestDupRejected, UniqueOps.dbHitRejected, dbHit,
    UniqueOps.dbLookupLiveOnly, UniqueOps.dbLookupExcludesSelf, Bool.not_true, Bool.false_or,
    Bool.true_and, Bool.and_eq_true, List.all_eq_true, forall_claims, Bool.or_eq_true, bne_iff_ne,
    ne_eq, beq_iff_eq, Bool.not_eq_true', Bool.and_eq_false_iff, Bool.not_eq_false',
    List.contains_eq_mem, decide_eq_false_iff_not]
  refine and_congr
    ⟨fun h c1 hc1 c2 hc2 hl1 hl2 k hk1 hk2 => ?_, fun h c hc hl k hk c' hc' hl' k' hk' => ?_⟩
    ⟨fun h c hc hl e he hle k hkc hke => ?_, fun h c hc hl k hk e he => ?_⟩
  -- in-request arm: two claims of one value carry one uuid (the test reads them in the other order)
  · exact (h c2 hc2 hl2 k hk2 c1 hc1 hl1 k hk1).resolve_left (· rfl)
  · by_cases hkk : k' = k
    · exact .inr (h c' hc' c hc hl' hl k (hkk ▸ hk') hk)
    · exact .inl hkk
  -- database arm: a hit is a live entry that holds the claimed value under another uuid
  · exact ((h c hc hl k hkc e he).resolve_right (· hke)).resolve_left (by rw [hle]; nofun)
  · by_cases hle : e.isLive = true
    · by_cases hke : k ∈ e.keys
      · exact .inl (.inr (h c hc hl e he hle k hk hke))
      · exact .inr hke
    · exact .inl (.inl (by simpa using hle))

theorem keysUnique_of_enforce {s s' cands : List Entry} (hu : KeysUnique s)
    (hun : enforceUnique s cands = true) (hmem : ∀ e ∈ s', e ∈ cands ∨ e ∈ s) : KeysUnique s' := by
  obtain ⟨hin, hdb⟩ := (enforce_unique_exact s cands).1 hun
  intro e1 h1 e2 h2 hl1 hl2 k hk1 hk2
  rcases hmem e1 h1 with h1 | h1 <;> rcases hmem e2 h2 with h2 | h2
  · exact hin e1 h1 e2 h2 hl1 hl2 k hk1 hk2
  · exact (hdb e1 h1 hl1 e2 h2 hl2 k hk1 hk2).symm
  · exact hdb e2 h2 hl2 e1 h1 hl1 k hk2 hk1
  · exact hu e1 h1 e2 h2 hl1 hl2 k hk1 hk2

theorem uniq_update {s : State} {sel : Entry → Bool} {f : Entry → Entry} (hu : Uniq s)
    (hid : ∀ e, (f e).id = e.id) (hun : enforceUnique s ((s.filter sel).map f) = true) :
    Uniq (s.map (fun e => if sel e then f e else e)) := by
  refine ⟨?_, keysUnique_of_enforce hu.2 hun fun e' he' => ?_⟩
  · refine Keyed.nodup_map Entry.id (fun e _ => ?_) hu.1
    split
    · exact hid e
    · rfl
  · obtain ⟨e, he, rfl⟩ := List.mem_map.1 he'
    split
    · next hs => exact Or.inl (List.mem_map.2 ⟨e, List.mem_filter.2 ⟨he, hs⟩, rfl⟩)
    · exact Or.inr he

theorem uniqueHook_eq (db cands : List Entry) : uniqueHook db cands = enforceUnique db cands := by
  simp [uniqueHook, UniqueOps.pluginRegistered]

theorem setKeys_fields (e : Entry) (sets : List (Nat × List Nat)) :
    (setKeys e sets).id = e.id ∧ (setKeys e sets).st = e.st := ⟨rfl, rfl⟩

/-- Two live entries of the database with different uuids that share a unique value. -/
def Clash (db : List Entry) (e1 e2 : Entry) : Prop :=
  e1 ∈ db ∧ e2 ∈ db ∧ e1.isLive = true ∧ e2.isLive = true ∧ e1.id ≠ e2.id ∧
    ∃ k, k ∈ e1.keys ∧ k ∈ e2.keys

theorem Clash.symm {db : List Entry} {e1 e2 : Entry} (h : Clash db e1 e2) : Clash db e2 e1 := by
  obtain ⟨a, b, c, d, e, k, hk1, hk2⟩ := h
  exact ⟨b, a, d, c, fun h => e h.symm, k, hk2, hk1⟩

/-- Every clash involves an entry that arrived in this replication step (the consumer was
consistent before, cf. the comment in `post_repl_incremental_conflict`). -/
def Covered (db : List Entry) (candIds : List Nat) : Prop :=
  ∀ e1 e2, Clash db e1 e2 → e1.id ∈ candIds ∨ e2.id ∈ candIds

theorem mem_partners {db : List Entry} {c : Entry} (hc : c ∈ db) (hl : c.isLive = true) {u : Nat} :
    u ∈ partners db c ↔ ∃ e, Clash db c e ∧ e.id = u := by
  simp only [partners, UniqueOps.conflictSearchLiveOnly, UniqueOps.conflictSearchExcludesSelf,
    Bool.not_true, Bool.false_or, Bool.true_and, List.mem_map, List.mem_filter, Bool.and_eq_true,
    Bool.not_eq_true', beq_eq_false_iff_ne, ne_eq, List.any_eq_true, List.contains_eq_mem,
    decide_eq_true_eq, Clash, hc, hl, true_and, and_assoc, eq_comm (a := c.id)]

theorem mem_conflictSet {db : List Entry} {candIds : List Nat} {u : Nat} :
    u ∈ conflictSet db candIds ↔ ∃ c ∈ db, c.id ∈ candIds ∧ c.isLive = true ∧
      partners db c ≠ [] ∧ (u = c.id ∨ u ∈ partners db c) := by
  -- what one candidate contributes: itself and its partners, if it has any
  have one : ∀ c : Entry, (u ∈ if (partners db c).isEmpty = true then [] else [c.id] ++ partners db c) ↔
      partners db c ≠ [] ∧ (u = c.id ∨ u ∈ partners db c) := fun c => by
    cases partners db c <;> simp
  simp only [conflictSet, UniqueOps.candMaskHidesRecycled, UniqueOps.conflictMarksCandidate,
    UniqueOps.conflictMarksPartners, Bool.not_true, Bool.false_or, if_true, List.mem_flatMap,
    List.mem_filter, Bool.and_eq_true, List.contains_eq_mem, decide_eq_true_eq, one, and_assoc]

theorem conflictSet_iff {db : List Entry} {candIds : List Nat} (hcov : Covered db candIds) (u : Nat) :
    u ∈ conflictSet db candIds ↔ ∃ e1 e2, Clash db e1 e2 ∧ u = e1.id := by
  rw [mem_conflictSet]
  constructor
  · rintro ⟨c, hc, _, hl, hne, hu⟩
    rcases hu with rfl | hu
    · -- the candidate itself: it has a partner
      obtain ⟨p, hp⟩ := List.exists_mem_of_ne_nil _ hne
      obtain ⟨e, hcl, _⟩ := (mem_partners hc hl).1 hp
      exact ⟨c, e, hcl, rfl⟩
    · obtain ⟨e, hcl, rfl⟩ := (mem_partners hc hl).1 hu
      exact ⟨e, c, hcl.symm, rfl⟩
  · rintro ⟨e1, e2, hcl, rfl⟩
    have ⟨h1, h2, hl1, hl2, _⟩ := hcl
    rcases hcov e1 e2 hcl with hc | hc
    · exact ⟨e1, h1, hc, hl1, List.ne_nil_of_mem ((mem_partners h1 hl1).2 ⟨e2, hcl, rfl⟩), .inl rfl⟩
    · have hp := (mem_partners h2 hl2).2 ⟨e1, hcl.symm, rfl⟩
      exact ⟨e2, h2, hc, hl2, List.ne_nil_of_mem hp, .inr hp⟩

theorem conflictStep_eq (db : List Entry) (candIds : List Nat) :
    conflictStep db candIds = db.map fun e =>
      if e.id ∈ conflictSet db candIds ∧ e.isLive = true then { e with st := .conflict } else e := by
  unfold conflictStep
  refine List.map_congr_left fun e _ => ?_
  simp only [UniqueOps.toConflictHides, Bool.and_true, Bool.and_eq_true, List.contains_iff_mem]

theorem conflictStep_ids (db : List Entry) (candIds : List Nat) :
    (conflictStep db candIds).map (·.id) = db.map (·.id) := by
  rw [conflictStep_eq]
  exact Keyed.map_key_map Entry.id fun e _ => by split <;> rfl

theorem unmarked_of_live_mem_conflictStep {db : List Entry} {candIds : List Nat} {e : Entry}
    (he : e ∈ conflictStep db candIds) (hl : e.isLive = true) :
    e ∈ db ∧ e.id ∉ conflictSet db candIds := by
  rw [conflictStep_eq] at he
  obtain ⟨e0, m, rfl⟩ := List.mem_map.1 he
  split at hl
  · cases hl
  · next hn => rw [if_neg hn]; exact ⟨m, fun hin => hn ⟨hin, hl⟩⟩

theorem resolveAdd_eq (self : Nat) (inc db : AtEntry) :
    resolveAdd self inc db = if inc.cat < db.cat then (inc, db.origin == self) else (db, false) := by
  simp only [resolveAdd, UniqueOps.addConflictWhen, UniqueOps.incomingLoses,
    UniqueOps.copyOnlyAtOrigin, if_true, decide_eq_true_eq, ne_eq]
  by_cases h1 : inc.cat = db.cat
  · simp [h1]
  · by_cases h2 : inc.cat > db.cat
    · simp [h1, h2, Nat.lt_asymm h2]
    · simp [h1, h2, Nat.lt_of_le_of_ne (Nat.le_of_not_gt h2) h1]

end Kanidm.Unique
