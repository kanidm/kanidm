import KanidmModel.Spn
/-! C22: the invariants and the scope of operations the obligations are stated in, then the lemmas.
The idea: a committed transaction is a `Wrote` (each entry afterwards is an old one left alone, an old one
recycled, or a candidate that went through the Spn hook and the schema), shown once per operation from its
accepting arm; `Inv` and `AllNamed` are read off `Wrote`. -/
namespace Kanidm.Spn
open Kanidm.Gen

/-- What the property demands of one entry: a live account or group has exactly one spn
value; when it has a (single) name that value is (name, domain). -/
def EntryOk (dom : Str) (e : Entry) : Prop :=
  e.live = true → (e.grp = true ∨ e.acct = true) →
    match single? e.name with
    | some n => e.spn = some (.spn [(n, dom)])
    | none => ∃ p, e.spn = some (.spn [p])

/-- The state invariant: the transaction's in-memory domain name is the stored one and every
entry is fine with respect to it. -/
def Inv (s : State) : Prop :=
  s.domMem = s.domDb ∧ ∀ e ∈ s.entries, EntryOk s.domDb e

/-- Accounts and groups (live or recycled) carry exactly one name. -/
def Named (e : Entry) : Prop := (e.grp = true ∨ e.acct = true) → ∃ n, e.name = [n]

def AllNamed (s : State) : Prop := ∀ e ∈ s.entries, Named e

/-- Modlists of the property's histories: renames (`purge name; present name n`) and any
attempt to write `spn` directly. -/
def nameSafe : List Mod → Bool
  | [] => true
  | .purgeName :: .presentName _ :: rest => nameSafe rest
  | .purgeSpn :: rest => nameSafe rest
  | .presentSpn _ :: rest => nameSafe rest
  | .removedSpn _ :: rest => nameSafe rest
  | _ => false

/-- The operations the property quantifies over: creates of named entries, renames, direct
spn writes, domain renames, deletes and revives. -/
def Op.inScope : Op → Bool
  | .create cands => cands.all (fun c => decide (c.name.length = 1))
  | .modify _ mods => nameSafe mods
  | .domainRename _ => true
  | .delete _ => true
  | .revive _ => true

theorem mapOpt_cons_eq_some {α β : Type} {f : α → Option β} {a : α} {l : List α} {l' : List β} :
    mapOpt f (a :: l) = some l' ↔ ∃ b ys, f a = some b ∧ mapOpt f l = some ys ∧ l' = b :: ys := by
  rw [mapOpt]
  cases f a with
  | none => simp
  | some b => cases mapOpt f l <;> simp [eq_comm]

theorem mapOpt_eq_some {α β : Type} {f : α → Option β} {l : List α} {l' : List β} :
    mapOpt f l = some l' ↔ l.map f = l'.map some := by
  induction l generalizing l' with
  | nil => cases l' <;> simp [mapOpt]
  | cons a l ih =>
    rw [mapOpt_cons_eq_some]
    cases l' with
    | nil => simp
    | cons b ys => simp [ih]

theorem mapOpt_mem {α β : Type} {f : α → Option β} {l : List α} {l' : List β}
    (h : mapOpt f l = some l') {y : β} (hy : y ∈ l') : ∃ x ∈ l, f x = some y :=
  List.mem_map.1 (mapOpt_eq_some.1 h ▸ List.mem_map_of_mem (f := some) hy)

theorem mapOpt_apply_mem {α β : Type} {f : α → Option β} {l : List α} {l' : List β}
    (h : mapOpt f l = some l') {x : α} (hx : x ∈ l) : ∃ y ∈ l', f x = some y := by
  obtain ⟨y, hy, hxy⟩ := List.mem_map.1 (mapOpt_eq_some.1 h ▸ List.mem_map_of_mem (f := f) hx)
  exact ⟨y, hy, hxy.symm⟩

theorem mapOpt_isSome {α β : Type} {f : α → Option β} {l : List α}
    (h : ∀ x ∈ l, ∃ y, f x = some y) : ∃ l', mapOpt f l = some l' := by
  induction l with
  | nil => exact ⟨[], rfl⟩
  | cons a l ih =>
    obtain ⟨b, hb⟩ := h a List.mem_cons_self
    obtain ⟨ys, hys⟩ := ih (fun x hx => h x (List.mem_cons_of_mem _ hx))
    exact ⟨b :: ys, mapOpt_cons_eq_some.2 ⟨b, ys, hb, hys, rfl⟩⟩

theorem mapOpt_eq_none {α β : Type} {f : α → Option β} {l : List α} {x : α} (hx : x ∈ l)
    (hfx : f x = none) : mapOpt f l = none := by
  cases h : mapOpt f l with
  | none => rfl
  | some l' =>
    obtain ⟨y, _, hy⟩ := mapOpt_apply_mem h hx
    rw [hfx] at hy; cases hy

theorem single?_eq_some {α : Type} {l : List α} {x : α} : single? l = some x ↔ l = [x] := by
  unfold single?
  split <;> simp_all

theorem oneSpn_iff (o : Option SpnVs) :
    (match o with
      | some (.spn [_]) => true
      | _ => false) = true ↔ ∃ p, o = some (.spn [p]) := by
  split <;> simp_all

/-- `Entry::generate_spn` on an entry with a single name returns exactly {(name, domain)},
whatever the entry's spn attribute held before. -/
theorem generate_spn_of_name (e : Entry) (n dom : Str) (h : e.name = [n]) :
    generateSpn e dom = some (.spn [(n, dom)]) := by
  simp [generateSpn, h, single?, SpnOps.nameArmReadsName, SpnOps.nameArmFirst, SpnOps.namePair]

theorem generateSpn_nameless {e : Entry} (dom : Str) (h : single? e.name = none) :
    generateSpn e dom =
      match e.spn with
      | none => none
      | some (.spn vs) => some (.spn vs)
      | some (.iname n) => some (.spn [(n, dom)])
      | some .other => none := by
  simp only [generateSpn, h, SpnOps.nameArmReadsName, SpnOps.nameArmFirst,
    SpnOps.keepArmWhenSpnSyntax, SpnOps.stashPair]
  cases e.spn with
  | none => rfl
  | some v => cases v <;> rfl

theorem managed_iff (e : Entry) : managed e = true ↔ (e.grp = true ∨ e.acct = true) := by
  simp [managed, SpnOps.managed]

theorem spnHook_eq (dom : Str) (e : Entry) :
    spnHook dom e =
      if managed e = true then (generateSpn e dom).map (fun v => { e with spn := some v })
      else some e := by
  simp only [spnHook, SpnOps.hooksWired, SpnOps.pluginRegistered, Bool.and_self, if_true,
    spnTransform, writeSpn, SpnOps.writeReplaces, SpnOps.failOnUngeneratable]
  cases generateSpn e dom <;> rfl

theorem spnHook_fields {dom : Str} {e e' : Entry} (h : spnHook dom e = some e') :
    e'.id = e.id ∧ e'.grp = e.grp ∧ e'.acct = e.acct ∧ e'.live = e.live ∧ e'.name = e.name := by
  rw [spnHook_eq] at h
  split at h
  · obtain ⟨v, _, rfl⟩ := Option.map_eq_some_iff.1 h
    exact ⟨rfl, rfl, rfl, rfl, rfl⟩
  · cases h
    exact ⟨rfl, rfl, rfl, rfl, rfl⟩

theorem spnHook_named_pres {dom : Str} {e e' : Entry} (h : spnHook dom e = some e')
    (hn : Named e) : Named e' := by
  obtain ⟨_, hg, ha, _, hname⟩ := spnHook_fields h
  rw [Named, hg, ha, hname]
  exact hn

theorem spnHook_named {dom : Str} {e e' : Entry} {n : Str} (h : spnHook dom e = some e')
    (hm : e.grp = true ∨ e.acct = true) (hn : e.name = [n]) :
    e'.spn = some (.spn [(n, dom)]) := by
  rw [spnHook_eq, if_pos ((managed_iff e).2 hm), generate_spn_of_name e n dom hn] at h
  cases h; rfl

theorem spnHook_entryOk {dom : Str} {e e' : Entry} (h : spnHook dom e = some e')
    (hs : schemaOk e' = true) : EntryOk dom e' := by
  intro _ hm
  obtain ⟨_, hg, ha, _, hname⟩ := spnHook_fields h
  split
  · next n hsn => exact spnHook_named h (hg ▸ ha ▸ hm) (hname ▸ single?_eq_some.1 hsn)
  · -- no single name: the schema still insists on exactly one spn value
    simp only [schemaOk, Bool.or_eq_true, hm, if_true, Bool.and_eq_true] at hs
    exact (oneSpn_iff _).1 hs.2

/-- What a committed transaction that leaves the domain names alone does to the entries: every
entry afterwards was there before and not selected (`sel`), or was there and is now recycled, or
is one of the transaction's candidates (`cands`) as the Spn hook and the schema let it through. -/
structure Wrote (sel : Entry → Bool) (cands : List Entry) (s s' : State) : Prop where
  domMem : s'.domMem = s.domMem
  domDb : s'.domDb = s.domDb
  entry : ∀ y ∈ s'.entries, (y ∈ s.entries ∧ sel y = false) ∨
    (∃ x ∈ s.entries, y = { x with live := false }) ∨
    ∃ e ∈ cands, spnHook s.domMem e = some y ∧ schemaOk y = true

/-- Only the entries a transaction does not select have to be fine beforehand. -/
theorem Wrote.inv {sel : Entry → Bool} {cands : List Entry} {s s' : State}
    (h : Wrote sel cands s s')
    (hd : s.domMem = s.domDb) (hk : ∀ x ∈ s.entries, sel x = false → EntryOk s.domDb x) : Inv s' := by
  refine ⟨by rw [h.domMem, h.domDb]; exact hd, fun y hy => ?_⟩
  rw [h.domDb]
  rcases h.entry y hy with ⟨hy, hsel⟩ | ⟨x, _, rfl⟩ | ⟨e, _, hfx, hs⟩
  · exact hk y hy hsel
  · exact nofun
  · exact hd ▸ spnHook_entryOk hfx hs

theorem Wrote.keeps_inv {sel : Entry → Bool} {cands : List Entry} {s s' : State}
    (h : Wrote sel cands s s') (hi : Inv s) : Inv s' :=
  h.inv hi.1 fun x hx _ => hi.2 x hx

theorem Wrote.named {sel : Entry → Bool} {cands : List Entry} {s s' : State}
    (h : Wrote sel cands s s') (hn : AllNamed s) (hC : ∀ e ∈ cands, Named e) : AllNamed s' := by
  intro y hy
  rcases h.entry y hy with ⟨hy, _⟩ | ⟨x, hx, rfl⟩ | ⟨e, he, hfx, _⟩
  · exact hn y hy
  · exact hn x hx
  · exact spnHook_named_pres hfx (hC e he)

theorem schemaOk_of_all {cs : List Entry} (h : ¬(!cs.all schemaOk) = true) {y : Entry} (hy : y ∈ cs) :
    schemaOk y = true := by
  rw [Bool.not_eq_true', Bool.not_eq_false] at h
  exact List.all_eq_true.1 h y hy

theorem create_ok {s s' : State} {cands : List Entry} (h : create s cands = .ok s') :
    Wrote (fun _ => false) (cands.map fun c => { c with live := true }) s s' := by
  revert h
  fun_cases create s cands <;> intro h <;> cases h
  next cs hcs _ hs =>
  refine ⟨rfl, rfl, fun y hy => (List.mem_append.1 hy).imp (⟨·, rfl⟩) fun hy => .inr ?_⟩
  obtain ⟨e, he, hfx⟩ := mapOpt_mem hcs hy
  exact ⟨e, he, hfx, schemaOk_of_all hs hy⟩

/-- the common tail of modify and revive: `g`, then the hook, rewrites the entries `p` selects -/
theorem Wrote.of_rewrite {s : State} {g : Entry → Entry} {p : Entry → Bool} {es cs : List Entry}
    (hes : mapOpt (fun e => if p e then spnHook s.domMem (g e) else some e) s.entries = some es)
    (hcs : mapOpt (fun e => if p e then spnHook s.domMem (g e) else some e) (s.entries.filter p)
      = some cs)
    (hs : ¬(!cs.all schemaOk) = true) :
    Wrote p ((s.entries.filter p).map g) s { s with entries := es } := by
  refine ⟨rfl, rfl, fun y hy => ?_⟩
  obtain ⟨x, hx, hfx⟩ := mapOpt_mem hes hy
  by_cases hp : p x = true
  · have hxp := List.mem_filter.2 ⟨hx, hp⟩
    obtain ⟨y', hy', hfx'⟩ := mapOpt_apply_mem hcs hxp
    cases hfx.symm.trans hfx'
    rw [if_pos hp] at hfx
    exact .inr (.inr ⟨g x, List.mem_map_of_mem hxp, hfx, schemaOk_of_all hs hy'⟩)
  · rw [if_neg hp] at hfx; cases hfx
    exact .inl ⟨hx, by simpa using hp⟩

theorem modifyCore_ok {s s' : State} {sel : Entry → Bool} {mods : List Mod}
    (h : modifyCore s sel mods = .ok s') :
    Wrote (fun e => e.live && sel e)
      ((s.entries.filter fun e => e.live && sel e).map (applyMods · mods)) s s' := by
  revert h
  fun_cases modifyCore s sel mods <;> intro h <;> cases h
  · next hnone =>
    exact ⟨rfl, rfl, fun y hy => .inl ⟨hy, Bool.eq_false_iff.2 fun hsel => by
      rw [List.any_eq_true.2 ⟨y, hy, hsel⟩] at hnone; cases hnone⟩⟩
  · next es hes cs hcs _ hs => exact .of_rewrite hes hcs hs

theorem revive_ok {s s' : State} {ids : List Nat} (h : revive s ids = .ok s') :
    Wrote (fun e => !e.live && ids.contains e.id)
      ((s.entries.filter fun e => !e.live && ids.contains e.id).map ({ · with live := true })) s s' := by
  revert h
  fun_cases revive s ids <;> intro h <;> cases h
  next es hes cs hcs _ hs => exact .of_rewrite hes hcs hs

theorem delete_ok {s s' : State} {ids : List Nat} (h : delete s ids = .ok s') :
    Wrote (fun e => e.live && ids.contains e.id) [] s s' := by
  revert h
  fun_cases delete s ids <;> intro h <;> cases h
  refine ⟨rfl, rfl, fun y hy => ?_⟩
  obtain ⟨x, hx, rfl⟩ := List.mem_map.1 hy
  split
  · exact .inr (.inl ⟨x, hx, rfl⟩)
  · next hsel => exact .inl ⟨hx, by simpa using hsel⟩

theorem domainRename_eq (s : State) (d : Str) :
    domainRename s d =
      if d = s.domDb then .ok { s with domMem := d }
      else
        match modifyCore { s with domDb := d, domMem := d } (fun e => e.spn.isSome) [.purgeSpn] with
        | .ok s3 => .ok { s3 with domMem := s3.domDb }
        | .err k => .err k := by
  simp only [domainRename, SpnOps.domainRenameSetsDomainName, SpnOps.hooksWired,
    SpnOps.pluginRegistered, SpnOps.domainChanged, SpnOps.reloadBeforeRegen,
    SpnOps.regenPurgesAllSpnHolders, if_true, Bool.and_self, Bool.true_and, bne_iff_ne, ne_eq,
    ite_not]
  split
  · next h => subst h; rfl
  · rfl

theorem domainRename_ok {s s' : State} {d : Str} (h : domainRename s d = .ok s') :
    (d = s.domDb ∧ s' = { s with domMem := d }) ∨
      Wrote (fun e => e.live && e.spn.isSome)
        ((s.entries.filter fun e => e.live && e.spn.isSome).map (applyMods · [.purgeSpn]))
        { s with domDb := d, domMem := d } s' := by
  rw [domainRename_eq] at h
  split at h
  · next hd => cases h; exact .inl ⟨hd, rfl⟩
  · split at h
    · next s3 h3 =>
      cases h
      have hw := modifyCore_ok h3
      exact .inr ⟨hw.domDb, hw.domDb, hw.entry⟩
    · cases h

theorem applyMod_spn_name (e : Entry) (m : Mod)
    (hm : m = .purgeSpn ∨ (∃ p, m = .presentSpn p) ∨ (∃ p, m = .removedSpn p)) :
    (applyMod e m).name = e.name := by
  rcases hm with rfl | ⟨p, rfl⟩ | ⟨p, rfl⟩
  · rfl
  · simp only [applyMod]
    split <;> rfl
  · simp only [applyMod]
    split <;> rfl

/-- `e'` is `e` up to `name` and `spn`. -/
structure SameHead (e e' : Entry) : Prop where
  id : e'.id = e.id
  grp : e'.grp = e.grp
  acct : e'.acct = e.acct
  live : e'.live = e.live

theorem applyMod_classes (e : Entry) (m : Mod) : SameHead e (applyMod e m) := by
  fun_cases applyMod e m <;> exact ⟨rfl, rfl, rfl, rfl⟩

theorem applyMods_classes (e : Entry) (mods : List Mod) : SameHead e (applyMods e mods) := by
  induction mods generalizing e with
  | nil => exact ⟨rfl, rfl, rfl, rfl⟩
  | cons m ms ih =>
    have h := applyMod_classes e m
    have h' := ih (applyMod e m)
    exact ⟨h'.id.trans h.id, h'.grp.trans h.grp, h'.acct.trans h.acct, h'.live.trans h.live⟩

theorem nameSafe_named (mods : List Mod) (e : Entry) (hs : nameSafe mods = true)
    (hn : ∃ n, e.name = [n]) : ∃ n, (applyMods e mods).name = [n] := by
  fun_induction nameSafe mods generalizing e with
  | case1 => exact hn  -- []
  | case2 n rest ih => exact ih _ hs ⟨n, by simp [applyMod]⟩  -- purgeName, presentName n: the rename
  | case3 rest ih => exact ih _ hs hn  -- purgeSpn
  | case4 p rest ih =>  -- presentSpn
    exact ih _ hs (by rw [applyMod_spn_name e _ (Or.inr (Or.inl ⟨p, rfl⟩))]; exact hn)
  | case5 p rest ih =>  -- removedSpn
    exact ih _ hs (by rw [applyMod_spn_name e _ (Or.inr (Or.inr ⟨p, rfl⟩))]; exact hn)
  | case6 => cases hs  -- any other list is not name-safe

theorem applyMods_named {mods : List Mod} {e : Entry} (hs : nameSafe mods = true) (hn : Named e) :
    Named (applyMods e mods) := fun hm => by
  have h := applyMods_classes e mods
  exact nameSafe_named mods e hs (hn (h.grp ▸ h.acct ▸ hm))

theorem entryOkB_iff (dom : Str) (e : Entry) : entryOkB dom e = true ↔ EntryOk dom e := by
  have hM : (match single? e.name with
      | some n => e.spn == some (.spn [(n, dom)])
      | none =>
        (match e.spn with
         | some (.spn [_]) => true
         | _ => false)) = true ↔
      match single? e.name with
      | some n => e.spn = some (.spn [(n, dom)])
      | none => ∃ p, e.spn = some (.spn [p]) := by
    split
    · exact beq_iff_eq
    · exact oneSpn_iff _
  simp only [entryOkB, EntryOk, Bool.or_eq_true, Bool.not_eq_true', Decidable.imp_iff_not_or,
    Bool.not_eq_true, or_assoc, not_or, Bool.or_eq_false_iff]
  exact or_congr_right (or_congr_right hM)

end Kanidm.Spn
