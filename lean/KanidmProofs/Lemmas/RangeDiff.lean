import KanidmModel.RangeDiff
/-! Helper lemmas for C10 and for C09's range lemmas: `lookup` in a map with distinct keys, the closed form of the `range_diff`
loop, and which accumulator `finish` sends to which status. -/
namespace Kanidm.RangeDiff
open Kanidm.Gen.RangeDiff

@[simp] theorem lookup_nil (s : Nat) : lookup [] s = none := rfl

theorem lookup_cons (k : Nat) (r : Range) (m : Ruv) (s : Nat) :
    lookup ((k, r) :: m) s = if k = s then some r else lookup m s := rfl

theorem mem_of_lookup {m : Ruv} {k : Nat} {r : Range} (h : lookup m k = some r) : (k, r) ∈ m := by
  fun_induction lookup m k with
  | case1 => cases h  -- empty map
  | case2 r' rest => cases h; exact List.mem_cons_self  -- the head has the key
  | case3 k' r' rest hk ih => exact List.mem_cons_of_mem _ (ih h)  -- it has another key

theorem lookup_of_mem_nodup {m : Ruv} (hnd : (m.map (·.1)).Nodup) {k : Nat} {r : Range}
    (hmem : (k, r) ∈ m) : lookup m k = some r := by
  induction m with
  | nil => cases hmem
  | cons hd tl ih =>
    obtain ⟨k', r'⟩ := hd
    obtain ⟨hk', hnd'⟩ := List.nodup_cons.mp hnd
    rw [lookup_cons]
    rcases List.mem_cons.mp hmem with h | h
    · cases h; exact if_pos rfl
    · rw [if_neg, ih hnd' h]
      rintro rfl
      exact hk' (List.mem_map.mpr ⟨_, h, rfl⟩)

theorem mem_iff_lookup {m : Ruv} (hnd : (m.map (·.1)).Nodup) {k : Nat} {r : Range} :
    (k, r) ∈ m ↔ lookup m k = some r :=
  ⟨lookup_of_mem_nodup hnd, mem_of_lookup⟩

theorem exists_mem_iff_lookup {m : Ruv} (hnd : (m.map (·.1)).Nodup) {P : Nat × Range → Prop} :
    (∃ e ∈ m, P e) ↔ ∃ k r, lookup m k = some r ∧ P (k, r) := by
  simp only [Prod.exists, mem_iff_lookup hnd]

theorem lookup_isSome_iff (m : Ruv) (k : Nat) : (lookup m k).isSome = true ↔ ∃ r, (k, r) ∈ m := by
  fun_induction lookup m k with
  | case1 => simp  -- empty map
  | case2 r' rest => exact ⟨fun _ => ⟨r', List.mem_cons_self⟩, fun _ => rfl⟩  -- the head has the key
  | case3 k' r' rest hk ih =>  -- it has another key
    rw [ih]
    refine exists_congr fun r => ⟨List.mem_cons_of_mem _, fun h => ?_⟩
    rcases List.mem_cons.mp h with h | h
    · cases h; exact absurd rfl hk
    · exact h

theorem lookup_filter {m : Ruv} (hnd : (m.map (·.1)).Nodup) (p : Nat × Range → Bool) (k : Nat)
    (r : Range) : lookup (m.filter p) k = some r ↔ lookup m k = some r ∧ p (k, r) = true := by
  rw [← mem_iff_lookup (hnd.sublist (List.filter_sublist.map _)), ← mem_iff_lookup hnd,
    List.mem_filter]

theorem lookup_map_key {f : Nat → Range} (ks : List Nat) (k : Nat) :
    lookup (ks.map fun k => (k, f k)) k = if k ∈ ks then some (f k) else none := by
  induction ks with
  | nil => rfl
  | cons k' tl ih =>
    rw [List.map_cons, lookup_cons, ih]
    by_cases h : k' = k
    · subst h; rw [if_pos rfl, if_pos List.mem_cons_self]
    · simp only [if_neg h, List.mem_cons, Ne.symm h, false_or]

/-! ### The loop: what one supplier entry contributes to the three lists and the three flags -/

def c0 (c s : Range) : Bool := cond0 c.tsMin c.tsMax s.tsMin s.tsMax
def c1 (c s : Range) : Bool := cond1 c.tsMin c.tsMax s.tsMin s.tsMax
def c2 (c s : Range) : Bool := cond2 c.tsMin c.tsMax s.tsMin s.tsMax

def sharedOf (consumer : Ruv) (e : Nat × Range) : Bool := (lookup consumer e.1).isSome

def lagOf (consumer : Ruv) (e : Nat × Range) : Option (Nat × Range) :=
  match lookup consumer e.1 with
  | some c => if c0 c e.2 then some (e.1, ⟨e.2.tsMin, c.tsMax⟩) else none
  | none => none

def advOf (consumer : Ruv) (e : Nat × Range) : Option (Nat × Range) :=
  match lookup consumer e.1 with
  | some c => if !c0 c e.2 && c1 c e.2 then some (e.1, ⟨e.2.tsMax, c.tsMin⟩) else none
  | none => none

def diffOf (consumer : Ruv) (e : Nat × Range) : Option (Nat × Range) :=
  match lookup consumer e.1 with
  | some c => if !c0 c e.2 && !c1 c e.2 && c2 c e.2 then some (e.1, ⟨c.tsMax, e.2.tsMax⟩) else none
  | none => some (e.1, ⟨0, e.2.tsMax⟩)

theorem stepOne_eq (consumer : Ruv) (acc : Acc) (e : Nat × Range) :
    stepOne consumer acc e =
      { diff := acc.diff ++ (diffOf consumer e).toList,
        lag := acc.lag ++ (lagOf consumer e).toList,
        adv := acc.adv ++ (advOf consumer e).toList,
        consumerLagging := acc.consumerLagging || (lagOf consumer e).isSome,
        supplierLagging := acc.supplierLagging || (advOf consumer e).isSome,
        overlap := acc.overlap || sharedOf consumer e } := by
  unfold stepOne diffOf lagOf advOf sharedOf c0 c1 c2
  cases h : lookup consumer e.1 with
  | none => simp
  | some c =>
    dsimp only
    cases cond0 c.tsMin c.tsMax e.2.tsMin e.2.tsMax
    · cases cond1 c.tsMin c.tsMax e.2.tsMin e.2.tsMax
      · cases cond2 c.tsMin c.tsMax e.2.tsMin e.2.tsMax <;> simp
      · simp
    · simp

theorem toList_append_filterMap {α β : Type} (f : α → Option β) (a : α) (l : List α) :
    (f a).toList ++ l.filterMap f = (a :: l).filterMap f := by
  rw [List.filterMap_cons]; cases f a <;> rfl

theorem fold_eq (consumer : Ruv) (l : Ruv) (acc : Acc) :
    l.foldl (stepOne consumer) acc =
      { diff := acc.diff ++ l.filterMap (diffOf consumer),
        lag := acc.lag ++ l.filterMap (lagOf consumer),
        adv := acc.adv ++ l.filterMap (advOf consumer),
        consumerLagging := acc.consumerLagging || l.any (fun e => (lagOf consumer e).isSome),
        supplierLagging := acc.supplierLagging || l.any (fun e => (advOf consumer e).isSome),
        overlap := acc.overlap || l.any (sharedOf consumer) } := by
  induction l generalizing acc with
  | nil => simp only [List.foldl_nil, List.filterMap_nil, List.any_nil, List.append_nil, Bool.or_false]
  | cons e l ih =>
    rw [List.foldl_cons, ih, stepOne_eq]
    simp only [List.append_assoc, toList_append_filterMap, Bool.or_assoc, List.any_cons]

theorem rangeDiff_eq (consumer supplier : Ruv) :
    rangeDiff consumer supplier =
      finish { diff := supplier.filterMap (diffOf consumer),
               lag := supplier.filterMap (lagOf consumer),
               adv := supplier.filterMap (advOf consumer),
               consumerLagging := supplier.any (fun e => (lagOf consumer e).isSome),
               supplierLagging := supplier.any (fun e => (advOf consumer e).isSome),
               overlap := supplier.any (sharedOf consumer) } := by
  unfold rangeDiff
  rw [fold_eq]
  simp only [List.nil_append, Bool.false_or]

theorem finish_eq_iff (acc : Acc) (st : Status) :
    finish acc = st ↔
      match (generalizing := false) st with
      | .noOverlap => acc.overlap = false
      | .ok d => acc.overlap = true ∧ acc.consumerLagging = false ∧ acc.supplierLagging = false ∧
          acc.diff = d
      | .refresh l => acc.overlap = true ∧ acc.consumerLagging = true ∧ acc.supplierLagging = false ∧
          acc.lag = l
      | .unwilling a => acc.overlap = true ∧ acc.consumerLagging = false ∧ acc.supplierLagging = true ∧
          acc.adv = a
      | .critical l a => acc.overlap = true ∧ acc.consumerLagging = true ∧ acc.supplierLagging = true ∧
          acc.lag = l ∧ acc.adv = a := by
  obtain ⟨_, _, _, cl, sl, ov⟩ := acc
  constructor
  · rintro rfl
    cases ov
    · exact rfl
    · cases cl <;> cases sl
      · exact ⟨rfl, rfl, rfl, rfl⟩
      · exact ⟨rfl, rfl, rfl, rfl⟩
      · exact ⟨rfl, rfl, rfl, rfl⟩
      · exact ⟨rfl, rfl, rfl, rfl, rfl⟩
  · cases st with
    | noOverlap => rintro rfl; rfl
    | ok d => rintro ⟨rfl, rfl, rfl, rfl⟩; rfl
    | refresh l => rintro ⟨rfl, rfl, rfl, rfl⟩; rfl
    | unwilling a => rintro ⟨rfl, rfl, rfl, rfl⟩; rfl
    | critical l a => rintro ⟨rfl, rfl, rfl, rfl, rfl⟩; rfl

end Kanidm.RangeDiff
