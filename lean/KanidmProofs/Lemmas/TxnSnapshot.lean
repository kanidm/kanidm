import KanidmModel.TxnSnapshot
import KanidmProofs.Lemmas.TxnCommit
/-!
C06's reader. What it acquires depends on the writer's progress only through the values read at the scheduled instants
(`cellObsF_congr`, `mem_cellObsF`, `dbPos_of`); while the writer commits the world is `during t k`, the old one up to the
first publication and the new one after the last step, so a reader all of whose instants show one state observes that
state (`observeWith_eq`, with `observeWith_before` / `_after` as its two uses); and a cell published after `COMMIT` is
never seen new before the database is (`late_cell_new_imp_db`).
-/
namespace Kanidm.TxnSnapshot
open Kanidm.Gen.CommitOrder Kanidm.Gen.ReadOrder Kanidm.TxnCommit

theorem cellObsF_congr (v1 v2 : Cell → Nat → Nat) (as : List Acq) (ks : List Nat) :
    (∀ c, ∀ k ∈ ks, v1 c k = v2 c k) → cellObsF v1 as ks = cellObsF v2 as ks := by
  fun_induction cellObsF v1 as ks with
  | case1 c as k ks ih =>  -- a cell is acquired
    intro h
    show _ = (c, v2 c k) :: cellObsF v2 as ks
    rw [h c k (List.mem_cons_self ..), ih fun c k' hk' => h c k' (List.mem_cons_of_mem _ hk')]
  | case2 as k ks ih =>  -- `dbBegin`: nothing recorded
    exact fun h => ih fun c k' hk' => h c k' (List.mem_cons_of_mem _ hk')
  | case3 as ks h1 h2 =>  -- a list ran out
    exact fun _ => (cellObsF.eq_3 _ _ _ h1 h2).symm

theorem mem_cellObsF (val : Cell → Nat → Nat) : ∀ (as : List Acq) (ks : List Nat) (c : Cell) (v : Nat),
    (c, v) ∈ cellObsF val as ks → ∃ k ∈ ks, v = val c k := by
  intro as ks c v
  fun_induction cellObsF val as ks with
  | case1 d as k ks ih =>  -- a cell is acquired
    intro h
    rcases List.mem_cons.mp h with h | h
    · cases h
      exact ⟨k, List.mem_cons_self .., rfl⟩
    · exact (ih h).imp fun _ hk' => ⟨List.mem_cons_of_mem _ hk'.1, hk'.2⟩
  | case2 as k ks ih =>  -- `dbBegin`: nothing recorded
    exact fun h => (ih h).imp fun _ hk' => ⟨List.mem_cons_of_mem _ hk'.1, hk'.2⟩
  | case3 => nofun  -- a list ran out

theorem beginPos_mem (as : List Acq) : ∀ (ks : List Nat), as.length = ks.length → .dbBegin ∈ as →
    beginPos as ks ∈ ks := by
  induction as with
  | nil => intro ks _ h; cases h
  | cons a rest ih =>
    intro ks hl hm
    cases ks with
    | nil => cases hl
    | cons k ks =>
      cases a with
      | dbBegin => exact List.mem_cons_self ..
      | cell c =>
        rcases List.mem_cons.mp hm with hm | hm
        · cases hm
        · exact List.mem_cons_of_mem _ (ih ks (Nat.succ.inj hl) hm)

theorem beginPos_readSteps_mem (σ : Sched) (hl : σ.acq.length = readSteps.length) :
    beginPos readSteps σ.acq ∈ σ.acq :=
  beginPos_mem readSteps σ.acq hl.symm (by decide +kernel)

theorem dbPos_of (P : Nat → Prop) (d : Bool) (σ : Sched) (hl : σ.acq.length = readSteps.length)
    (hacq : ∀ k ∈ σ.acq, P k) (hsel : P σ.sel) : P (dbPos d σ) := by
  unfold dbPos
  split
  · exact hsel
  · exact hacq _ (beginPos_readSteps_mem σ hl)

theorem during_before (t : St) (k : Nat) (hk : k ≤ firstPublish flatSteps) : during t k = t :=
  applyAll_nopublish _ (any_take_firstPublish flatSteps k hk) t

theorem during_after (t : St) (k : Nat) (hk : flatSteps.length ≤ k) : during t k = applyAll flatSteps t := by
  unfold during
  rw [List.take_of_length_le hk]

/-- A reader all of whose instants show the one state `(f, g)` observes it: `oldObs` and `newObs` are of this form. -/
theorem observeWith_eq (d : Bool) (t : St) (σ : Sched) (f : Cell → Nat) (g : Nat)
    (hc : ∀ c, ∀ k ∈ σ.acq, ((during t k).cells c).committed = f c)
    (hdb : (during t (dbPos d σ)).db.committed = g) :
    observeWith d t σ = ⟨cellObsF (fun c _ => f c) readSteps σ.acq, g⟩ :=
  congr (congrArg Obs.mk (cellObsF_congr _ _ _ _ hc)) hdb

theorem observeWith_before (d : Bool) (s : St) (ops : List Op) (σ : Sched)
    (hacq : ∀ k ∈ σ.acq, k ≤ firstPublish flatSteps) (hdb : dbPos d σ ≤ firstPublish flatSteps) :
    observeWith d (applyOps s ops) σ = oldObs s σ := by
  have hc := applyOps_committed ops s
  refine observeWith_eq d _ σ _ _ (fun c k hk => ?_) ?_
  · rw [during_before _ k (hacq k hk)]
    exact hc.1 c
  · rw [during_before _ _ hdb]
    exact hc.2

theorem observeWith_after (d : Bool) (t : St) (σ : Sched) (hl : σ.acq.length = readSteps.length)
    (hacq : ∀ k ∈ σ.acq, flatSteps.length ≤ k) (hsel : flatSteps.length ≤ σ.sel) :
    observeWith d t σ = newObs t σ := by
  refine observeWith_eq d t σ _ _ (fun c k hk => ?_) ?_
  · rw [during_after _ k (hacq k hk), applyAll_cell, if_pos (flatSteps_publishes_all.1 c)]
  · rw [during_after _ _ (dbPos_of (flatSteps.length ≤ ·) d σ hl hacq hsel), applyAll_db,
      if_pos flatSteps_publishes_all.2]

/-- If a cell is published only after the SQLite commit, seeing it new implies the commit ran. -/
theorem late_cell_new_imp_db (steps : List CStep) : ∀ (k : Nat) (c : Cell),
    c ∉ publishedCells (steps.take (steps.findIdx isDbCommit + 1)) →
    c ∈ publishedCells (steps.take k) → (steps.take k).any isDbCommit = true := by
  induction steps with
  | nil => intro k c _ h; rw [List.take_nil] at h; cases h
  | cons x rest ih =>
    intro k c hn h
    cases k with
    | zero => cases h
    | succ k =>
      rw [List.take_succ_cons, List.any_cons]
      cases hx : isDbCommit x with
      | true => rfl
      | false =>
        rw [List.findIdx_cons, hx, cond_false, List.take_succ_cons, mem_publishedCells_cons, not_or] at hn
        rw [List.take_succ_cons, mem_publishedCells_cons] at h
        exact ih k c hn.2 (h.resolve_left hn.1)

end Kanidm.TxnSnapshot
