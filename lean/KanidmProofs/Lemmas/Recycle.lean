import KanidmModel.Recycle
import KanidmProofs.Lemmas.Keyed
import KanidmProofs.Lemmas.Cid
/-! C26's lemmas: what one committed transaction may do to one entry (`Evol`), to the entry list (`Shape`; the
tombstone purge is a filter, `reap_txn`) and, through the lookups, to the state (`Txn`).  A history property that speaks
of the last state only is a predicate kept by each `Txn` (`run_keeps`; `run_keeps_until` when it is kept up to a stamp);
the one stated with `Always`, which looks ahead along the path, has its induction in C26.lean over `kept_step`. -/
namespace Kanidm.Recycle
open Kanidm.Gen.Recycle

theorem eq_decide_of_iff {b : Bool} {p : Prop} [Decidable p] (h : b = true ↔ p) : b = decide p :=
  Bool.eq_iff_iff.mpr (h.trans decide_eq_true_iff.symm)

/-- Against a cut-off, which carries the nil uuid, the order of cids is the order of timestamps. -/
theorem cidLt_cut (a sid c : Nat) : Cid.cidLt ⟨a, sid⟩ ⟨c, 0⟩ = decide (a < c) :=
  eq_decide_of_iff ((Cid.cidLt_iff _ _).trans
    ⟨fun h => h.resolve_right fun h' => Nat.not_lt_zero _ h'.2, .inl⟩)

theorem subSecs_some {ts secs : Nat} {cut : Cid.Cid} (h : subSecs ts secs = some cut) :
    cut = ⟨ts - secs * NS, 0⟩ ∧ secs * NS ≤ ts := by
  unfold subSecs at h
  split at h
  · simp [subSecsUuid] at h
    exact ⟨h.symm, by assumption⟩
  · simp at h

theorem cidLt_subSecs {ts secs : Nat} {cut : Cid.Cid} (h : subSecs ts secs = some cut) (a sid : Nat) :
    Cid.cidLt ⟨a, sid⟩ cut = true ↔ a + secs * NS < ts := by
  obtain ⟨rfl, hle⟩ := subSecs_some h
  rw [cidLt_cut, decide_eq_true_iff]
  omega

theorem purgeSel_iff {ts sid : Nat} {cut : Cid.Cid} (h : subSecs ts purgeRecycledWindow = some cut)
    (e : Entry) :
    purgeSel sid cut e = true ↔ e.st = .recycled ∧ e.lastMod + recyclebinMaxAge * NS < ts := by
  simp only [purgeSel, purgeRecycledOp, cmpCid, Bool.and_eq_true, cidLt_subSecs h, beq_iff_eq,
    purgeRecycledWindow]

theorem reapSel_iff {ts sid : Nat} {trim : Cid.Cid} (h : subSecs ts trimWindow = some trim)
    (e : Entry) :
    reapSel sid trim e = true ↔ e.st = .tomb ∧ e.lastMod + changelogMaxAge * NS < ts := by
  unfold reapSel
  split
  · -- a tombstone: the trimmed range and `can_delete` make the same comparison
    simp_all only [trimRangeOp, canDeleteOp, cmpCid, Bool.and_eq_true, cidLt_subSecs h, trimWindow,
      beq_iff_eq, and_self, true_and]
  · simp_all [canDeleteLive]

theorem txnTs_gt (s : State) (ct : Nat) : s.maxTs < txnTs s ct :=
  Cid.lamport_gt ct s.maxTs

theorem txnTs_ge_clock (s : State) (ct : Nat) : ct ≤ txnTs s ct :=
  Cid.lamport_ge_clock ct s.maxTs

-- `Keyed`'s facts with the lookup spelt `find`, as `rw` needs it
theorem find_map (f : Entry → Entry) (hf : ∀ e, (f e).id = e.id) (es : List Entry) (x : Nat) :
    find (es.map f) x = (find es x).map f :=
  Keyed.find_map Entry.id (fun e _ => hf e) x

theorem find_of_mem_nodup {es : List Entry} (hnd : (es.map (·.id)).Nodup) {e : Entry} (he : e ∈ es) :
    find es e.id = some e :=
  Keyed.find_of_mem Entry.id hnd he

theorem eq_of_find_nodup {es : List Entry} (hnd : (es.map (·.id)).Nodup) {g : Nat} {ge e : Entry}
    (hg : find es g = some ge) (he : e ∈ es) (hid : e.id = g) : e = ge :=
  Keyed.eq_of_key_eq Entry.id hnd he (Keyed.find_some Entry.id hg).1 (hid.trans (Keyed.find_some Entry.id hg).2.symm)

theorem find_append (es : List Entry) (n : Entry) (x : Nat) :
    find (es ++ [n]) x = (find es x).or (if n.id == x then some n else none) := by
  simp only [find, List.find?_append, List.find?_cons, List.find?_nil]
  cases es.find? (fun e => e.id == x) <;> simp <;> split <;> simp_all

theorem isLive_iff {es : List Entry} {x : Nat} :
    isLive es x = true ↔ ∃ e, find es x = some e ∧ e.st = .live := by
  unfold isLive
  cases find es x <;> simp

theorem isLive_of_mem {es : List Entry} (hnd : (es.map (·.id)).Nodup) {e : Entry} (he : e ∈ es)
    (hl : e.st = .live) : isLive es e.id = true := by
  unfold isLive
  rw [find_of_mem_nodup hnd he]
  simpa using hl

theorem recE_id (aff : Entry → Bool) (es0 : List Entry) (e : Entry) : (recE aff es0 e).id = e.id := by
  unfold recE; split <;> rfl

/-- `apply_memberof` writes nothing but directmemberof: after `rw [recE_eq]` every other field of the
result is, by reduction, the field of `e`. -/
theorem recE_eq (aff : Entry → Bool) (es0 : List Entry) (e : Entry) :
    recE aff es0 e = { e with dmo := (recE aff es0 e).dmo } := by
  unfold recE; split <;> rfl

theorem recE_st (aff : Entry → Bool) (es0 : List Entry) (e : Entry) : (recE aff es0 e).st = e.st := by
  rw [recE_eq]

theorem recE_not_live (aff : Entry → Bool) (es0 : List Entry) (e : Entry) (h : e.st ≠ .live) :
    recE aff es0 e = e := by
  unfold recE
  have : (e.st == St.live) = false := by simpa using h
  simp [this]

theorem recE_dmo {aff : Entry → Bool} {es0 : List Entry} {e : Entry} (hl : e.st = .live)
    (ha : aff e = true) : (recE aff es0 e).dmo = dmoOf es0 e.id := by
  unfold recE; simp [hl, ha]

theorem find_recompute (aff : Entry → Bool) (es : List Entry) (x : Nat) :
    find (recompute aff es) x = (find es x).map (recE aff es) :=
  find_map _ (recE_id aff es) es x

theorem find_recompute_nonlive (aff : Entry → Bool) {es : List Entry} {y : Nat} {e : Entry}
    (hy : find es y = some e) (hnl : e.st ≠ .live) : find (recompute aff es) y = some e := by
  rw [find_recompute, hy]
  simp [recE_not_live aff es e hnl]

theorem inD_live {es : List Entry} {ids : List Nat} {e : Entry} (h : inD es ids e = true) : e.st = .live := by
  unfold inD inT inC at h
  simp only [Bool.or_eq_true, Bool.and_eq_true, beq_iff_eq] at h
  rcases h with h | h <;> exact h.1

theorem inD_of_named {es : List Entry} {ids : List Nat} {x : Nat} {e : Entry}
    (hfe : find es x = some e) (hel : e.st = .live) (hx : x ∈ ids) : inD es ids e = true := by
  simp [inD, inT, hel, (Keyed.find_some Entry.id hfe).2, hx]

theorem inR_recycled {x : Nat} {e : Entry} (h : inR x e = true) : e.st = .recycled := by
  unfold inR at h
  simp only [Bool.and_eq_true, beq_iff_eq] at h
  exact h.1

theorem unrefE_id (d : List Nat) (ts : Nat) (e : Entry) : (unrefE d ts e).id = e.id := by
  unfold unrefE; split <;> rfl

theorem recycleE_id (es : List Entry) (ids : List Nat) (ts : Nat) (e : Entry) :
    (recycleE es ids ts e).id = e.id := by
  unfold recycleE; split <;> rfl

theorem reviveE_id (x ts : Nat) (e : Entry) : (reviveE x ts e).id = e.id := by
  unfold reviveE; split <;> rfl

theorem reviveAddE_id (es : List Entry) (x : Nat) (e : Entry) : (reviveAddE es x e).id = e.id := by
  unfold reviveAddE; split <;> rfl

theorem purgeE_id (sid : Nat) (cut : Cid.Cid) (ts : Nat) (e : Entry) : (purgeE sid cut ts e).id = e.id := by
  unfold purgeE tombE; split <;> rfl

theorem addMemE_id (g m : Nat) (e : Entry) : (addMemE g m e).id = e.id := by
  unfold addMemE; split <;> rfl

theorem remMemE_id (g m : Nat) (e : Entry) : (remMemE g m e).id = e.id := by
  unfold remMemE; split <;> rfl

theorem reviveE_of_inR {x ts : Nat} {e : Entry} (h : inR x e = true) :
    reviveE x ts e =
      { e with st := .live, lastMod := ts, refers := revRefers e, casc := none, rdmo := [] } := by
  unfold reviveE; rw [if_pos h]; rfl

theorem reviveE_not_inR {x ts : Nat} {e : Entry} (h : inR x e = false) : reviveE x ts e = e := by
  unfold reviveE; simp [h]

theorem reviveAddE_eq (es : List Entry) (x : Nat) (e : Entry) :
    reviveAddE es x e = { e with member := (reviveAddE es x e).member } := by
  unfold reviveAddE; split <;> rfl

/-- `to_tombstone` leaves nothing but uuid, class and cids. -/
def Wiped (e : Entry) : Prop :=
  e.member = [] ∧ e.dmo = [] ∧ e.rdmo = [] ∧ e.refers = none ∧ e.casc = none

/-- What one committed transaction stamped `ts` can do to an entry that stays in the database;
`del` = the uuids this transaction moved into the recycle bin. -/
inductive Evol (ts : Nat) (del : List Nat) (e e' : Entry) : Prop
  | stay (hst : e'.st = e.st) (hmod : e'.lastMod = e.lastMod ∨ e'.lastMod = ts)
      (htomb : e.st = .tomb → e' = e)
      (hbin : e.st = .recycled → e'.casc = e.casc ∧ ∀ g ∈ e.rdmo, g ∈ e'.rdmo ∨ g ∈ del)
  | recycle (h : e.st = .live) (h' : e'.st = .recycled) (hmod : e'.lastMod = ts)
  | revive (h : e.st = .recycled) (h' : e'.st = .live)
  | bury (h : e.st = .recycled) (h' : e'.st = .tomb) (hmod : e'.lastMod = ts)
      (hage : e.lastMod + recyclebinMaxAge * NS < ts) (hw : Wiped e')

theorem Evol.refl (ts : Nat) (del : List Nat) (e : Entry) : Evol ts del e e :=
  .stay rfl (.inl rfl) (fun _ => rfl) fun _ => ⟨rfl, fun _ hg => .inl hg⟩

theorem Evol.tomb {ts : Nat} {del : List Nat} {e e' : Entry} (h : Evol ts del e e')
    (ht : e.st = .tomb) : e' = e := by
  cases h with
  | stay _ _ htomb _ => exact htomb ht
  | recycle h _ _ | revive h _ | bury h _ _ _ _ => rw [ht] at h; cases h

theorem Evol.bin {ts : Nat} {del : List Nat} {e e' : Entry} (h : Evol ts del e e')
    (hr : e.st = .recycled) (hr' : e'.st = .recycled) :
    e'.casc = e.casc ∧ ∀ g ∈ e.rdmo, g ∈ e'.rdmo ∨ g ∈ del := by
  cases h with
  | stay _ _ _ hbin => exact hbin hr
  | recycle h _ _ => rw [hr] at h; cases h
  | revive _ h' | bury _ h' _ _ _ => rw [hr'] at h'; cases h'

theorem Evol.through_rec {ts : Nat} {del : List Nat} {e e1 : Entry} (h : Evol ts del e e1)
    (aff : Entry → Bool) (es0 : List Entry) : Evol ts del e (recE aff es0 e1) := by
  by_cases hl : e1.st = .live
  · -- only the directmemberof of a live entry is recomputed
    rw [recE_eq]
    cases h with
    | stay hst hmod _ _ =>
      exact .stay hst hmod (fun ht => by rw [hst, ht] at hl; cases hl)
        (fun hr => by rw [hst, hr] at hl; cases hl)
    | recycle _ h' _ | bury _ h' _ _ _ => rw [hl] at h'; cases h'
    | revive h _ => exact .revive h hl
  · rw [recE_not_live aff es0 e1 hl]; exact h

theorem Evol.member_only (ts : Nat) (del : List Nat) (e : Entry) (ms : List Nat) (c : Bool)
    (hc : e.st = .tomb → c = false) : Evol ts del e (if c then { e with member := ms } else e) := by
  cases c with
  | false => exact Evol.refl ts del e
  | true => exact .stay rfl (.inl rfl) (fun h => nomatch hc h) fun _ => ⟨rfl, fun _ hg => .inl hg⟩

theorem refsAny_wiped {d : List Nat} {e : Entry} (h : Wiped e) : refsAny d e = false := by
  obtain ⟨h1, h2, h3, h4, _⟩ := h
  simp [refsAny, h1, h2, h3, h4]

theorem recycleE_of_inD {es : List Entry} {ids : List Nat} (ts : Nat) {e : Entry}
    (hD : inD es ids e = true) :
    recycleE es ids ts e = { e with
      st := .recycled, lastMod := ts, rdmo := e.dmo, dmo := [],
      casc := if inC es ids e then e.refers else e.casc } := by
  simp [recycleE, hD, preDeleteStashesDmo, deleteMarksCascade]

/-- What `refint::remove_references` of the uuids `d`, in a transaction stamped `ts`, leaves (`r'`) of an
entry `r`. -/
structure Unref (d : List Nat) (ts : Nat) (r r' : Entry) : Prop where
  st : r'.st = r.st
  lastMod : r'.lastMod = r.lastMod ∨ r'.lastMod = ts
  wiped : Wiped r → r' = r
  casc : r'.casc = r.casc
  stash : ∀ g ∈ r.rdmo, g ∈ r'.rdmo ∨ g ∈ d

theorem unrefE_stay (d : List Nat) (ts : Nat) (r : Entry) : Unref d ts r (unrefE d ts r) := by
  unfold unrefE
  split
  · rename_i hrf
    refine ⟨rfl, .inr rfl, fun hw => ?_, rfl, fun g hg => ?_⟩
    · rw [refsAny_wiped hw] at hrf; cases hrf
    · by_cases hgd : g ∈ d
      · exact .inr hgd
      · exact .inl (List.mem_filter.mpr ⟨hg, by simpa using hgd⟩)
  · exact ⟨rfl, .inl rfl, fun _ => rfl, rfl, fun g hg => .inl hg⟩

/-- What a delete stamped `ts` leaves (`e'`) of an entry `e` it takes: in the bin, stamped, its direct memberships
stashed but for the groups `gone` with the same delete, and, if it went as a dependent (`dep`), marked with what it
referred to. -/
structure Recycled (ts : Nat) (gone : Nat → Prop) (dep : Prop) (e e' : Entry) : Prop where
  st : e'.st = .recycled
  lastMod : e'.lastMod = ts
  stash : ∀ g ∈ e.dmo, g ∈ e'.rdmo ∨ gone g
  mark : dep → e'.casc = e.refers

theorem unref_recycle_of_inD (es : List Entry) (ids d : List Nat) (ts : Nat) {e : Entry}
    (hD : inD es ids e = true) :
    Recycled ts (· ∈ d) (inC es ids e = true) e (unrefE d ts (recycleE es ids ts e)) := by
  have u := unrefE_stay d ts (recycleE es ids ts e)
  rw [recycleE_of_inD ts hD] at u ⊢
  exact ⟨u.st, u.lastMod.elim id id, u.stash, fun hC => by rw [u.casc]; simp [hC]⟩

theorem evol_delete (es : List Entry) (ids d : List Nat) (ts : Nat) (e : Entry)
    (hw : e.st = .tomb → Wiped e) : Evol ts d e (unrefE d ts (recycleE es ids ts e)) := by
  by_cases hD : inD es ids e = true
  · have h := unref_recycle_of_inD es ids d ts hD
    exact .recycle (inD_live hD) h.st h.lastMod
  · have hr : recycleE es ids ts e = e := by unfold recycleE; rw [if_neg hD]
    rw [hr]
    have u := unrefE_stay d ts e
    exact .stay u.st u.lastMod (fun h => u.wiped (hw h)) fun _ => ⟨u.casc, u.stash⟩

theorem evol_revive (es : List Entry) (x ts : Nat) (e : Entry) :
    Evol ts [] e (reviveAddE es x (reviveE x ts e)) := by
  by_cases hR : inR x e = true
  · exact .revive (inR_recycled hR) (by rw [reviveAddE_eq, reviveE_of_inR hR])
  · rw [reviveE_not_inR (by simpa using hR)]
    unfold reviveAddE
    exact Evol.member_only ts [] e _ _ (fun h => by simp [h])

theorem evol_purge {ts sid : Nat} {cut : Cid.Cid} (h : subSecs ts purgeRecycledWindow = some cut)
    (e : Entry) : Evol ts [] e (purgeE sid cut ts e) := by
  unfold purgeE
  split
  · rename_i hs
    obtain ⟨hrec, hlt⟩ := (purgeSel_iff h e).mp hs
    exact .bury hrec rfl rfl hlt ⟨rfl, rfl, rfl, rfl, rfl⟩
  · exact Evol.refl ts [] e

structure Inv (s : State) : Prop where
  nodup : (s.es.map (·.id)).Nodup
  /-- entries outside the live state were last stamped by a committed transaction -/
  stamp : ∀ e ∈ s.es, e.st ≠ .live → e.lastMod ≤ s.maxTs
  wiped : ∀ e ∈ s.es, e.st = .tomb → Wiped e

/-- The entries after a successful operation other than the tombstone purge: every old entry rewritten by some `F`
that keeps uuids and evolves each entry legally, plus at most one new live entry with a fresh uuid; every uuid in
`del` is an old entry that `F` moves into the bin. -/
def Shape (es : List Entry) (ts : Nat) (del : List Nat) (es' : List Entry) : Prop :=
  ∃ (F : Entry → Entry) (nw : Option Entry),
    es' = es.map F ++ nw.toList ∧ (∀ e, (F e).id = e.id) ∧ (∀ e ∈ es, Evol ts del e (F e)) ∧
    (∀ n ∈ nw, n.st = .live ∧ find es n.id = none) ∧
    (∀ g ∈ del, ∃ ge ∈ es, ge.id = g ∧ (F ge).st = .recycled)

theorem Shape.map (es : List Entry) (ts : Nat) (del : List Nat) (F : Entry → Entry)
    (hid : ∀ e, (F e).id = e.id) (hev : ∀ e ∈ es, Evol ts del e (F e))
    (hdel : ∀ g ∈ del, ∃ ge ∈ es, ge.id = g ∧ (F ge).st = .recycled) : Shape es ts del (es.map F) :=
  ⟨F, none, (List.append_nil _).symm, hid, hev, (fun _ h => nomatch h), hdel⟩

theorem Shape.same (es : List Entry) (ts : Nat) : Shape es ts [] es := by
  simpa using Shape.map es ts [] id (fun _ => rfl) (fun e _ => Evol.refl ts [] e) (fun _ h => nomatch h)

theorem Shape.map_rec (es : List Entry) (ts : Nat) (del : List Nat) (aff : Entry → Bool) (G : Entry → Entry)
    (hid : ∀ e, (G e).id = e.id) (hev : ∀ e ∈ es, Evol ts del e (G e))
    (hdel : ∀ g ∈ del, ∃ ge ∈ es, ge.id = g ∧ (G ge).st = .recycled) :
    Shape es ts del (recompute aff (es.map G)) := by
  rw [recompute, List.map_map]
  refine Shape.map es ts del _ (fun e => (recE_id _ _ _).trans (hid e))
    (fun e he => (hev e he).through_rec aff _) fun g hg => ?_
  obtain ⟨ge, he, hid', hst⟩ := hdel g hg
  exact ⟨ge, he, hid', (recE_st _ _ _).trans hst⟩

theorem Shape.rec (es : List Entry) (ts : Nat) (aff : Entry → Bool) : Shape es ts [] (recompute aff es) :=
  Shape.map es ts [] _ (recE_id aff es) (fun e _ => (Evol.refl ts [] e).through_rec aff es) (fun _ h => nomatch h)

theorem opCreate_ok {es : List Entry} {ts id : Nat} {k : Kind} {ms : List Nat} {r : Option Nat}
    {es' : List Entry} {n : Option Nat} (h : opCreate es ts id k ms r = .ok es' n) :
    find es id = none ∧
    es' = recompute (fun e => e.id == id || ms.contains e.id) (es ++ [newEntry id k ts ms r]) := by
  revert h
  fun_cases opCreate es ts id k ms r
  -- accepted: an entry without a reference, or with one that passed the three refint checks
  case case4 | case8 =>
    intro h
    cases (Res.ok.inj h).1
    exact ⟨Option.not_isSome_iff_eq_none.mp ‹_›, rfl⟩
  all_goals nofun

theorem opCreate_shape {es : List Entry} {ts id : Nat} {k : Kind} {ms : List Nat} {r : Option Nat}
    {es' : List Entry} {n : Option Nat} (h : opCreate es ts id k ms r = .ok es' n) : Shape es ts [] es' := by
  obtain ⟨hnone, rfl⟩ := opCreate_ok h
  generalize (fun e : Entry => e.id == id || ms.contains e.id) = aff
  refine ⟨recE aff (es ++ [newEntry id k ts ms r]), some (recE aff (es ++ [newEntry id k ts ms r]) (newEntry id k ts ms r)),
    by simp [recompute], recE_id _ _, fun e _ => (Evol.refl ts [] e).through_rec _ _, ?_, (fun _ h => nomatch h)⟩
  rintro _ ⟨⟩
  exact ⟨recE_st _ _ _, by rw [recE_id]; exact hnone⟩

theorem Shape.edit_member (es : List Entry) (hnd : (es.map (·.id)).Nodup) {g : Nat} {ge : Entry}
    (hg : find es g = some ge) (hl : ge.st = .live) (ts : Nat) (aff : Entry → Bool)
    (f : Entry → List Nat) :
    Shape es ts [] (recompute aff (es.map fun e => if e.id == g then { e with member := f e } else e)) := by
  refine Shape.map_rec es ts [] aff _ (fun e => by split <;> rfl) (fun e he => ?_) (by simp)
  refine Evol.member_only ts [] e _ _ (fun ht => ?_)
  by_cases hid : e.id = g
  · rw [eq_of_find_nodup hnd hg he hid, hl] at ht; cases ht
  · simpa using hid

theorem opAdd_ok {es : List Entry} {g m : Nat} {es' : List Entry} {n : Option Nat}
    (h : opAdd es g m = .ok es' n) :
    es' = es ∨ es' = recompute (fun e => e.id == g) es ∨
    ∃ ge, find es g = some ge ∧ ge.st = .live ∧
      es' = recompute (fun e => e.id == g || e.id == m) (es.map (addMemE g m)) := by
  revert h
  fun_cases opAdd es g m <;> intro h <;> cases h
  -- no entry `g`, or not a live one: nothing is written
  case case1 | case2 => exact .inl rfl
  -- `m` is a member already: only the recomputation
  case case5 => exact .inr (.inl rfl)
  -- `m` is added
  case case7 ge hg hl _ _ _ _ => exact .inr (.inr ⟨ge, hg, by simpa using hl, rfl⟩)

theorem opRem_ok {es : List Entry} {g m : Nat} {es' : List Entry} {n : Option Nat}
    (h : opRem es g m = .ok es' n) :
    es' = es ∨ es' = recompute (fun e => e.id == g) es ∨
    ∃ ge, find es g = some ge ∧ ge.st = .live ∧
      es' = recompute (fun e => e.id == g || e.id == m) (es.map (remMemE g m)) := by
  revert h
  fun_cases opRem es g m <;> intro h <;> cases h
  -- no entry `g`, or not a live one: nothing is written
  case case1 | case2 => exact .inl rfl
  -- `m` is no member: only the recomputation
  case case3 => exact .inr (.inl rfl)
  -- `m` is removed
  case case4 ge hg hl _ => exact .inr (.inr ⟨ge, hg, by simpa using hl, rfl⟩)

theorem opDelete_ok {es : List Entry} {ts : Nat} {ids : List Nat} {es' : List Entry} {n : Option Nat}
    (h : opDelete es ts ids = .ok es' n) :
    ∃ aff, es' = recompute aff
      (es.map fun e => unrefE ((es.filter (inD es ids)).map (·.id)) ts (recycleE es ids ts e)) := by
  revert h
  fun_cases opDelete es ts ids <;> intro h <;> cases h
  exact ⟨_, by rw [List.map_map]; rfl⟩

/-- The entries after an accepted `revive_recycled` of `x`. -/
def revived (es : List Entry) (ts x : Nat) : List Entry :=
  recompute
    (fun e => ((es.filter (inR x)).map (·.id)).contains e.id ||
      (es.any (fun e => inR x e && e.kind == .person) && e.kind == .person))
    (es.map (fun e => reviveAddE es x (reviveE x ts e)))

theorem opRevive_ok {es : List Entry} {ts x : Nat} {es' : List Entry} {n : Option Nat}
    (h : opRevive es ts x = .ok es' n) :
    ∃ xe, find es x = some xe ∧ xe.st = .recycled ∧ n = none ∧ es' = revived es ts x := by
  revert h
  fun_cases opRevive es ts x <;> intro h <;> cases h
  exact ⟨_, ‹find es x = some _›, by simpa using ‹¬(_ != St.recycled) = true›, rfl,
    by rw [List.map_map]; rfl⟩

theorem opRevive_eq {es : List Entry} {ts x : Nat} {xe : Entry} (hx : find es x = some xe)
    (hr : xe.st = .recycled)
    (hchk : ∀ e ∈ es, inR x e = true →
      (e.kind == .cert && (revRefers e).isNone) = false ∧
      reviveRefBad (es.map (reviveE x ts)) e = false ∧ reviveLoopBad (es.map (reviveE x ts)) e = false) :
    opRevive es ts x = .ok (revived es ts x) none := by
  have hany : ∀ q : Entry → Bool, (∀ e ∈ es, inR x e = true → q e = false) →
      es.any (fun e => inR x e && q e) = false := fun q hq => by
    rw [List.any_eq_false]
    intro e he
    cases hR : inR x e
    · simp
    · simp [hq e he hR]
  have h1 := hany _ fun e he h => (hchk e he h).1
  simp only [← Bool.and_assoc] at h1
  unfold opRevive
  simp only [hx]
  have : (xe.st != St.recycled) = false := by rw [hr]; decide
  simp only [this, h1, hany _ fun e he h => (hchk e he h).2.1, hany _ fun e he h => (hchk e he h).2.2,
    Bool.false_eq_true, if_false, List.map_map]
  rfl

theorem opPurgeRecycled_ok {es : List Entry} {ts sid : Nat} {es' : List Entry} {n : Option Nat}
    (h : opPurgeRecycled es ts sid = .ok es' n) :
    ∃ cut, subSecs ts purgeRecycledWindow = some cut ∧ es' = es.map (purgeE sid cut ts) ∧
      n = some (es.filter (purgeSel sid cut)).length := by
  revert h
  fun_cases opPurgeRecycled es ts sid <;> intro h <;> cases h
  exact ⟨_, ‹_›, rfl, rfl⟩

theorem applyOp_shape {s : State} (hi : Inv s) {ts : Nat} {trim : Cid.Cid} {op : Op}
    {es' : List Entry} {n : Option Nat} (hop : op ≠ .purgeTombstones)
    (h : applyOp s ts trim op = .ok es' n) : ∃ del, Shape s.es ts del es' := by
  cases op <;> simp only [applyOp] at h
  case createPerson id => exact ⟨_, opCreate_shape h⟩
  case createGroup id ms => exact ⟨_, opCreate_shape h⟩
  case createCert id p => exact ⟨_, opCreate_shape h⟩
  case addMember g m =>
    rcases opAdd_ok h with rfl | rfl | ⟨ge, hg, hl, rfl⟩
    · exact ⟨_, Shape.same _ ts⟩
    · exact ⟨_, Shape.rec _ ts _⟩
    · exact ⟨_, Shape.edit_member _ hi.nodup hg hl ts _ (fun e => e.member ++ [m])⟩
  case remMember g m =>
    rcases opRem_ok h with rfl | rfl | ⟨ge, hg, hl, rfl⟩
    · exact ⟨_, Shape.same _ ts⟩
    · exact ⟨_, Shape.rec _ ts _⟩
    · exact ⟨_, Shape.edit_member _ hi.nodup hg hl ts _ (fun e => e.member.filter (· != m))⟩
  case touch x => cases h; exact ⟨_, Shape.rec _ _ _⟩
  case delete ids =>
    obtain ⟨aff, rfl⟩ := opDelete_ok h
    refine ⟨_, Shape.map_rec s.es ts _ aff _ (fun e => by rw [unrefE_id, recycleE_id])
      (fun e he => evol_delete s.es ids _ ts e (hi.wiped e he)) ?_⟩
    intro g hg
    obtain ⟨ge, hge, rfl⟩ := List.mem_map.mp hg
    obtain ⟨he, hD⟩ := List.mem_filter.mp hge
    exact ⟨ge, he, rfl, (unref_recycle_of_inD s.es ids _ ts hD).st⟩
  case revive x =>
    obtain ⟨_, _, _, _, rfl⟩ := opRevive_ok h
    exact ⟨_, Shape.map_rec s.es ts [] _ _ (fun e => by rw [reviveAddE_id, reviveE_id])
      (fun e _ => evol_revive s.es x ts e) (by simp)⟩
  case purgeRecycled =>
    obtain ⟨cut, hcut, rfl, _⟩ := opPurgeRecycled_ok h
    exact ⟨_, Shape.map _ ts [] _ (purgeE_id s.sid cut ts) (fun e _ => evol_purge hcut e) (fun _ h => nomatch h)⟩
  case purgeTombstones => exact absurd rfl hop

theorem apply_ok {s : State} {ct : Nat} {op : Op} {es' : List Entry} {n : Option Nat}
    (h : apply s ct op = .ok es' n) :
    ∃ trim, subSecs (txnTs s ct) trimWindow = some trim ∧ applyOp s (txnTs s ct) trim op = .ok es' n := by
  revert h
  fun_cases apply s ct op
  · -- no trim cut-off below this clock: refused
    nofun
  · -- the cut-off `trim`
    exact fun h => ⟨_, ‹_›, h⟩

theorem next_eq (s : State) (ct : Nat) (op : Op) :
    next s ct op = s ∨ ∃ trim es' n, subSecs (txnTs s ct) trimWindow = some trim ∧
      applyOp s (txnTs s ct) trim op = .ok es' n ∧
      next s ct op = { s with es := es', maxTs := txnTs s ct } := by
  fun_cases next s ct op
  -- accepted and committed
  case case1 es' n hap _ =>
    obtain ⟨trim, hsub, h⟩ := apply_ok hap
    exact .inr ⟨trim, es', n, hsub, h, rfl⟩
  all_goals exact .inl rfl

theorem shape_inv {s : State} (hi : Inv s) {ts : Nat} (hts : s.maxTs < ts) {es' : List Entry}
    {del : List Nat} (h : Shape s.es ts del es') : Inv { s with es := es', maxTs := ts } := by
  obtain ⟨F, nw, rfl, hid, hev, hnw, _⟩ := h
  have hmem : ∀ e' ∈ s.es.map F ++ nw.toList, e'.st = .live ∨ ∃ e ∈ s.es, Evol ts del e e' := by
    intro e' he'
    rcases List.mem_append.mp he' with he' | he'
    · obtain ⟨e, he, rfl⟩ := List.mem_map.mp he'
      exact .inr ⟨e, he, hev e he⟩
    · exact .inl (hnw e' (Option.mem_toList.mp he')).1
  refine ⟨?_, ?_, ?_⟩
  · refine Keyed.nodup_append Entry.id (Keyed.nodup_map Entry.id (fun e _ => hid e) hi.nodup)
      (by cases nw <;> simp) fun e' he' n hn => ?_
    obtain ⟨e, he, rfl⟩ := List.mem_map.mp he'
    rw [hid]
    exact (Keyed.find_none_iff Entry.id).mp (hnw n (Option.mem_toList.mp hn)).2 e he
  · intro e' he' hnl
    obtain ⟨e, he, ev⟩ := (hmem e' he').resolve_left hnl
    have := hi.stamp e he
    show e'.lastMod ≤ ts
    cases ev with
    | stay hst hmod _ _ => rw [← hst] at this; have := this hnl; omega
    | recycle _ _ hmod | bury _ _ hmod _ _ => omega
    | revive _ h' => exact absurd h' hnl
  · intro e' he' ht
    obtain ⟨e, he, ev⟩ := (hmem e' he').resolve_left (by rw [ht]; decide)
    cases ev with
    | stay hst _ htomb _ => rw [htomb (hst ▸ ht)]; exact hi.wiped e he (hst ▸ ht)
    | recycle _ h' _ | revive _ h' => rw [ht] at h'; cases h'
    | bury _ _ _ _ hw => exact hw

/-- `s'` is `s` after one committed transaction `op` stamped `ts`, seen through the lookups; `del` =
the uuids it moved into the recycle bin. -/
structure Txn (s s' : State) (ts : Nat) (op : Op) (del : List Nat) : Prop where
  inv : Inv s'
  later : s.maxTs < ts
  maxTs : s'.maxTs = ts
  dead : ∀ g ∈ del, ∃ ge', find s'.es g = some ge' ∧ ge'.st = .recycled
  old : ∀ x e, find s.es x = some e →
    (∃ e', find s'.es x = some e' ∧ Evol ts del e e') ∨
    (find s'.es x = none ∧ op = .purgeTombstones ∧ e.st = .tomb ∧ e.lastMod + changelogMaxAge * NS < ts)

theorem Txn.mono {s s' : State} {ts : Nat} {op : Op} {del : List Nat} (t : Txn s s' ts op del) :
    s.maxTs ≤ s'.maxTs := by
  have := t.later
  have := t.maxTs
  omega

theorem Shape.txn {s : State} (hi : Inv s) {ts : Nat} (hts : s.maxTs < ts) {es' : List Entry}
    {del : List Nat} (op : Op) (h : Shape s.es ts del es') :
    Txn s { s with es := es', maxTs := ts } ts op del := by
  have hinv := shape_inv hi hts h
  obtain ⟨F, nw, rfl, hid, hev, _, hdel⟩ := h
  have hfind : ∀ y e, find s.es y = some e → find (s.es.map F ++ nw.toList) y = some (F e) :=
    fun y e he => by rw [find, List.find?_append, ← find, find_map F hid, he]; rfl
  refine ⟨hinv, hts, rfl, fun g hg => ?_,
    fun x e he => .inl ⟨F e, hfind x e he, hev e (Keyed.find_some Entry.id he).1⟩⟩
  obtain ⟨ge, he, rfl, hst⟩ := hdel g hg
  exact ⟨F ge, hfind _ ge (find_of_mem_nodup hi.nodup he), hst⟩

theorem reap_txn {s : State} (hi : Inv s) {ts : Nat} (hts : s.maxTs < ts) {trim : Cid.Cid}
    (hsub : subSecs ts trimWindow = some trim) :
    Txn s { s with es := s.es.filter (fun e => !reapSel s.sid trim e), maxTs := ts } ts
      .purgeTombstones [] := by
  have hnd : ((s.es.filter fun e => !reapSel s.sid trim e).map (·.id)).Nodup :=
    (List.filter_sublist.map _).nodup hi.nodup
  refine ⟨⟨hnd, fun e he hnl => ?_, fun e he => hi.wiped e (List.mem_filter.mp he).1⟩, hts, rfl, (fun _ h => nomatch h),
    fun x e he => ?_⟩
  · have := hi.stamp e (List.mem_filter.mp he).1 hnl
    show e.lastMod ≤ ts
    omega
  · have hf := Keyed.find_filter Entry.id hi.nodup (fun e => !reapSel s.sid trim e) he
    by_cases hr : reapSel s.sid trim e = true
    · exact .inr ⟨by rw [find, hf, hr]; rfl, rfl, (reapSel_iff hsub e).mp hr⟩
    · exact .inl ⟨e, by rw [find, hf, Bool.eq_false_iff.mpr hr]; rfl, Evol.refl _ _ e⟩

/-- A transaction is dropped (refused, or a purge that touched nothing), or it is a `Txn`. -/
theorem next_txn {s : State} (hi : Inv s) (ct : Nat) (op : Op) :
    next s ct op = s ∨ ∃ del, Txn s (next s ct op) (txnTs s ct) op del := by
  rcases next_eq s ct op with h | ⟨trim, es', n, hsub, hap, hnext⟩
  · exact .inl h
  · refine .inr ?_
    rw [hnext]
    by_cases hop : op = .purgeTombstones
    · subst hop
      cases hap
      exact ⟨[], reap_txn hi (txnTs_gt s ct) hsub⟩
    · obtain ⟨del, hsh⟩ := applyOp_shape hi hop hap
      exact ⟨del, hsh.txn hi (txnTs_gt s ct) op⟩

theorem inv_next {s : State} (hi : Inv s) (ct : Nat) (op : Op) : Inv (next s ct op) := by
  rcases next_txn hi ct op with h | ⟨_, t⟩
  · rw [h]; exact hi
  · exact t.inv

theorem run_keeps {P : State → Prop}
    (step : ∀ {s s' : State} {ts : Nat} {op : Op} {del : List Nat}, Txn s s' ts op del → P s → P s') :
    ∀ (steps : List (Nat × Op)) {s : State}, Inv s → P s → Inv (run s steps) ∧ P (run s steps)
  | [], _, hi, hp => ⟨hi, hp⟩
  | (ct, op) :: rest, s, hi, hp => by
    rcases next_txn hi ct op with h | ⟨_, t⟩
    · simp only [run, h]; exact run_keeps step rest hi hp
    · exact run_keeps step rest t.inv (step t hp)

theorem inv_run {s : State} (hi : Inv s) (steps : List (Nat × Op)) : Inv (run s steps) :=
  (run_keeps (P := fun _ => True) (fun _ _ => trivial) steps hi trivial).1

theorem run_keeps_until {P : State → Prop} {b : Nat}
    (step : ∀ {s s' : State} {ts : Nat} {op : Op} {del : List Nat}, Txn s s' ts op del → ts ≤ b → P s → P s')
    (steps : List (Nat × Op)) {s : State} (hi : Inv s) (hp : P s) (hb : (run s steps).maxTs ≤ b) :
    P (run s steps) :=
  (run_keeps (P := fun s => s.maxTs ≤ b → P s)
    (fun t h hw => step t (t.maxTs ▸ hw) (h (Nat.le_trans t.mono hw))) steps hi fun _ => hp).2 hb

theorem inv_empty (m sid : Nat) : Inv ⟨[], m, sid⟩ :=
  ⟨by simp, by simp, by simp⟩

theorem next_delete {s : State} {ct : Nat} {ids : List Nat} {es' : List Entry} {n : Option Nat}
    (h : apply s ct (.delete ids) = .ok es' n) :
    next s ct (.delete ids) = { s with es := es', maxTs := txnTs s ct } := by
  unfold next; rw [h]; simp [commits]

theorem delete_entries {s : State} {ct : Nat} {ids : List Nat} {es' : List Entry} {n : Option Nat}
    (h : apply s ct (.delete ids) = .ok es' n) :
    ∃ F : Entry → Entry, (∀ x e, find s.es x = some e → find es' x = some (F e)) ∧
      ∀ e, inD s.es ids e = true →
        Recycled (txnTs s ct) (fun g => ∃ ge ∈ s.es, ge.id = g ∧ inD s.es ids ge = true)
          (inC s.es ids e = true) e (F e) := by
  obtain ⟨trim, _, hap⟩ := apply_ok h
  obtain ⟨aff, rfl⟩ := opDelete_ok hap
  refine ⟨_, fun x e hfe => by
    rw [find_recompute, find_map _ (fun a => by rw [unrefE_id, recycleE_id]), hfe]; rfl, fun e hD => ?_⟩
  have h := unref_recycle_of_inD s.es ids ((s.es.filter (inD s.es ids)).map (·.id)) (txnTs s ct) hD
  rw [recE_eq]
  refine ⟨h.st, h.lastMod, fun g hg => (h.stash g hg).imp_right fun hgd => ?_, h.mark⟩
  obtain ⟨ge, hge, rfl⟩ := List.mem_map.mp hgd
  exact ⟨ge, (List.mem_filter.mp hge).1, rfl, (List.mem_filter.mp hge).2⟩

theorem delete_cascade {s : State} {ct : Nat} {ids : List Nat} {es' : List Entry}
    {n : Option Nat} (h : apply s ct (.delete ids) = .ok es' n) {x c : Nat} {e ce : Entry}
    (hfe : find s.es x = some e) (hel : e.st = .live) (hx : x ∈ ids)
    (hfc : find s.es c = some ce) (hcl : ce.st = .live) (hcr : ce.refers = some x) :
    ∃ ce', find es' c = some ce' ∧ ce'.st = .recycled ∧ ce'.casc = some x := by
  obtain ⟨F, hf, hF⟩ := delete_entries h
  have hme := Keyed.find_some Entry.id hfe
  have hC : inC s.es ids ce = true := by
    simp only [inC, hcl, hcr, beq_self_eq_true, Bool.true_and, List.any_eq_true, Bool.and_eq_true,
      beq_iff_eq]
    exact ⟨e, hme.1, by simp [inT, hel, hme.2, hx], hme.2⟩
  have h := hF ce (show inD s.es ids ce = true by simp [inD, hC])
  exact ⟨_, hf c ce hfc, h.st, (h.mark hC).trans hcr⟩

/-- `x` is in the database and not a tombstone, and if it is in the bin it was put there at `d` or later:
kept by every transaction stamped at most `d + RECYCLEBIN_MAX_AGE`. -/
def Retained (d x : Nat) (s : State) : Prop :=
  d ≤ s.maxTs ∧ ∃ e, find s.es x = some e ∧ e.st ≠ .tomb ∧ (e.st = .recycled → d ≤ e.lastMod)

theorem Txn.retained {d x : Nat} {s s' : State} {ts : Nat} {op : Op} {del : List Nat}
    (t : Txn s s' ts op del) (hts : ts ≤ d + recyclebinMaxAge * NS) (h : Retained d x s) :
    Retained d x s' := by
  obtain ⟨hd, e, hfe, hnt, hrd⟩ := h
  have hgt := t.later
  refine ⟨Nat.le_trans hd t.mono, ?_⟩
  rcases t.old x e hfe with ⟨e', hfe', ev⟩ | ⟨_, _, ht, _⟩
  · refine ⟨e', hfe', ?_⟩
    cases ev with
    | stay hst hmod _ _ => rw [hst]; exact ⟨hnt, fun hr => by have := hrd hr; omega⟩
    | recycle _ h' hmod => rw [h']; exact ⟨by decide, fun _ => by omega⟩
    | revive _ h' => rw [h']; exact ⟨by decide, nofun⟩
    | bury h _ _ hage _ => have := hrd h; omega
  · exact absurd ht hnt

theorem Txn.tomb {s s' : State} {ts : Nat} {op : Op} {del : List Nat} (t : Txn s s' ts op del)
    {x : Nat} {e : Entry} (hx : find s.es x = some e) (ht : e.st = .tomb) :
    find s'.es x = some e ∨
    (find s'.es x = none ∧ op = .purgeTombstones ∧ e.lastMod + changelogMaxAge * NS < ts) := by
  rcases t.old x e hx with ⟨e', hfe', ev⟩ | ⟨h1, h2, _, h4⟩
  · rw [ev.tomb ht] at hfe'; exact .inl hfe'
  · exact .inr ⟨h1, h2, h4⟩

/-- `P` holds in every state the history passes through (the first and the last included). -/
def Always (P : State → Prop) : State → List (Nat × Op) → Prop
  | s, [] => P s
  | s, (ct, op) :: rest => P s ∧ Always P (next s ct op) rest

def InBin (x : Nat) (s : State) : Prop := ∃ e, find s.es x = some e ∧ e.st = .recycled

def LiveGroupIn (g : Nat) (s : State) : Prop :=
  ∃ ge, find s.es g = some ge ∧ ge.st = .live ∧ ge.kind = .group

theorem Always.head {P : State → Prop} : ∀ {s : State} {steps : List (Nat × Op)}, Always P s steps → P s
  | _, [], h => h
  | _, _ :: _, h => h.1

theorem Always.tail {P : State → Prop} {s : State} {ct : Nat} {op : Op} {rest : List (Nat × Op)}
    (h : Always P s ((ct, op) :: rest)) : Always P (next s ct op) rest :=
  h.2

theorem Always.last {P : State → Prop} : ∀ (steps : List (Nat × Op)) (s : State), Always P s steps → P (run s steps)
  | [], _, h => h
  | (ct, op) :: rest, s, h => Always.last rest (next s ct op) h.2

theorem kept_step {s : State} (hi : Inv s) {x : Nat} {e : Entry} (hx : find s.es x = some e)
    (hr : e.st = .recycled) (ct : Nat) (op : Op) (hx' : InBin x (next s ct op)) :
    ∃ e', find (next s ct op).es x = some e' ∧ e'.st = .recycled ∧ e'.casc = e.casc ∧
      ∀ g ∈ e.rdmo, LiveGroupIn g (next s ct op) → g ∈ e'.rdmo := by
  rcases next_txn hi ct op with h | ⟨del, t⟩
  · rw [h]; exact ⟨e, hx, hr, rfl, fun g hg _ => hg⟩
  · obtain ⟨e2, hfe2, hr2⟩ := hx'
    rcases t.old x e hx with ⟨e', hfe', ev⟩ | ⟨hnone, _⟩
    · rw [hfe2] at hfe'
      cases hfe'
      obtain ⟨hc, hk⟩ := ev.bin hr hr2
      refine ⟨e2, hfe2, hr2, hc, fun g hg hlive => (hk g hg).resolve_right fun h1 => ?_⟩
      -- a group this transaction deleted is not live afterwards
      obtain ⟨ge', hfg, hst⟩ := t.dead g h1
      obtain ⟨ge2, hfg2, hl2, _⟩ := hlive
      rw [hfg] at hfg2
      cases hfg2
      rw [hst] at hl2; cases hl2
    · rw [hnone] at hfe2; cases hfe2

theorem mem_dmoOf {es : List Entry} {y g : Nat} :
    g ∈ dmoOf es y ↔ ∃ ge ∈ es, ge.kind = .group ∧ ge.st = .live ∧ y ∈ ge.member ∧ ge.id = g := by
  simp only [dmoOf, List.mem_map, List.mem_filter, Bool.and_eq_true, beq_iff_eq,
    List.contains_iff_mem, and_assoc]

theorem reviveAdd_group {es : List Entry} {x : Nat} (ts : Nat) {re ge : Entry} (hre : re ∈ es)
    (hR : inR x re = true) (hg : ge.id ∈ re.rdmo) (hgk : ge.kind = .group) (hgl : ge.st = .live) :
    reviveE x ts ge = ge ∧ re.id ∈ (reviveAddE es x ge).member := by
  refine ⟨reviveE_not_inR (by simp [inR, hgl]), ?_⟩
  unfold reviveAddE
  rw [if_pos (by simp [hgk, hgl])]
  by_cases hin : re.id ∈ ge.member
  · exact List.mem_append_left _ hin
  · refine List.mem_append_right _ (List.mem_map.mpr ⟨re, List.mem_filter.mpr ⟨hre, ?_⟩, rfl⟩)
    simp [hR, hg, hin]

/-- What an accepted revive leaves (`re'`, among the entries `es'`) of an entry `re` with uuid `r` that it takes:
live, referring to what it was marked with, the mark cleared, and back in every live group of its stash, on both
sides of the membership. -/
structure Restored (es es' : List Entry) (r : Nat) (re re' : Entry) : Prop where
  found : find es' r = some re'
  st : re'.st = .live
  refers : re'.refers = revRefers re
  casc : re'.casc = none
  groups : ∀ g ge, g ∈ re.rdmo → find es g = some ge → ge.kind = .group → ge.st = .live →
    g ∈ re'.dmo ∧ ∃ ge', find es' g = some ge' ∧ ge'.st = .live ∧ r ∈ ge'.member

theorem revive_entry {es : List Entry} {ts x : Nat} {es' : List Entry} {n : Option Nat}
    (h : opRevive es ts x = .ok es' n) {r : Nat} {re : Entry} (hr : find es r = some re)
    (hR : inR x re = true) : ∃ re', Restored es es' r re re' := by
  obtain ⟨xe, hxe, hxr, _, rfl⟩ := opRevive_ok h
  unfold revived
  have hmr := Keyed.find_some Entry.id hr
  have hid2 : ∀ e, (reviveAddE es x (reviveE x ts e)).id = e.id := fun e => by
    rw [reviveAddE_id, reviveE_id]
  have hfind : ∀ aff y e, find es y = some e →
      find (recompute aff (es.map fun e => reviveAddE es x (reviveE x ts e))) y =
        some (recE aff _ (reviveAddE es x (reviveE x ts e))) := fun aff y e he => by
    rw [find_recompute, find_map _ hid2, he]; rfl
  refine ⟨_, hfind _ r re hr, ?st, ?refers, ?casc, fun g ge hg hfg hgk hgl => ?_⟩
  case st | refers | casc => rw [recE_eq, reviveAddE_eq, reviveE_of_inR hR]
  have hmg := Keyed.find_some Entry.id hfg
  obtain ⟨hge1, hmem⟩ := reviveAdd_group ts hmr.1 hR (hmg.2 ▸ hg) hgk hgl
  constructor
  · -- directmemberof of the revived entry is recomputed from the new member lists
    have haff : ((es.filter (inR x)).map (·.id)).contains (reviveAddE es x (reviveE x ts re)).id = true := by
      rw [hid2, List.contains_iff_mem]
      exact List.mem_map.mpr ⟨re, List.mem_filter.mpr ⟨hmr.1, hR⟩, rfl⟩
    rw [recE_dmo (by rw [reviveAddE_eq, reviveE_of_inR hR]) (by simp only [haff, Bool.true_or]), hid2]
    refine mem_dmoOf.mpr ⟨_, List.mem_map_of_mem hmg.1, ?_, ?_, ?_, (hid2 ge).trans hmg.2⟩
    · rw [hge1, reviveAddE_eq]; exact hgk
    · rw [hge1, reviveAddE_eq]; exact hgl
    · rw [hge1]; exact hmem
  · refine ⟨_, hfind _ g ge hfg, ?_, ?_⟩
    · rw [recE_eq, hge1, reviveAddE_eq]; exact hgl
    · rw [recE_eq, hge1, ← hmr.2]; exact hmem

/-- A revive of an entry in the bin is accepted, and brings it back, when the entry itself passes the schema,
referential-integrity and reference-loop checks (and the changelog window fits the clock) and, if any recycled entry
carries its cascade mark, it comes back referring to nothing: such a dependent gets `x` back as its `refers`, so its
reference check looks at `x`, live by then, and its loop check at what `x` itself refers to. -/
theorem revive_accepted {s : State} {ct x : Nat} {xe : Entry} (hnd : (s.es.map (·.id)).Nodup)
    (hx : find s.es x = some xe) (hr : xe.st = .recycled) (htime : changelogMaxAge * NS ≤ txnTs s ct)
    (hself : (xe.kind == .cert && (revRefers xe).isNone) = false ∧
      reviveRefBad (s.es.map (reviveE x (txnTs s ct))) xe = false ∧
      reviveLoopBad (s.es.map (reviveE x (txnTs s ct))) xe = false)
    (hdep : ∀ e ∈ s.es, e.st = .recycled → e.casc = some x → revRefers xe = none) :
    x ∈ searchRecycleBin s.es ∧ ∃ es', apply s ct (.revive x) = .ok es' none ∧
      ∃ e', find es' x = some e' ∧ e'.st = .live ∧ e'.refers = revRefers xe := by
  have hmem := Keyed.find_some Entry.id hx
  have hRx : inR x xe = true := by simp [inR, hr, hmem.2]
  -- `x` as the checks see it: revived already
  have hfx1 : find (s.es.map (reviveE x (txnTs s ct))) x = some { xe with
      st := .live, lastMod := txnTs s ct, refers := revRefers xe, casc := none, rdmo := [] } := by
    rw [find_map _ (reviveE_id x _), hx, ← reviveE_of_inR hRx]; rfl
  have hok := opRevive_eq (ts := txnTs s ct) hx hr fun e he hR => by
    simp only [inR, Bool.and_eq_true, beq_iff_eq, Bool.or_eq_true] at hR
    rcases hR.2 with hid | hc
    · rw [eq_of_find_nodup hnd hx he hid]; exact hself
    · have h2 : revRefers e = some x := by simp [revRefers, reviveRestoresRefers, hc]
      exact ⟨by simp [h2], by simp [reviveRefBad, hc, isLive, hfx1],
        by simp [reviveLoopBad, h2, hasRefers, hfx1, hdep e he hR.1 hc]⟩
  have hsub : subSecs (txnTs s ct) trimWindow = some ⟨txnTs s ct - trimWindow * NS, 0⟩ := by
    unfold subSecs; simp [trimWindow, htime, subSecsUuid]
  obtain ⟨e', he'⟩ := revive_entry hok hx hRx
  exact ⟨List.mem_map.mpr ⟨xe, List.mem_filter.mpr ⟨hmem.1, by simp [hr]⟩, hmem.2⟩,
    _, by unfold apply; rw [hsub]; exact hok, e', he'.found, he'.st, he'.refers⟩

end Kanidm.Recycle
