import KanidmModel.Privilege
import KanidmProofs.Lemmas.Keyed
/-!
Helper lemmas for C33: what the generated token functions produce, what the wire round trip
keeps, and the history invariant `Inv` preserved by every `step`.
-/
namespace Kanidm.Privilege
open Kanidm.Gen.AuthTypes

theorem floorSec_le (t : Nat) : floorSec t ≤ t := Nat.div_mul_le_self t nsPerSec

theorem floorSec_idem (t : Nat) : floorSec (floorSec t) = floorSec t := by
  unfold floorSec
  rw [Nat.mul_div_cancel _ (by decide : 0 < nsPerSec)]

theorem issueExpiry_le (ct s p : Nat) : issueExpiry (issueCt ct s p) s p ≤ ct + s * nsPerSec := by
  simp only [issueExpiry, issueCt, Nat.zero_add]
  exact Nat.add_le_add_right (Nat.sub_le _ _) _

theorem issueLimited_le (ct s p : Nat) :
    min (issueExpiry (issueCt ct s p) s p) (issueLimitedExpiry (issueCt ct s p) s p) ≤
      ct + min s limitedExpirySecs * nsPerSec := by
  simp only [issueExpiry, issueLimitedExpiry, limitedExpirySecs, Nat.zero_add,
    Nat.add_min_add_left, Nat.mul_min_mul_right]
  exact Nat.add_le_add_right (Nat.sub_le _ _) _

theorem toUat_spec {sid : Nat} {anon : Bool} {scope : SessionScope} {ct : Nat} {pol : Policy}
    {u : Uat} (h : toUat sid anon scope ct pol = some u) :
    u.sessionId = sid ∧ u.anon = anon ∧
    (∃ x, u.expiry = some x ∧ x ≤ ct + pol.sessSecs * nsPerSec) ∧
    (∀ y, u.purpose = .readWrite (some y) →
      scope = .readWrite ∧ y ≤ ct + min pol.sessSecs limitedExpirySecs * nsPerSec) := by
  unfold toUat at h
  cases scope <;> simp only [issueOf] at h <;> cases h
  · exact ⟨rfl, rfl, ⟨_, rfl, issueExpiry_le _ _ _⟩, fun y hy => by cases hy⟩
  · exact ⟨rfl, rfl, ⟨_, rfl, Nat.le_trans (Nat.min_le_left _ _) (issueExpiry_le _ _ _)⟩,
      fun y hy => by cases hy; exact ⟨rfl, issueLimited_le _ _ _⟩⟩
  · exact ⟨rfl, rfl, ⟨_, rfl, issueExpiry_le _ _ _⟩, fun y hy => by cases hy⟩

/-- What the guarded arms of `to_reissue_userauthtoken`, taken in source order, amount to. -/
theorem reissueOf_eq (scope : SessionScope) (rw : Bool) (pe : Nat) (se : Option Nat) :
    reissueOf scope rw pe se =
      if scope = .privilegeCapable then some (.readWrite (if rw then some pe else none), se)
      else none := by
  cases scope <;> cases rw <;> rfl

theorem toReissue_spec {sid : Nat} {anon : Bool} {se : Option Nat} {scope : SessionScope}
    {rw : Bool} {ct : Nat} {pol : Policy} {u : Uat}
    (h : toReissueUat sid anon se scope rw ct pol = some u) :
    u.sessionId = sid ∧ u.anon = anon ∧ u.expiry = se ∧ scope = .privilegeCapable ∧
    (∀ y, u.purpose = .readWrite (some y) → rw = true ∧ y = ct + pol.privSecs * nsPerSec) := by
  rw [toReissueUat, reissueOf_eq] at h
  by_cases hs : scope = .privilegeCapable
  · rw [if_pos hs] at h
    cases h
    refine ⟨rfl, rfl, rfl, hs, fun y hy => ?_⟩
    cases rw
    · cases hy
    · cases hy; exact ⟨rfl, by simp only [reissuePrivExpiry, Nat.zero_add]⟩
  · rw [if_neg hs] at h; cases h

theorem wire_anon (u : Uat) : (wire u).anon = u.anon := rfl
theorem wire_expiry (u : Uat) : (wire u).expiry = u.expiry.map floorSec := rfl

theorem wire_rw {u : Uat} {x : Nat} (h : (wire u).purpose = .readWrite (some x)) :
    ∃ y, u.purpose = .readWrite (some y) ∧ x = floorSec y := by
  unfold wire at h
  cases hp : u.purpose with
  | readOnly => simp [hp] at h
  | readWrite e =>
    cases e with
    | none => simp [hp] at h
    | some y => simp [hp] at h; exact ⟨y, rfl, h.symm⟩

theorem useUat_ok {sessions : List (Nat × Session)} {u : Uat} {ct : Nat} {s : AccessScope}
    (h : useUat sessions u ct = .ok s) :
    expiredAt u ct = false ∧ tokenValid sessions u ct = true ∧ s = uatAccessScope u.purpose ct := by
  unfold useUat processUat at h
  cases h1 : expiredAt u ct <;> cases h2 : tokenValid sessions u ct <;> simp [h1, h2] at h
  exact ⟨rfl, rfl, h.symm⟩

/-- `process_uat_to_identity` grants `ReadWrite` exactly on an inner privilege expiry strictly in
the future (the comparison is regenerated). -/
theorem uatAccessScope_rw_iff (p : Purpose) (cot : Nat) :
    uatAccessScope p cot = .readWrite ↔ ∃ x, p = .readWrite (some x) ∧ cot < x := by
  cases p with
  | readOnly => simp [uatAccessScope]
  | readWrite e =>
    cases e with
    | none => simp [uatAccessScope]
    | some x => by_cases h : cot < x <;> simp [uatAccessScope, h]

theorem useUat_rw {sessions : List (Nat × Session)} {u : Uat} {ct : Nat}
    (h : useUat sessions u ct = .ok .readWrite) :
    ∃ x, u.purpose = .readWrite (some x) ∧ ct < x :=
  (uatAccessScope_rw_iff _ _).1 (useUat_ok h).2.2.symm

theorem useUat_not_expired {sessions : List (Nat × Session)} {u : Uat} {ct : Nat} {s : AccessScope}
    (h : useUat sessions u ct = .ok s) : ∀ e, u.expiry = some e → ct ≤ e := by
  intro e he
  obtain ⟨h1, _, _⟩ := useUat_ok h
  -- holds for either strictness of the regenerated comparison (`exp < ct` or `exp <= ct`)
  simp only [expiredAt, he, uatExpired, decide_eq_false_iff_not] at h1
  omega

theorem lookup_eq (sid : Nat) (l : List (Nat × Session)) : lookup sid l = l.lookup sid := by
  fun_induction lookup sid l with
  | case1 => rfl  -- empty list
  | case2 s rest => exact (List.lookup_cons_self ..).symm  -- the key matches
  | case3 k s rest h ih => rw [List.lookup_cons, beq_false_of_ne (Ne.symm h)]; exact ih  -- the key differs

theorem mem_of_lookup {sid : Nat} {l : List (Nat × Session)} {s : Session}
    (h : lookup sid l = some s) : (sid, s) ∈ l :=
  Kanidm.lookup_mem ((lookup_eq sid l).symm.trans h)

theorem revokeIn_eq_map (sid : Nat) (l : List (Nat × Session)) :
    revokeIn sid l =
      l.map fun p => if p.1 = sid then (p.1, { p.2 with state := .revokedAt }) else p := by
  fun_induction revokeIn sid l with
  | case1 => rfl  -- empty list
  | case2 s rest ih => rw [ih, List.map_cons, if_pos rfl]  -- the key matches
  | case3 k s rest h ih => rw [ih, List.map_cons, if_neg h]  -- the key differs

/-- The history invariant. `log` is the ghost list of successful (re)authentications. -/
structure Inv (w : World) : Prop where
  sidLog : ∀ e ∈ w.log, e.sessionId < w.nextSid
  timeLog : ∀ e ∈ w.log, e.time ≤ w.now
  /-- a token with an inner privilege expiry was produced by a granting event, and the expiry
  lies inside that event's window -/
  rwTok : ∀ u ∈ w.tokens, ∀ x, u.purpose = .readWrite (some x) →
    ∃ e ∈ w.log, e.sessionId = u.sessionId ∧ e.grants = true ∧ x ≤ e.time + e.window
  /-- every token carries the expiry fixed by the login that created its session -/
  origTok : ∀ u ∈ w.tokens, ∃ e ∈ w.log, e.reauth = false ∧ e.sessionId = u.sessionId ∧
    u.expiry = e.expiry
  /-- every stored session stems from a login, keeps that login's scope, and its state is that
  login's expiry or revoked -/
  origSess : ∀ p ∈ w.sessions, ∃ e ∈ w.log, e.reauth = false ∧ e.sessionId = p.1 ∧
    p.2.scope = initialScope e.authType e.flag ∧
    (p.2.state = .revokedAt ∨ ∃ se, p.2.state = .expiresAt se ∧ e.expiry = some (floorSec se))
  /-- a login fixes a session expiry no later than `authsession_expiry` after the login -/
  origExp : ∀ e ∈ w.log, e.reauth = false →
    ∃ x, e.expiry = some x ∧ x ≤ e.time + e.pol.sessSecs * nsPerSec
  /-- a re-authentication happened on a session whose login left it `PrivilegeCapable` -/
  reauthLog : ∀ e ∈ w.log, e.reauth = true →
    ∃ e0 ∈ w.log, e0.reauth = false ∧ e0.sessionId = e.sessionId ∧
      reauthAllowed (initialScope e0.authType e0.flag) = true
  /-- session ids are fresh: one login per session id -/
  uniq : ∀ e1 ∈ w.log, ∀ e2 ∈ w.log, e1.reauth = false → e2.reauth = false →
    e1.sessionId = e2.sessionId → e1 = e2

theorem Inv.init (now : Nat) : Inv (World.init now) := by
  constructor <;> intro x hx <;> cases hx

theorem Inv.event_of_session {w : World} (hw : Inv w) {e e0 : Event} (he : e ∈ w.log)
    (he0 : e0 ∈ w.log) (hl : e0.reauth = false) (hs : e.sessionId = e0.sessionId) :
    e = e0 ∨ e.reauth = true ∧ reauthAllowed (initialScope e0.authType e0.flag) = true := by
  cases hr : e.reauth with
  | false => exact Or.inl (hw.uniq e he e0 he0 hr hl hs)
  | true =>
    obtain ⟨e', he', g1, g2, g3⟩ := hw.reauthLog e he hr
    cases hw.uniq e' he' e0 he0 g1 hl (g2.trans hs)
    exact Or.inr ⟨rfl, g3⟩

theorem issueUat_initial {p : Bool} {t : AuthType} {now : Nat} {pol : Policy} {sid : Nat}
    {anon : Bool} {uat : Uat} {rec : Option (Nat × Session)}
    (h : issueUat (.initialAuth p) t now pol sid anon = .ok (uat, rec)) :
    toUat sid anon (initialScope t p) now pol = some uat ∧
    (rec = none ∨ rec = some (sid, recordOf uat (initialScope t p) t)) := by
  generalize hi : Intent.initialAuth p = i at h
  revert h
  fun_cases issueUat i t now pol sid anon <;> intro h <;> cases h <;> cases hi
  -- what is left are the two arms of a login that return a token
  · exact ⟨‹_›, Or.inr rfl⟩  -- the auth type is recorded: the session record is queued
  · exact ⟨‹_›, Or.inl rfl⟩  -- it is not

theorem issueUat_reauth {rw : Bool} {sid : Nat} {se : Option Nat} {t : AuthType} {now : Nat}
    {pol : Policy} {nsid : Nat} {anon : Bool} {uat : Uat} {rec : Option (Nat × Session)}
    (h : issueUat (.reauth rw sid se) t now pol nsid anon = .ok (uat, rec)) :
    ∃ scope, reauthScope t = some scope ∧ toReissueUat sid anon se scope rw now pol = some uat := by
  generalize hi : Intent.reauth rw sid se = i at h
  revert h
  fun_cases issueUat i t now pol nsid anon <;> intro h <;> cases h <;> cases hi
  -- what is left is the one arm of a re-issue that returns a token
  exact ⟨_, ‹_›, ‹_›⟩

theorem mem_authSessions {sessions : List (Nat × Session)} {persist : Bool}
    {rec : Option (Nat × Session)} {q : Nat × Session}
    (hq : q ∈ authSessions sessions persist rec) : q ∈ sessions ∨ rec = some q := by
  cases rec with
  | none => exact Or.inl hq
  | some r =>
    cases persist with
    | false => exact Or.inl hq
    | true =>
      simp only [authSessions, if_true, List.mem_append, List.mem_singleton] at hq
      rcases hq with hq | hq
      · exact Or.inl hq
      · exact Or.inr (by rw [hq])

/-- `reauth` either answers with an error and changes nothing, or passed every check of
`reauth_init` / `new_reauth` / `issue_uat` and appends the re-issued token and its event. -/
theorem stepReauth_cases (w : World) (tok : Nat) (req : ReauthRequest) (t : AuthType) (pol : Policy) :
    (∃ e, stepReauth w tok req t pol = (w, .err e)) ∨
    ∃ u s sc se scope uat, w.tokens[tok]? = some u ∧ useUat w.sessions u w.now = .ok sc ∧
      lookup u.sessionId w.sessions = some s ∧ reauthAllowed s.scope = true ∧
      reauthSessionExpiry s.state = some se ∧ reauthScope t = some scope ∧
      toReissueUat u.sessionId u.anon se scope (reauthRequestRw req) w.now pol = some uat ∧
      stepReauth w tok req t pol =
        ({ w with
            tokens := w.tokens ++ [wire uat]
            log := w.log ++ [{ time := w.now, sessionId := u.sessionId, reauth := true,
                               authType := t, flag := reauthRequestRw req, pol := pol,
                               expiry := (wire uat).expiry }] },
         .token (wire uat)) := by
  fun_cases stepReauth w tok req t pol
  -- the last arm is the one in which every check passed; the six before it refuse
  case case7 u htok sc huse s hl hal se hse uat rec hi _ =>
    obtain ⟨scope, hscope, hre⟩ := issueUat_reauth hi
    exact Or.inr ⟨u, s, sc, se, scope, uat, htok, huse, hl, by simpa using hal, hse, hscope, hre, rfl⟩
  all_goals exact Or.inl ⟨_, rfl⟩

theorem mem_snoc {α : Type} {a b : α} {l : List α} : a ∈ l ++ [b] ↔ a ∈ l ∨ a = b := by
  simp

theorem forall_mem_snoc {α : Type} {P : α → Prop} {b : α} {l : List α} :
    (∀ a ∈ l ++ [b], P a) ↔ (∀ a ∈ l, P a) ∧ P b := by
  rw [List.forall_mem_append, List.forall_mem_singleton]

/-- `Inv` survives handing out one more token `u` together with its event `ev`: every clause
about an old item holds with the longer log, so only the new token, the new event and the
sessions that are not old ones have to be accounted for. -/
theorem Inv.extend {w : World} (hw : Inv w) {u : Uat} {ev : Event} {ss : List (Nat × Session)}
    {n : Nat} (hn : w.nextSid ≤ n) (hsid : ev.sessionId < n) (hev : ev.sessionId = u.sessionId)
    (htime : ev.time ≤ w.now)
    (hrw : ∀ x, u.purpose = .readWrite (some x) → ev.grants = true ∧ x ≤ ev.time + ev.window)
    (horig : ∃ e ∈ w.log ++ [ev], e.reauth = false ∧ e.sessionId = u.sessionId ∧ u.expiry = e.expiry)
    (hss : ∀ p ∈ ss, p ∈ w.sessions ∨ (ev.reauth = false ∧ ev.sessionId = p.1 ∧
      p.2.scope = initialScope ev.authType ev.flag ∧
      (p.2.state = .revokedAt ∨ ∃ se, p.2.state = .expiresAt se ∧ ev.expiry = some (floorSec se))))
    (hexp : ev.reauth = false → ∃ x, ev.expiry = some x ∧ x ≤ ev.time + ev.pol.sessSecs * nsPerSec)
    (hre : ev.reauth = true → ∃ e0 ∈ w.log, e0.reauth = false ∧ e0.sessionId = ev.sessionId ∧
      reauthAllowed (initialScope e0.authType e0.flag) = true)
    (hfresh : ev.reauth = false → w.nextSid ≤ ev.sessionId) :
    Inv { w with tokens := w.tokens ++ [u], sessions := ss, nextSid := n, log := w.log ++ [ev] } := by
  have hnew : ev ∈ w.log ++ [ev] := List.mem_append_right _ (List.mem_singleton.2 rfl)
  have lift {P : Event → Prop} : (∃ e ∈ w.log, P e) → ∃ e ∈ w.log ++ [ev], P e :=
    fun ⟨e, he, h⟩ => ⟨e, List.mem_append_left _ he, h⟩
  exact
    { sidLog := forall_mem_snoc.2 ⟨fun e h => Nat.lt_of_lt_of_le (hw.sidLog e h) hn, hsid⟩
      timeLog := forall_mem_snoc.2 ⟨hw.timeLog, htime⟩
      rwTok := forall_mem_snoc.2 ⟨fun u' h x hp => lift (hw.rwTok u' h x hp),
        fun x hp => ⟨ev, hnew, hev, hrw x hp⟩⟩
      origTok := forall_mem_snoc.2 ⟨fun u' h => lift (hw.origTok u' h), horig⟩
      origSess := fun q hq => (hss q hq).elim (fun h => lift (hw.origSess q h)) fun h => ⟨ev, hnew, h⟩
      origExp := forall_mem_snoc.2 ⟨hw.origExp, hexp⟩
      reauthLog := forall_mem_snoc.2 ⟨fun e h hr => lift (hw.reauthLog e h hr), fun hr => lift (hre hr)⟩
      -- a new login has a session id no old event has
      uniq := forall_mem_snoc.2
        ⟨fun e1 h1 => forall_mem_snoc.2 ⟨hw.uniq e1 h1, fun _ r2 h12 => by
          have := hw.sidLog e1 h1; have := hfresh r2; omega⟩,
         forall_mem_snoc.2 ⟨fun e2 h2 r1 _ h12 => by
          have := hw.sidLog e2 h2; have := hfresh r1; omega, fun _ _ _ => rfl⟩⟩ }

theorem Inv.auth {w : World} (hw : Inv w) (t : AuthType) (p a ps : Bool) (pol : Policy) :
    Inv (stepAuth w t p a ps pol).1 := by
  unfold stepAuth
  cases hi : issueUat (.initialAuth p) t w.now pol w.nextSid a with
  | error e => exact hw
  | ok r =>
    obtain ⟨uat, rec⟩ := r
    obtain ⟨hu, hrec⟩ := issueUat_initial hi
    obtain ⟨hsid, _, ⟨x, hx, hxle⟩, hrw⟩ := toUat_spec hu
    have hwx : (wire uat).expiry = some (floorSec x) := by rw [wire_expiry, hx]; rfl
    have hfx : floorSec x ≤ x := floorSec_le x
    have hws : w.nextSid = (wire uat).sessionId := hsid.symm
    refine hw.extend (Nat.le_succ _) (Nat.lt_succ_self _) hws (Nat.le_refl _) ?_
      ⟨_, List.mem_append_right _ (List.mem_singleton.2 rfl), rfl, hws, rfl⟩ ?_
      (fun _ => ⟨_, hwx, by show floorSec x ≤ w.now + pol.sessSecs * nsPerSec; omega⟩) (fun h => by cases h)
      (fun _ => Nat.le_refl _)
    · -- a privilege expiry is only written for a `ReadWrite` login, inside its window
      intro x' hp
      obtain ⟨y, hy, hxy⟩ := wire_rw hp
      obtain ⟨hsc, hyle⟩ := hrw y hy
      have := floorSec_le y
      refine ⟨by simp [Event.grants, hsc], ?_⟩
      show x' ≤ w.now + min pol.sessSecs limitedExpirySecs * nsPerSec
      omega
    · intro q hq
      rcases mem_authSessions hq with hq | hq
      · exact Or.inl hq
      · rcases hrec with hrec | hrec <;> rw [hrec] at hq <;> cases hq
        exact Or.inr ⟨rfl, rfl, rfl, Or.inr ⟨x, by simp [recordOf, hx], hwx⟩⟩

theorem Inv.reauth {w : World} (hw : Inv w) (tok : Nat) (req : ReauthRequest) (t : AuthType)
    (pol : Policy) : Inv (stepReauth w tok req t pol).1 := by
  rcases stepReauth_cases w tok req t pol with ⟨e, h⟩ | ⟨u, s, sc, se, scope, uat, _, _, hl, hal, hse, hscope, hre, h⟩
  · rw [h]; exact hw
  · rw [h]
    obtain ⟨hsid, _, hexp, hpc, hrw⟩ := toReissue_spec hre
    subst hpc
    obtain ⟨e0, he0, hlogin, hsid0, hscope0, hstate⟩ := hw.origSess _ (mem_of_lookup hl)
    have hws : u.sessionId = (wire uat).sessionId := hsid.symm
    have hexp' : (wire uat).expiry = e0.expiry := by
      rcases hstate with hstate | ⟨x, hstate, hexp0⟩ <;> simp only at hstate <;> rw [hstate] at hse <;> cases hse
      rw [wire_expiry, hexp, hexp0]; rfl
    refine hw.extend (Nat.le_refl _) (Nat.lt_of_le_of_lt (Nat.le_of_eq hsid0.symm) (hw.sidLog e0 he0)) hws (Nat.le_refl _) ?_
      ⟨e0, List.mem_append_left _ he0, hlogin, hsid0.trans hws, hexp'⟩ (fun q hq => Or.inl hq)
      (fun h => by cases h)
      (fun _ => ⟨e0, he0, hlogin, hsid0, hscope0 ▸ hal⟩) (fun h => by cases h)
    intro x' hp
    obtain ⟨y, hy, hxy⟩ := wire_rw hp
    obtain ⟨hflag, hyeq⟩ := hrw y hy
    have := floorSec_le y
    refine ⟨by simp [Event.grants, hflag, hscope], ?_⟩
    show x' ≤ w.now + pol.privSecs * nsPerSec
    omega

theorem Inv.step {w : World} (hw : Inv w) (op : Op) : Inv (step w op).1 := by
  cases op with
  | auth t p a ps pol => exact hw.auth t p a ps pol
  | reauth tok req t pol => exact hw.reauth tok req t pol
  | advance dt =>
    exact { hw with timeLog := fun e he => Nat.le_trans (hw.timeLog e he) (Nat.le_add_right _ _) }
  | use tok =>
    simp only [Privilege.step]
    cases w.tokens[tok]? with
    | none => exact hw
    | some u => simp only; cases useUat w.sessions u w.now <;> exact hw
  | revoke sid =>
    -- a stored session keeps its id and scope; its state stays or becomes `revokedAt`
    refine { hw with origSess := ?_ }
    show ∀ p ∈ revokeIn sid w.sessions, _
    rw [revokeIn_eq_map]
    refine List.forall_mem_map.2 fun q hq => ?_
    obtain ⟨e, he, hlogin, hsid, hscope, hstate⟩ := hw.origSess q hq
    split
    · exact ⟨e, he, hlogin, hsid, hscope, Or.inl rfl⟩
    · exact ⟨e, he, hlogin, hsid, hscope, hstate⟩

theorem Inv.run {w : World} (hw : Inv w) (ops : List Op) : Inv (run w ops) := by
  induction ops generalizing w with
  | nil => exact hw
  | cons op rest ih => exact ih (hw.step op)

end Kanidm.Privilege
