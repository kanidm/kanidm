import KanidmModel.SchemaCheck
import KanidmProofs.Lemmas.Ite
import KanidmProofs.Lemmas.Keyed
/-! C15. `Conforms` is the declarative specification, written from the property text (no `Gen.*` inside);
`validate` is proved to accept exactly what conforms, and what the obligations say of `validate` is proved of
`Conforms`. -/
namespace Kanidm.SchemaCheck
open Gen

def AvaOk (sa : SAttr) (ava : Ava) : Prop :=
  (sa.multivalue = true ∨ ava.vals.length ≤ 1) ∧ sa.syn = ava.syn ∧ ∀ v ∈ ava.vals, v.ok = true

def Required (s : Schema) (ecs : List Nat) (a : Nat) : Prop :=
  ∃ c ∈ ecs, ∃ sc, findClass s c = some sc ∧ (a ∈ sc.systemmust ∨ a ∈ sc.must)

def Allowed (s : Schema) (ecs : List Nat) (a : Nat) : Prop :=
  ∃ c ∈ ecs, ∃ sc, findClass s c = some sc ∧
    (a ∈ sc.systemmust ∨ a ∈ sc.must ∨ a ∈ sc.systemmay ∨ a ∈ sc.may)

def Supplements (s : Schema) (ecs : List Nat) (d : Nat) : Prop :=
  ∃ c ∈ ecs, ∃ sc, findClass s c = some sc ∧ (d ∈ sc.systemsupplements ∨ d ∈ sc.supplements)

def Excludes (s : Schema) (ecs : List Nat) (d : Nat) : Prop :=
  ∃ c ∈ ecs, ∃ sc, findClass s c = some sc ∧ (d ∈ sc.systemexcludes ∨ d ∈ sc.excludes)

structure ConformsBody (s : Schema) (e : Entry) (ecs : List Nat) : Prop where
  classesKnown : ∀ c ∈ ecs, ∃ sc, findClass s c = some sc
  supplements : (∀ d, ¬ Supplements s ecs d) ∨ ∃ d, Supplements s ecs d ∧ d ∈ ecs
  excludes : ∀ d, Excludes s ecs d → d ∉ ecs
  requiredDefined : ∀ a, Required s ecs a → ∃ sa, findAttr s a = some sa
  requiredPresent : cRecycled ∈ ecs ∨ ∀ a, Required s ecs a → ∃ ava, getAva e a = some ava
  attrs :
    (cExtensible ∈ ecs ∧
      ∀ p ∈ e, ∃ sa, findAttr s p.1 = some sa ∧ sa.phantom = false ∧ AvaOk sa p.2) ∨
    (cExtensible ∉ ecs ∧ (∀ a, Allowed s ecs a → ∃ sa, findAttr s a = some sa) ∧
      ∀ p ∈ e, Allowed s ecs p.1 ∧ ∃ sa, findAttr s p.1 = some sa ∧ AvaOk sa p.2)

/-- the entry satisfies the schema: it has a well-typed class attribute and is either a conflict
entry (exempt) or meets every rule -/
def Conforms (s : Schema) (e : Entry) : Prop :=
  ∃ ecs, classSet e = some ecs ∧ (cConflict ∈ ecs ∨ ConformsBody s e ecs)

/-- the class attribute, if there is one, is a set of class names (an iutf8 set) -/
def ClassWellTyped (e : Entry) : Prop := ∀ ava, getAva e aClass = some ava → ava.syn = synIutf8

/-- the candidate carries `last_modified_cid` and `created_at_cid` as cid sets when it is validated
(`assign_cid`, `from_repl_entry_v1` and every earlier `seal` put them there; class `object`
requires them) -/
def HasCid (e : Entry) : Prop :=
  (∃ ava, getAva e aLastMod = some ava ∧ ava.syn = synCid) ∧
  (∃ ava, getAva e aCreatedAt = some ava ∧ ava.syn = synCid)

/-- two facts of the shipped schema (checked by the harness on every schema it dumps): class
`object` requires `last_modified_cid` and `created_at_cid`, and both are cid-typed -/
structure SchemaCidFacts (s : Schema) : Prop where
  objectRequires : ∃ sc, findClass s cObject = some sc ∧
    (aLastMod ∈ sc.systemmust ∨ aLastMod ∈ sc.must) ∧ (aCreatedAt ∈ sc.systemmust ∨ aCreatedAt ∈ sc.must)
  cidTyped : ∀ a sa, (a = aLastMod ∨ a = aCreatedAt) → findAttr s a = some sa → sa.syn = synCid

/-- `s'` extends `s`: attribute definitions are kept, every class keeps its must / supplements /
excludes lists and may only gain `may` attributes; new attributes and classes are unrestricted;
the classes of `s'` only name attributes `s'` defines (`SchemaTransaction::validate`) -/
structure SchemaExt (s s' : Schema) : Prop where
  attrs : ∀ a sa, findAttr s a = some sa → findAttr s' a = some sa
  classes : ∀ c sc, findClass s c = some sc → ∃ sc', findClass s' c = some sc' ∧
      sc'.systemmust = sc.systemmust ∧ sc'.must = sc.must ∧
      (∀ a, a ∈ sc.systemmay → a ∈ sc'.systemmay) ∧ (∀ a, a ∈ sc.may → a ∈ sc'.may) ∧
      sc'.systemsupplements = sc.systemsupplements ∧ sc'.supplements = sc.supplements ∧
      sc'.systemexcludes = sc.systemexcludes ∧ sc'.excludes = sc.excludes
  consistent : ∀ c sc', findClass s' c = some sc' → ∀ a,
      (a ∈ sc'.systemmust ∨ a ∈ sc'.must ∨ a ∈ sc'.systemmay ∨ a ∈ sc'.may) →
      ∃ sa, findAttr s' a = some sa

/-- what reaches the backend: a candidate that passed the schema check — or, on the replication
path only, one whose class attribute is not a set of class names, which `validate_repl` cannot
refuse — and was then sealed -/
inductive Checked (s : Schema) : Entry → Prop
  | passed {x : Entry} : validate s x = .ok () → Checked s x
  | illTyped {x : Entry} : ¬ ClassWellTyped x → Checked s x
  | sealed {x : Entry} (cid : Nat) : Checked s x → Checked s (sealEntry cid x)

/-- an operation as the code performs it: a well-ordered store path; the conflict copies the
replication path stores unvalidated carry class `conflict` (`resolve_add_conflict`) -/
structure OpOk (o : Op) : Prop where
  ordered : wellOrdered o.steps = true
  copies : ∀ e ∈ o.env.conflictCopies, ∃ ecs, classSet e = some ecs ∧ cConflict ∈ ecs

/-- the histories of the property's quantifier: operations through the store paths, schema
reloads that only extend -/
def HistoryOk : Schema → List HStep → Prop
  | _, [] => True
  | s, .op o :: r => OpOk o ∧ HistoryOk s r
  | s, .reload s' :: r => SchemaExt s s' ∧ HistoryOk s' r

theorem mem_gather {fs : List Field} {s : Schema} {ecs : List Nat} {a : Nat} :
    a ∈ gather fs (ecs.filterMap (findClass s)) ↔
      ∃ c ∈ ecs, ∃ sc, findClass s c = some sc ∧ ∃ f ∈ fs, a ∈ fieldOf f sc := by
  simp only [gather, List.mem_flatMap, List.mem_filterMap]
  exact ⟨fun ⟨sc, ⟨c, hc, hsc⟩, h⟩ => ⟨c, hc, sc, hsc, h⟩, fun ⟨c, hc, sc, hsc, h⟩ => ⟨sc, ⟨c, hc, hsc⟩, h⟩⟩

theorem mem_gather_pair (f g : Field) {s : Schema} {ecs : List Nat} {a : Nat} :
    a ∈ gather [f, g] (ecs.filterMap (findClass s)) ↔
      ∃ c ∈ ecs, ∃ sc, findClass s c = some sc ∧ (a ∈ fieldOf f sc ∨ a ∈ fieldOf g sc) := by
  simp only [mem_gather, List.mem_cons, List.not_mem_nil, or_false, exists_eq_or_imp, exists_eq_left]

theorem mem_gather_must {s : Schema} {ecs : List Nat} {a : Nat} :
    a ∈ gather mustFields (ecs.filterMap (findClass s)) ↔ Required s ecs a :=
  mem_gather_pair .systemmust .must

theorem mem_gather_supp {s : Schema} {ecs : List Nat} {a : Nat} :
    a ∈ gather supplementsFields (ecs.filterMap (findClass s)) ↔ Supplements s ecs a :=
  mem_gather_pair .systemsupplements .supplements

theorem mem_gather_excl {s : Schema} {ecs : List Nat} {a : Nat} :
    a ∈ gather excludesFields (ecs.filterMap (findClass s)) ↔ Excludes s ecs a :=
  mem_gather_pair .systemexcludes .excludes

theorem mem_gather_may {s : Schema} {ecs : List Nat} {a : Nat} :
    a ∈ gather mayFields (ecs.filterMap (findClass s)) ↔ Allowed s ecs a := by
  simp only [mem_gather, mayFields, Allowed, List.mem_cons, List.not_mem_nil, or_false,
    exists_eq_or_imp, exists_eq_left, fieldOf]

/-- `validate_ava` accepts exactly: cardinality respected, syntax equal, every value valid. -/
theorem validate_ava_iff (sa : SAttr) (a : Nat) (ava : Ava) :
    validateAva sa a ava = .ok () ↔
      (sa.multivalue = true ∨ ava.vals.length ≤ 1) ∧ sa.syn = ava.syn ∧ ∀ v ∈ ava.vals, v.ok = true := by
  simp only [validateAva, ite_error_eq_ok, ite_eq_left_iff, reduceCtorEq, imp_false,
    Decidable.not_not, singleValueViolated, avaRequiresSyntaxEq, avaRequiresValuesValid,
    Bool.not_true, Bool.false_or, Bool.and_eq_true, beq_iff_eq, List.all_eq_true]
  cases sa.multivalue <;> simp

theorem checkAttrsExt_ok_iff (s : Schema) (e : Entry) :
    checkAttrsExt s e = .ok () ↔
      ∀ p ∈ e, ∃ sa, findAttr s p.1 = some sa ∧ sa.phantom = false ∧ AvaOk sa p.2 := by
  induction e with
  | nil => simp [checkAttrsExt]
  | cons p r ih =>
    obtain ⟨a, ava⟩ := p
    rw [List.forall_mem_cons, ← ih, checkAttrsExt]
    cases findAttr s a with
    | none => simp
    | some sa =>
      simp only [extensibleRejectsPhantom, Bool.true_and, ite_error_eq_ok,
        AvaOk, ← validate_ava_iff sa a ava, Option.some.injEq, exists_eq_left', Bool.not_eq_true]
      cases validateAva sa a ava <;> simp

theorem checkAttrsMay_ok_iff (s : Schema) (may : List Nat) (e : Entry) :
    checkAttrsMay s may e = .ok () ↔
      ∀ p ∈ e, p.1 ∈ may ∧ ∃ sa, findAttr s p.1 = some sa ∧ AvaOk sa p.2 := by
  induction e with
  | nil => simp [checkAttrsMay]
  | cons p r ih =>
    obtain ⟨a, ava⟩ := p
    rw [List.forall_mem_cons, ← ih, checkAttrsMay]
    by_cases hm : a ∈ may
    · cases findAttr s a with
      | none => simp [hm]
      | some sa =>
        simp only [List.contains_iff_mem, hm, if_true, AvaOk, ← validate_ava_iff sa a ava,
          Option.some.injEq, exists_eq_left', true_and]
        cases validateAva sa a ava <;> simp
    · simp [hm]

theorem filter_isNone_isEmpty {α β : Type} (f : α → Option β) (l : List α) :
    (l.filter (fun a => (f a).isNone)).isEmpty = true ↔ ∀ a ∈ l, ∃ b, f a = some b := by
  simp only [List.isEmpty_iff, List.filter_eq_nil_iff, Option.isNone_iff_eq_none,
    ← Option.ne_none_iff_exists', ne_eq]

theorem not_any_isNone {α β : Type} (f : α → Option β) (l : List α) :
    ¬ l.any (fun a => (f a).isNone) = true ↔ ∀ a ∈ l, ∃ b, f a = some b := by
  simp only [List.any_eq_true, not_exists, not_and, Option.isNone_iff_eq_none,
    ← Option.ne_none_iff_exists', ne_eq]

theorem suppOk_iff {l ecs : List Nat} :
    (if l.isEmpty = true then true else l.any (fun c => ecs.contains c)) = true ↔
      (∀ d, d ∉ l) ∨ ∃ d, d ∈ l ∧ d ∈ ecs := by
  simp only [← List.eq_nil_iff_forall_not_mem, ← List.isEmpty_iff]
  split <;> simp [*]

theorem missingOk_iff {α β : Type} {f : α → Option β} {l : List α} {b : Bool} :
    ¬ (!(l.filter (fun a => (f a).isNone)).isEmpty && !b) = true ↔
      b = true ∨ ∀ a ∈ l, ∃ x, f a = some x := by
  rw [← filter_isNone_isEmpty]
  generalize (l.filter fun a => (f a).isNone).isEmpty = c
  cases b <;> cases c <;> decide

theorem attrsOk_iff (s : Schema) (e : Entry) {may : List Nat} {x : Bool} :
    (if x = true then checkAttrsExt s e
      else if may.any (fun a => (findAttr s a).isNone) = true then .error .corrupted
      else checkAttrsMay s may e) = .ok () ↔
    (x = true ∧ ∀ p ∈ e, ∃ sa, findAttr s p.1 = some sa ∧ sa.phantom = false ∧ AvaOk sa p.2) ∨
    (¬ x = true ∧ (∀ a ∈ may, ∃ sa, findAttr s a = some sa) ∧
      ∀ p ∈ e, p.1 ∈ may ∧ ∃ sa, findAttr s p.1 = some sa ∧ AvaOk sa p.2) := by
  cases x
  · simp only [Bool.false_eq_true, if_false, ite_error_eq_ok, not_any_isNone, checkAttrsMay_ok_iff,
      false_and, false_or, not_false_eq_true, true_and]
  · simp only [if_true, checkAttrsExt_ok_iff, true_and, not_true, false_and, or_false]

theorem validateBody_ok_iff (s : Schema) (e : Entry) (ecs : List Nat) :
    validateBody s e ecs = .ok () ↔ ConformsBody s e ecs := by
  simp only [validateBody, ite_error_eq_ok, supplementsEmptyOk, supplementsQuant,
    missingMustSoftenedByRecycled, Bool.true_and, Bool.not_eq_true', Bool.not_eq_false,
    show recycledFlagClass.atom = cRecycled from rfl,
    show extensibleFlagClass.atom = cExtensible from rfl,
    filter_isNone_isEmpty, not_any_isNone, suppOk_iff, missingOk_iff, attrsOk_iff]
  simp only [List.isEmpty_iff, List.filter_eq_nil_iff, List.contains_iff_mem, mem_gather_must,
    mem_gather_may, mem_gather_supp, mem_gather_excl]
  -- the six conjuncts come out in the order of `ConformsBody`'s fields
  exact ⟨fun ⟨a, b, c, d, e, f⟩ => ⟨a, b, c, d, e, f⟩, fun ⟨a, b, c, d, e, f⟩ => ⟨a, b, c, d, e, f⟩⟩

theorem validate_ok_iff_conforms (s : Schema) (e : Entry) :
    validate s e = .ok () ↔ Conforms s e := by
  unfold validate Conforms
  cases classSet e with
  | none => simp
  | some ecs =>
    simp only [Option.some.injEq, exists_eq_left', show exemptClass.atom = cConflict from rfl,
      ← validateBody_ok_iff, List.contains_iff_mem]
    split <;> simp [*]

theorem Conforms.body {s : Schema} {e : Entry} {ecs : List Nat} (h : Conforms s e)
    (hcs : classSet e = some ecs) (hnc : cConflict ∉ ecs) : ConformsBody s e ecs := by
  obtain ⟨_, hcs', hb⟩ := h
  cases hcs.symm.trans hcs'
  exact hb.resolve_left hnc

theorem getAva_cons (p : Nat × Ava) (r : Entry) (a : Nat) :
    getAva (p :: r) a = if a == p.1 then some p.2 else getAva r a := by
  obtain ⟨k, v⟩ := p
  simp only [getAva, List.lookup]
  cases h : a == k <;> simp

theorem getAva_append (e l : Entry) (a : Nat) : getAva (e ++ l) a = (getAva e a).or (getAva l a) :=
  List.lookup_append

theorem getAva_singleton (a b : Nat) (x : Ava) : getAva [(a, x)] b = if b = a then some x else none := by
  rw [getAva_cons]; simp [getAva]

theorem any_key_iff_getAva (e : Entry) (a : Nat) :
    e.any (fun p => p.1 == a) = (getAva e a).isSome := by
  induction e with
  | nil => rfl
  | cons p r ih =>
    rw [getAva_cons, List.any_cons, ih, BEq.comm (a := a)]
    cases p.1 == a <;> rfl

theorem getAva_map_replace (e : Entry) (a b : Nat) (x : Ava) :
    getAva (e.map (fun p => if p.1 == a then (a, x) else p)) b =
      if b = a then (getAva e a).map (fun _ => x) else getAva e b := by
  induction e with
  | nil => simp [getAva]
  | cons p r ih =>
    simp only [List.map_cons, getAva_cons, ih]
    by_cases hp : p.1 = a
    · by_cases hb : b = a <;> simp [hp, hb]
    · have hp' : a ≠ p.1 := Ne.symm hp
      by_cases hb : b = a <;> simp [hp, hp', hb]

theorem getAva_setAva (e : Entry) (a b : Nat) (x : Ava) :
    getAva (setAva e a x) b = if b = a then some x else getAva e b := by
  unfold setAva
  rw [any_key_iff_getAva]
  cases h : getAva e a with
  | some y => simp only [Option.isSome_some, if_true, getAva_map_replace, h, Option.map_some]
  | none =>
    simp only [Option.isSome_none, Bool.false_eq_true, if_false, getAva_append, getAva_singleton]
    split
    · next hb => rw [hb, h]; rfl
    · exact Option.or_none

theorem getAva_setAva_self (e : Entry) (a : Nat) (x : Ava) : getAva (setAva e a x) a = some x := by
  rw [getAva_setAva, if_pos rfl]

theorem getAva_setAva_ne (e : Entry) {a b : Nat} (x : Ava) (hne : b ≠ a) :
    getAva (setAva e a x) b = getAva e b := by
  rw [getAva_setAva, if_neg hne]

theorem mem_setAva {e : Entry} {a : Nat} {x : Ava} {p : Nat × Ava} (h : p ∈ setAva e a x) :
    p = (a, x) ∨ (p ∈ e ∧ p.1 ≠ a) := by
  unfold setAva at h
  split at h
  · obtain ⟨q, hq, rfl⟩ := List.mem_map.1 h
    by_cases hk : q.1 = a
    · left; simp [hk]
    · right; simpa [hk] using hq
  · next hany =>
    rcases List.mem_append.1 h with h | h
    · exact Or.inr ⟨h, fun hk => hany (List.any_eq_true.2 ⟨p, h, by simpa using hk⟩)⟩
    · left; simpa using h

theorem classSet_congr {e e' : Entry} (h : getAva e' aClass = getAva e aClass) :
    classSet e' = classSet e := by
  unfold classSet; rw [h]

theorem classWellTyped_congr {e e' : Entry} (h : getAva e' aClass = getAva e aClass) :
    ClassWellTyped e' ↔ ClassWellTyped e := by
  unfold ClassWellTyped; rw [h]

theorem getAva_addAvaInt_ne (e : Entry) {a b : Nat} (syn : Nat) (v : Val) (hne : b ≠ a) :
    getAva (addAvaInt e a syn v) b = getAva e b := by
  fun_cases addAvaInt e a syn v with
  -- value already there, or a set of another syntax: the entry stays
  | case1 | case3 => rfl
  -- value added to the set
  | case2 => exact getAva_setAva_ne e _ hne
  -- no such attribute: appended
  | case4 => rw [getAva_append, getAva_singleton, if_neg hne, Option.or_none]

theorem classWellTyped_of_classSet {e : Entry} {ecs : List Nat} (h : classSet e = some ecs) :
    ClassWellTyped e := by
  intro ava hava
  simp only [classSet, hava] at h
  split at h
  · next hs => exact eq_of_beq hs
  · cases h

theorem classSet_of_getAva {e : Entry} {vs : List Val} (h : getAva e aClass = some ⟨synIutf8, vs⟩) :
    classSet e = some (vs.map (·.atom)) := by
  unfold classSet; rw [h]; rfl

theorem getAva_addClass {e : Entry} (c : Nat) (hwt : ClassWellTyped e) :
    ∃ vs, getAva (addAvaInt e aClass synIutf8 ⟨c, true⟩) aClass = some ⟨synIutf8, vs⟩ ∧
      c ∈ vs.map (·.atom) ∧ ∀ ava, getAva e aClass = some ava → ∀ x ∈ ava.vals, x ∈ vs := by
  fun_cases addAvaInt e aClass synIutf8 ⟨c, true⟩ with
  -- class already there
  | case1 ava hg hs hany =>
    obtain ⟨x, hx, hxc⟩ := List.any_eq_true.1 hany
    obtain ⟨_, vs⟩ := ava
    cases eq_of_beq hs
    exact ⟨vs, hg, List.mem_map.2 ⟨x, hx, eq_of_beq hxc⟩,
      fun _ h => by cases hg.symm.trans h; exact fun _ => id⟩
  -- class added to the set
  | case2 ava hg hs _ =>
    obtain ⟨_, vs⟩ := ava
    cases eq_of_beq hs
    exact ⟨_, getAva_setAva_self e aClass _,
      List.mem_map.2 ⟨⟨c, true⟩, List.mem_append_right _ List.mem_cons_self, rfl⟩,
      fun _ h => by cases hg.symm.trans h; exact fun x hx => List.mem_append_left _ hx⟩
  -- a set of another syntax: excluded by `hwt`
  | case3 ava hg hs => exact absurd (beq_iff_eq.2 (hwt _ hg)) hs
  -- no class attribute
  | case4 hg =>
    exact ⟨[⟨c, true⟩], by rw [getAva_append, hg, getAva_singleton]; rfl, List.mem_cons_self,
      fun _ h => by cases hg.symm.trans h⟩

theorem getAva_addClass_illtyped {e : Entry} (c : Nat) (hwt : ¬ ClassWellTyped e) :
    getAva (addAvaInt e aClass synIutf8 ⟨c, true⟩) aClass = getAva e aClass := by
  fun_cases addAvaInt e aClass synIutf8 ⟨c, true⟩ with
  -- the entry stays
  | case1 | case3 => rfl
  -- an iutf8 set, or no class attribute: excluded by `hwt`
  | case2 ava hg hs _ => exact absurd (fun _ h => by cases hg.symm.trans h; exact eq_of_beq hs) hwt
  | case4 hg => exact absurd (fun _ h => by cases hg.symm.trans h) hwt

/-- Replication: a merged entry that passes the schema is stored as it is. -/
theorem repl_valid_unchanged {s : Schema} {u : Nat} {e : Entry} (h : validate s e = .ok ()) :
    validateRepl s u e = e := by
  unfold validateRepl; rw [h]

theorem class_ne_sourceUuid : aClass ≠ AttrName.sourceUuid.atom := by decide

theorem validateRepl_of_err {s : Schema} {u : Nat} {e : Entry} {x : SErr}
    (h : validate s e = .error x) (hwt : ClassWellTyped e) :
    ∃ ecs, classSet (validateRepl s u e) = some ecs ∧ cConflict ∈ ecs ∧ cRecycled ∈ ecs := by
  unfold validateRepl; rw [h]
  simp only [replFailClasses, replFailAttr, List.foldl_cons, List.foldl_nil]
  obtain ⟨vs1, h1, hr1, _⟩ := getAva_addClass Cls.recycled.atom hwt
  obtain ⟨vs2, h2, hc2, hsub⟩ := getAva_addClass Cls.conflict.atom
    (classWellTyped_of_classSet (classSet_of_getAva h1))
  obtain ⟨x, hx, hxr⟩ := List.mem_map.1 hr1
  rw [classSet_congr (getAva_addAvaInt_ne _ synUuid ⟨u, true⟩ class_ne_sourceUuid)]
  exact ⟨_, classSet_of_getAva h2, hc2, List.mem_map.2 ⟨x, hsub _ h1 x hx, hxr⟩⟩

theorem validateRepl_illtyped {s : Schema} {u : Nat} {e : Entry} (hwt : ¬ ClassWellTyped e) :
    ¬ ClassWellTyped (validateRepl s u e) := by
  unfold validateRepl
  split
  · exact hwt
  · simp only [replFailClasses, replFailAttr, List.foldl_cons, List.foldl_nil]
    have h1 := classWellTyped_congr (getAva_addClass_illtyped Cls.recycled.atom hwt)
    have h2 := classWellTyped_congr (getAva_addClass_illtyped Cls.conflict.atom (mt h1.1 hwt))
    rw [classWellTyped_congr (getAva_addAvaInt_ne _ synUuid ⟨u, true⟩ class_ne_sourceUuid), h2, h1]
    exact hwt

theorem ConformsBody.attr_ok {s : Schema} {e : Entry} {ecs : List Nat} (h : ConformsBody s e ecs) :
    ∀ p ∈ e, ∃ sa, findAttr s p.1 = some sa ∧ AvaOk sa p.2 := fun p hp =>
  h.attrs.elim (fun ⟨_, ha⟩ => let ⟨sa, h1, _, h3⟩ := ha p hp; ⟨sa, h1, h3⟩)
    fun ⟨_, _, ha⟩ => (ha p hp).2

theorem conforms_setAva {s : Schema} {e : Entry} {a : Nat} {old new : Ava}
    (h : Conforms s e) (hold : getAva e a = some old) (hok : ∀ sa, AvaOk sa old → AvaOk sa new)
    (hne : a ≠ aClass) : Conforms s (setAva e a new) := by
  obtain ⟨ecs, hcs, h⟩ := h
  refine ⟨ecs, by rw [classSet_congr (getAva_setAva_ne e _ (Ne.symm hne))]; exact hcs,
    h.imp_right fun h => ?_⟩
  have attrs : ∀ {Q : Nat × Ava → Prop}, (Q (a, old) → Q (a, new)) →
      (∀ p ∈ e, Q p) → ∀ p ∈ setAva e a new, Q p := fun hQ hall p hp =>
    (mem_setAva hp).elim (fun hp => hp ▸ hQ (hall _ (lookup_mem hold))) fun hp => hall p hp.1
  refine ⟨h.classesKnown, h.supplements, h.excludes, h.requiredDefined,
    h.requiredPresent.imp_right fun hr b hb => ?_, h.attrs.imp ?_ ?_⟩
  · rw [getAva_setAva]
    split
    · exact ⟨_, rfl⟩
    · exact hr b hb
  · exact fun ⟨hx, ha⟩ => ⟨hx, attrs (fun ⟨sa, h1, h2, h3⟩ => ⟨sa, h1, h2, hok sa h3⟩) ha⟩
  · exact fun ⟨hx, hd, ha⟩ =>
      ⟨hx, hd, attrs (fun ⟨h0, sa, h1, h3⟩ => ⟨h0, sa, h1, hok sa h3⟩) ha⟩

theorem avaOk_cid {sa : SAttr} {old : Ava} (cid : Nat) (hsyn : old.syn = synCid) (hk : AvaOk sa old) :
    AvaOk sa ⟨synCid, [⟨cid, true⟩]⟩ :=
  ⟨Or.inr (Nat.le_refl 1), hk.2.1.trans hsyn, fun v hv => by cases List.mem_singleton.1 hv; rfl⟩

theorem sealEntry_eq (cid : Nat) (e : Entry) :
    sealEntry cid e =
      setAva (setAva e aLastMod ⟨synCid, [⟨cid, true⟩]⟩) aCreatedAt ⟨synCid, [⟨cid, true⟩]⟩ := rfl

theorem getAva_seal (cid : Nat) (e : Entry) (b : Nat) :
    getAva (sealEntry cid e) b =
      if b = aCreatedAt then some ⟨synCid, [⟨cid, true⟩]⟩
      else if b = aLastMod then some ⟨synCid, [⟨cid, true⟩]⟩ else getAva e b := by
  rw [sealEntry_eq, getAva_setAva, getAva_setAva]

theorem conforms_seal {s : Schema} {e : Entry} (cid : Nat) (h : Conforms s e) (hc : HasCid e) :
    Conforms s (sealEntry cid e) := by
  obtain ⟨⟨o1, h1, s1⟩, ⟨o2, h2, s2⟩⟩ := hc
  have h2' : getAva (setAva e aLastMod ⟨synCid, [⟨cid, true⟩]⟩) aCreatedAt = some o2 := by
    rw [getAva_setAva_ne e _ (by decide)]; exact h2
  exact conforms_setAva (conforms_setAva h h1 (fun _ => avaOk_cid cid s1) (by decide)) h2'
    (fun _ => avaOk_cid cid s2) (by decide)

theorem hasCid_seal (cid : Nat) (e : Entry) : HasCid (sealEntry cid e) :=
  ⟨⟨_, by rw [getAva_seal]; rfl, rfl⟩, ⟨_, by rw [getAva_seal]; rfl, rfl⟩⟩

theorem classSet_seal (cid : Nat) (e : Entry) : classSet (sealEntry cid e) = classSet e :=
  classSet_congr (by rw [getAva_seal]; rfl)

theorem classWellTyped_seal (cid : Nat) (e : Entry) :
    ClassWellTyped (sealEntry cid e) ↔ ClassWellTyped e :=
  classWellTyped_congr (by rw [getAva_seal]; rfl)

theorem hasCid_of_object {s : Schema} {e : Entry} {ecs : List Nat} (hf : SchemaCidFacts s)
    (h : Conforms s e) (hcs : classSet e = some ecs) (ho : cObject ∈ ecs)
    (hnc : cConflict ∉ ecs) (hnr : cRecycled ∉ ecs) : HasCid e := by
  have hb := h.body hcs hnc
  have present := hb.requiredPresent.resolve_left hnr
  obtain ⟨sc, hsc, r1, r2⟩ := hf.objectRequires
  have typed : ∀ a ava, (a = aLastMod ∨ a = aCreatedAt) → getAva e a = some ava → ava.syn = synCid := by
    intro a ava ha hg
    obtain ⟨sa, h1, h3⟩ := hb.attr_ok _ (lookup_mem hg)
    rw [← h3.2.1]; exact hf.cidTyped a sa ha h1
  obtain ⟨a1, g1⟩ := present aLastMod ⟨cObject, ho, sc, hsc, r1⟩
  obtain ⟨a2, g2⟩ := present aCreatedAt ⟨cObject, ho, sc, hsc, r2⟩
  exact ⟨⟨a1, g1, typed _ _ (Or.inl rfl) g1⟩, ⟨a2, g2, typed _ _ (Or.inr rfl) g2⟩⟩

structure ClassExt (sc sc' : SClass) : Prop where
  systemmust : sc'.systemmust = sc.systemmust
  must : sc'.must = sc.must
  systemmay : ∀ a, a ∈ sc.systemmay → a ∈ sc'.systemmay
  may : ∀ a, a ∈ sc.may → a ∈ sc'.may
  systemsupplements : sc'.systemsupplements = sc.systemsupplements
  supplements : sc'.supplements = sc.supplements
  systemexcludes : sc'.systemexcludes = sc.systemexcludes
  excludes : sc'.excludes = sc.excludes

theorem SchemaExt.classExt {s s' : Schema} (hx : SchemaExt s s') {c : Nat} {sc : SClass}
    (hsc : findClass s c = some sc) : ∃ sc', findClass s' c = some sc' ∧ ClassExt sc sc' :=
  let ⟨sc', hsc', h1, h2, h3, h4, h5, h6, h7, h8⟩ := hx.classes c sc hsc
  ⟨sc', hsc', h1, h2, h3, h4, h5, h6, h7, h8⟩

theorem SchemaExt.exists_class {s s' : Schema} (hx : SchemaExt s s') {ecs : List Nat}
    {P P' : SClass → Prop} (hP : ∀ sc sc', ClassExt sc sc' → P sc → P' sc') :
    (∃ c ∈ ecs, ∃ sc, findClass s c = some sc ∧ P sc) →
      ∃ c ∈ ecs, ∃ sc', findClass s' c = some sc' ∧ P' sc' := by
  rintro ⟨c, hc, sc, hsc, h⟩
  obtain ⟨sc', hsc', hr⟩ := hx.classExt hsc
  exact ⟨c, hc, sc', hsc', hP sc sc' hr h⟩

theorem SchemaExt.exists_class_back {s s' : Schema} (hx : SchemaExt s s') {ecs : List Nat}
    (hk : ∀ c ∈ ecs, ∃ sc, findClass s c = some sc)
    {P P' : SClass → Prop} (hP : ∀ sc sc', ClassExt sc sc' → P' sc' → P sc) :
    (∃ c ∈ ecs, ∃ sc', findClass s' c = some sc' ∧ P' sc') →
      ∃ c ∈ ecs, ∃ sc, findClass s c = some sc ∧ P sc := by
  rintro ⟨c, hc, sc', hsc', h⟩
  obtain ⟨sc, hsc⟩ := hk c hc
  obtain ⟨sc2, h2, hr⟩ := hx.classExt hsc
  cases hsc'.symm.trans h2
  exact ⟨c, hc, sc, hsc, hP sc sc' hr h⟩

theorem conforms_mono {s s' : Schema} {e : Entry} (hx : SchemaExt s s') (h : Conforms s e) :
    Conforms s' e := by
  obtain ⟨ecs, hcs, h⟩ := h
  refine ⟨ecs, hcs, h.imp_right fun h => ?_⟩
  have req : ∀ a, Required s' ecs a → Required s ecs a := fun a =>
    hx.exists_class_back h.classesKnown fun sc sc' hr => by rw [hr.systemmust, hr.must]; exact id
  have sup : ∀ d, Supplements s' ecs d ↔ Supplements s ecs d := fun d =>
    ⟨hx.exists_class_back h.classesKnown fun sc sc' hr => by
      rw [hr.systemsupplements, hr.supplements]; exact id,
     hx.exists_class fun sc sc' hr => by rw [hr.systemsupplements, hr.supplements]; exact id⟩
  have exc : ∀ d, Excludes s' ecs d → Excludes s ecs d := fun d =>
    hx.exists_class_back h.classesKnown fun sc sc' hr => by
      rw [hr.systemexcludes, hr.excludes]; exact id
  have alw : ∀ a, Allowed s ecs a → Allowed s' ecs a := fun a =>
    hx.exists_class fun sc sc' hr => by
      rw [hr.systemmust, hr.must]
      exact Or.imp_right (Or.imp_right (Or.imp (hr.systemmay a) (hr.may a)))
  refine ⟨?_, ?_, ?_, ?_, ?_, ?_⟩
  · intro c hc
    obtain ⟨sc, hsc⟩ := h.classesKnown c hc
    obtain ⟨sc', hsc', _⟩ := hx.classes c sc hsc
    exact ⟨sc', hsc'⟩
  · exact h.supplements.imp (fun hn d hd => hn d ((sup d).1 hd))
      fun ⟨d, hd, hin⟩ => ⟨d, (sup d).2 hd, hin⟩
  · exact fun d hd => h.excludes d (exc d hd)
  · intro a ha
    obtain ⟨sa, hsa⟩ := h.requiredDefined a (req a ha)
    exact ⟨sa, hx.attrs a sa hsa⟩
  · exact h.requiredPresent.imp_right fun hr a ha => hr a (req a ha)
  · rcases h.attrs with ⟨hxt, ha⟩ | ⟨hxt, _, ha⟩
    · left
      refine ⟨hxt, fun p hp => ?_⟩
      obtain ⟨sa, h1, h2, h3⟩ := ha p hp
      exact ⟨sa, hx.attrs _ sa h1, h2, h3⟩
    · right
      refine ⟨hxt, ?_, fun p hp => ?_⟩
      · rintro a ⟨c, hc, sc', hsc', hm⟩
        exact hx.consistent c sc' hsc' a hm
      · obtain ⟨h0, sa, h1, h3⟩ := ha p hp
        exact ⟨alw _ h0, sa, hx.attrs _ sa h1, h3⟩

/-- adding attribute definitions and classes extends a schema; `hc` is `SchemaExt.consistent` in a form that
evaluation decides on concrete schemas -/
theorem schemaExt_append (s : Schema) (as : List SAttr) (cs : List SClass)
    (hc : ∀ sc ∈ s.classes ++ cs, ∀ a ∈ sc.systemmust ++ sc.must ++ sc.systemmay ++ sc.may,
      (findAttr ⟨s.attrs ++ as, s.classes ++ cs⟩ a).isSome = true) :
    SchemaExt s ⟨s.attrs ++ as, s.classes ++ cs⟩ := by
  refine ⟨fun a sa h => ?_, fun c sc h => ⟨sc, ?_, rfl, rfl, fun _ => id, fun _ => id, rfl, rfl, rfl, rfl⟩,
    fun c sc' h a ha => Option.isSome_iff_exists.1 (hc sc' (List.mem_of_find?_eq_some h) a ?_)⟩
  · rw [findAttr, List.find?_append, show s.attrs.find? _ = some sa from h]; rfl
  · rw [findClass, List.find?_append, show s.classes.find? _ = some sc from h]; rfl
  · simpa only [List.mem_append, or_assoc] using ha

theorem checked_of_conflict {s : Schema} {e : Entry}
    (h : ∃ ecs, classSet e = some ecs ∧ cConflict ∈ ecs) : Checked s e := by
  obtain ⟨ecs, hcs, hc⟩ := h
  exact .passed ((validate_ok_iff_conforms s e).2 ⟨ecs, hcs, Or.inl hc⟩)

theorem checked_validateRepl (s : Schema) (u : Nat) (e : Entry) :
    Checked s (validateRepl s u e) := by
  by_cases hwt : ClassWellTyped e
  · cases hv : validate s e with
    | ok _ => rw [repl_valid_unchanged hv]; exact .passed hv
    | error x =>
      obtain ⟨ecs, h1, h2, _⟩ := validateRepl_of_err (u := u) hv hwt
      exact checked_of_conflict ⟨ecs, h1, h2⟩
  · exact .illTyped (validateRepl_illtyped hwt)

theorem checked_mono {s s' : Schema} {e : Entry} (hx : SchemaExt s s') (h : Checked s e) :
    Checked s' e := by
  induction h with
  | passed hv =>
    exact .passed ((validate_ok_iff_conforms _ _).2 (conforms_mono hx ((validate_ok_iff_conforms _ _).1 hv)))
  | illTyped hw => exact .illTyped hw
  | sealed cid _ ih => exact .sealed cid ih

theorem checked_live_valid {s : Schema} (hf : SchemaCidFacts s) {e : Entry} (h : Checked s e) :
    ∀ ecs, classSet e = some ecs → cObject ∈ ecs → cConflict ∉ ecs → cRecycled ∉ ecs →
      validate s e = .ok () := by
  induction h with
  | passed hv => intro _ _ _ _ _; exact hv
  | illTyped hw => exact fun ecs hcs _ _ _ => absurd (classWellTyped_of_classSet hcs) hw
  | sealed cid _ ih =>
    intro ecs hcs ho hnc hnr
    rw [classSet_seal] at hcs
    have hv := ih ecs hcs ho hnc hnr
    have hc := (validate_ok_iff_conforms _ _).1 hv
    exact (validate_ok_iff_conforms _ _).2
      (conforms_seal cid hc (hasCid_of_object hf hc hcs ho hnc hnr))

theorem validateAll_ok {s : Schema} {c : List Entry} (h : validateAll s c = .ok ()) :
    ∀ e ∈ c, validate s e = .ok () := by
  fun_induction validateAll s c with
  | case1 => exact fun _ h => nomatch h
  -- the head entry is refused
  | case2 => cases h
  | case3 e r u hx ih => exact List.forall_mem_cons.2 ⟨(ite_error_eq_ok.1 hx).2, ih h⟩

/-- the flag of `wellOrderedFrom` says that the candidates are `Checked` -/
theorem runSteps_checked {s : Schema} (env : Env)
    (hcc : ∀ e ∈ env.conflictCopies, Checked s e) (steps : List Step) (c w : List Entry) :
    ∀ (v : Bool) (out : List Entry),
      wellOrderedFrom v steps = true → (v = true → ∀ e ∈ c, Checked s e) → (∀ e ∈ w, Checked s e) →
      runSteps env s steps c w = .ok out → ∀ e ∈ out, Checked s e := by
  fun_induction runSteps env s steps c w with
  -- end of the path
  | case1 => intro _ _ _ _ hw hr; cases hr; exact hw
  -- a refusing step
  | case2 | case4 | case10 | case12 => intro _ _ _ _ _ hr; cases hr
  -- `mutate`
  | case3 _ _ _ _ _ ih => exact fun _ out hwo _ hw => ih false out hwo (fun h => nomatch h) hw
  -- `validate`
  | case5 _ _ _ _ hv ih =>
    exact fun _ out hwo _ hw => ih true out hwo (fun _ e he => .passed (validateAll_ok hv e he)) hw
  -- `validateRepl`
  | case6 _ _ _ ih =>
    refine fun _ out hwo _ hw => ih true out hwo (fun _ e he => ?_) hw
    obtain ⟨x, _, rfl⟩ := List.mem_map.1 he
    exact checked_validateRepl s _ x
  -- `sealing`
  | case7 _ _ _ ih =>
    refine fun v out hwo hc hw => ih v out hwo (fun hv e he => ?_) hw
    obtain ⟨x, hx, rfl⟩ := List.mem_map.1 he
    exact .sealed _ (hc hv x hx)
  -- `store`: the flag is set
  | case8 _ _ _ _ ih =>
    intro v out hwo hc hw
    have hwo := Bool.and_eq_true_iff.1 hwo
    exact ih v out hwo.2 hc fun e he => (List.mem_append.1 he).elim (hw e) (hc hwo.1 e)
  -- `storeConflictCopies`: written unvalidated, `Checked` by `hcc`
  | case9 _ _ _ ih =>
    exact fun v out hwo hc hw => ih v out hwo hc fun e he => (List.mem_append.1 he).elim (hw e) (hcc e)
  -- `check`, `post`
  | case11 _ _ _ _ _ ih | case13 _ _ _ _ _ ih => exact ih

theorem wellOrdered_checked {s : Schema} {env : Env} {steps : List Step} {c out : List Entry}
    (hwo : wellOrdered steps = true)
    (hcc : ∀ e ∈ env.conflictCopies, ∃ ecs, classSet e = some ecs ∧ cConflict ∈ ecs)
    (hr : runSteps env s steps c [] = .ok out) : ∀ e ∈ out, Checked s e :=
  runSteps_checked env (fun e he => checked_of_conflict (hcc e he)) steps c [] false out hwo
    (fun h => nomatch h) (fun _ h => nomatch h) hr

theorem applyOp_checked {s : Schema} {db : Db} {o : Op} (ho : OpOk o)
    (hdb : ∀ e ∈ db, Checked s e) : ∀ e ∈ (applyOp s db o).1, Checked s e := by
  fun_cases applyOp s db o with
  -- accepted
  | case1 w hw =>
    exact fun e he => (List.mem_append.1 he).elim (fun he => hdb e (List.mem_filter.1 he).1)
      (wellOrdered_checked ho.ordered ho.copies hw e)
  -- refused
  | case2 => exact hdb

end Kanidm.SchemaCheck
