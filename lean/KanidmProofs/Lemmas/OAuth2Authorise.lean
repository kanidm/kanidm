import KanidmModel.OAuth2.Authorise
import KanidmProofs.Lemmas.Ite
import KanidmProofs.Lemmas.Keyed
/-! For C38: `Outcome.isGrant`, in which two of its theorems are stated, and what each stage of
`authorise` establishes when it lets a request pass. -/
namespace Kanidm.OAuth2
open Kanidm.Gen.OAuth2Authz

/-- An outcome that hands out authority: a code, or a consent token that `permit` turns into one. -/
def Outcome.isGrant : Outcome → Bool
  | .permitted .. => true
  | .consentRequested .. => true
  | _ => false

theorem rsSetGet_mem {reg : Registry} {id : List Char} {c : Client}
    (h : rsSetGet reg id = some c) : (id.map Char.toLower, c) ∈ reg :=
  lookup_mem h

theorem isMemberOf_iff {i : Ident} {g : Nat} :
    i.isMemberOf g = true ↔ i.kind = .user ∧ g ∈ i.memberOf := by
  unfold Ident.isMemberOf
  cases hk : i.kind <;> simp

theorem heldScopes_mem {maps : List (Nat × List Nat)} {i : Ident} {s : Nat} :
    s ∈ heldScopes maps i ↔
      ∃ g m, (g, m) ∈ maps ∧ i.kind = .user ∧ g ∈ i.memberOf ∧ s ∈ m := by
  unfold heldScopes
  simp only [List.mem_flatMap, List.mem_filter]
  constructor
  · rintro ⟨⟨g, m⟩, ⟨hmem, hmo⟩, hs⟩
    have := isMemberOf_iff.mp hmo
    exact ⟨g, m, hmem, this.1, this.2, hs⟩
  · rintro ⟨g, m, hmem, hk, hg, hs⟩
    exact ⟨(g, m), ⟨hmem, isMemberOf_iff.mpr ⟨hk, hg⟩⟩, hs⟩

theorem allowLocalhost_iff {c : Client} :
    c.allowLocalhostRedirect = true ↔ c.ctype = .pub true := by
  unfold Client.allowLocalhostRedirect
  cases h : c.ctype with
  | basic p q => simp [allowLocalhostRedirectBasic]
  | pub l => simp [allowLocalhostRedirectPublic]

theorem requirePkce_false_iff {c : Client} :
    c.requirePkce = false ↔ ∃ q, c.ctype = .basic false q := by
  unfold Client.requirePkce
  cases h : c.ctype with
  | basic p q => simp [requirePkceBasic]
  | pub l => simp [requirePkcePublic]

theorem shapeStage_ok {req : Request} {mode : SupportedResponseMode}
    (h : shapeStage req = .ok mode) :
    req.responseType = .code ∧
    (∃ rm, getResponseMode req.responseMode req.responseType = some rm ∧ supportedMode rm = some mode) ∧
    req.prompt.length ≤ 4 ∧ Prompt.invalid ∉ req.prompt ∧
    (Prompt.none ∈ req.prompt → req.prompt.length ≤ 1) := by
  revert h
  fun_cases shapeStage req <;> intro h <;> cases h
  rename_i hrt rm hrm hlen hinv hnone hm
  refine ⟨?_, ⟨rm, hrm, hm⟩, ?_, ?_, ?_⟩
  · cases hr : req.responseType <;> simp [hr, ResponseType.idx, requiredResponseType] at hrt ⊢
  · simpa [promptTooMany] using hlen
  · exact fun hmem => hinv (List.any_eq_true.mpr ⟨_, hmem, beq_self_eq_true _⟩)
  · intro hmem
    simpa [promptNoneConflict, hmem] using hnone

theorem redirectStage_ok {c : Client} {u : Uri} {lb : Bool} (h : redirectStage c u = .ok lb) :
    (u.atom ∈ c.redirectUris ∨ u.atom ∈ c.opaqueOrigins ∨
      (checkIsLoopback u = true ∧ c.ctype = .pub true)) ∧
    (c.originSecureRequired = true →
      u.atom ∈ c.opaqueOrigins ∨ checkIsLoopback u = true ∨ u.https = true) := by
  simp only [redirectStage] at h
  obtain ⟨hv, h⟩ := ite_error_eq_ok.mp h
  obtain ⟨hi, _⟩ := ite_error_eq_ok.mp h
  constructor
  · rw [Bool.not_eq_true, Bool.not_eq_false'] at hv
    have hv : (checkIsLoopback u = true ∧ c.ctype = .pub true) ∨ u.atom ∈ c.redirectUris ∨
        u.atom ∈ c.opaqueOrigins := by
      simpa [validMatchCondition, loopbackUriMatched, allowLocalhost_iff, or_assoc] using hv
    exact hv.elim (fun h => .inr (.inr h)) (Or.imp_right .inl)
  · intro hs
    rw [hs, insecureOriginRejected, Bool.true_and, Bool.not_eq_true, Bool.not_eq_false'] at hi
    simpa [redirectOriginIsSecure, or_assoc] using hi

theorem pkceStage_ok {c : Client} {p : Option Pkce} {ch : Option Nat}
    (h : pkceStage c p = .ok ch) :
    ch = p.map (·.challenge) ∧ (∀ pk, p = some pk → pk.isS256 = true) ∧
    (p = none → c.requirePkce = false) := by
  revert h
  fun_cases pkceStage c p <;> intro h <;> cases h
  · -- a PKCE request, its method accepted
    rename_i hm
    exact ⟨rfl, fun _ hpk => by cases hpk; simpa [pkceMethodRejected] using hm, nofun⟩
  · -- no PKCE request, and the client does not require one
    rename_i hr
    exact ⟨rfl, nofun, fun _ => by simpa using hr⟩

theorem processRequestedScopes_ok {scopeOk : Nat → Bool} {c : Client} {i : Ident} {req r g : List Nat}
    (h : processRequestedScopes scopeOk c i req = .ok (r, g)) :
    r = req ∧ req ≠ [] ∧ (∀ s ∈ req, scopeOk s = true) ∧
    (∀ s ∈ req, s ∈ heldScopes c.scopeMaps i) ∧ g = heldScopes c.supScopeMaps i ++ req := by
  revert h
  fun_cases processRequestedScopes scopeOk c i req <;> intro h <;> cases h
  rename_i he hv _ hs
  exact ⟨rfl, fun hnil => he (hnil ▸ rfl), by simpa using hv, by simpa [scopesDenied] using hs, rfl⟩

/-- The three exits of `finishStage`: the code, the refusal under `prompt=none`, the consent request. -/
theorem finishStage_cases (c : Client) (i : Ident) (req : Request) (mode : SupportedResponseMode)
    (lb : Bool) (ch : Option Nat) (rs g : List Nat) (ct : Nat) :
    finishStage c i req mode lb ch rs g ct = .permitted
        { accountUuid := i.uuid, sessionId := i.sessionId, expiry := asSecs ct + codeExpirySecs,
          codeChallenge := ch, redirectUri := req.redirectUri.atom, scopes := g,
          nonce := req.nonce, authTime := i.lastVerifiedAt } req.state mode ∨
    finishStage c i req mode lb ch rs g ct = .err .interactionRequired ∨
    finishStage c i req mode lb ch rs g ct = .consentRequested
        { clientId := req.clientId, sessionId := i.sessionId,
          expiry := asSecs ct + consentExpirySecs, identId := i.originId, state := req.state,
          codeChallenge := ch, redirectUri := req.redirectUri.atom, scopes := g,
          nonce := req.nonce, responseMode := mode } (piiScopes (rs.contains scopeOpenid) g) := by
  fun_cases finishStage c i req mode lb ch rs g ct
  · exact .inl rfl
  · exact .inr (.inl rfl)
  · exact .inr (.inr rfl)

theorem authorise_grant_inv {scopeOk : Nat → Bool} {reg : Registry} {ident : Option Ident}
    {req : Request} {resumed : Bool} {ct : Nat} {o : Outcome}
    (h : authorise scopeOk reg ident req resumed ct = o) (hg : o.isGrant = true) :
    ∃ mode c lb ch i g,
      shapeStage req = .ok mode ∧ rsSetGet reg req.clientId = some c ∧
      redirectStage c req.redirectUri = .ok lb ∧ pkceStage c req.pkce = .ok ch ∧
      ident = some i ∧ reauthRequired req i resumed ct = false ∧
      isAnonymous i.uuid uuidAnonymous = false ∧
      processRequestedScopes scopeOk c i req.scope = .ok (req.scope, g) ∧
      o = finishStage c i req mode lb ch req.scope g ct := by
  subst h
  revert hg
  fun_cases authorise scopeOk reg ident req resumed ct <;> intro hg
  -- the one arm that reaches `finishStage`
  case case10 mode hmode c hc lb hlb ch hch i hre han rs g hps =>
    obtain rfl := (processRequestedScopes_ok hps).1
    exact ⟨mode, c, lb, ch, i, g, hmode, hc, hlb, hch, rfl, by simpa using hre, by simpa using han, hps, rfl⟩
  -- every refusing exit of `authorise` is an outcome that is not a grant
  all_goals cases hg

end Kanidm.OAuth2
