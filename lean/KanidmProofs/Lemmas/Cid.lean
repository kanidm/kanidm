import KanidmModel.Cid
/-!
Three things about change identifiers.
* The lamport step and the derived order of `Cid` (`lamport_gt`, `cidLt_iff` and the order facts): what C08, C09 and C26
  take from here.
* One run of the generated `commit()` steps, whatever step fails (`runSteps_post` → `WorkPost`): C07's commit, and C05's
  commit cut short by a crash.
* C07's event machine: its invariant `Inv` and the three ways an event keeps it (`Inv.frame`, `Inv.push`, `Inv.seal`).
-/
namespace Kanidm.Cid
open Kanidm.Gen.Cid Kanidm.Gen.CidCommit

/-- The lamport step always lands strictly above the previous maximum, whatever the clock says
(`ts` equal to, below or above `max`).  Fails for `>=`: witness `ts = max`. -/
theorem lamport_gt (ts max : Nat) : max < lamportTs ts max := by
  unfold lamportTs keepTs
  split
  · next h => exact of_decide_eq_true h
  · exact Nat.lt_succ_self max

theorem lamport_ge_clock (ts max : Nat) : ts ≤ lamportTs ts max := by
  unfold lamportTs keepTs
  split
  · exact Nat.le_refl ts
  · next h => exact Nat.le_succ_of_le (Nat.le_of_not_gt fun hgt => h (decide_eq_true hgt))

/-- `#[derive(Ord)]` on `Cid`, over the generated field order. -/
theorem cidLt_iff (a b : Cid) :
    cidLt a b = true ↔ (a.ts < b.ts ∨ (a.ts = b.ts ∧ a.sUuid < b.sUuid)) := by
  simp only [cidLt, ordFields, lexLt, fieldVal, Bool.or_eq_true, Bool.and_eq_true, Bool.false_eq_true,
    and_false, or_false]
  exact or_congr decide_eq_true_iff (and_congr decide_eq_true_iff decide_eq_true_iff)

theorem cidLt_irrefl (a : Cid) : cidLt a a = false :=
  Bool.eq_false_iff.2 fun h =>
    ((cidLt_iff a a).1 h).elim (Nat.lt_irrefl _) fun h => Nat.lt_irrefl _ h.2

theorem cidLt_trans {a b c : Cid} (h1 : cidLt a b = true) (h2 : cidLt b c = true) :
    cidLt a c = true := by
  rw [cidLt_iff] at *
  rcases h1 with h1 | ⟨e1, h1⟩ <;> rcases h2 with h2 | ⟨e2, h2⟩
  · exact Or.inl (Nat.lt_trans h1 h2)
  · exact Or.inl (e2 ▸ h1)
  · exact Or.inl (e1 ▸ h2)
  · exact Or.inr ⟨e1.trans e2, Nat.lt_trans h1 h2⟩

theorem cidLt_connex {a b : Cid} (h1 : cidLt a b = false) (h2 : cidLt b a = false) : a = b := by
  have h1 := mt (cidLt_iff a b).2 (Bool.eq_false_iff.1 h1)
  have h2 := mt (cidLt_iff b a).2 (Bool.eq_false_iff.1 h2)
  cases a; cases b
  simp only [Cid.mk.injEq] at *
  omega

theorem cidLt_asymm {a b : Cid} (h : cidLt a b = true) : cidLt b a = false := by
  cases h' : cidLt b a
  · rfl
  · rw [← cidLt_irrefl a, ← cidLt_trans h h']

theorem cidLt_false_trans {a b c : Cid} (h1 : cidLt a b = false) (h2 : cidLt b c = false) :
    cidLt a c = false := by
  cases h : cidLt a c
  · rfl
  · cases hba : cidLt b a
    · rw [← cidLt_connex h1 hba, h] at h2; cases h2
    · rw [cidLt_trans hba h] at h2; cases h2

/-- A commit step list is safe when every backend commit is preceded by both the persisting of
`ts_max` inside the same backend transaction and the in-memory commit of `cid_max`. -/
def orderOkAux : List CStep → Bool → Bool → Bool
  | [], _, _ => true
  | st :: rest, p, c =>
    match st.kind with
    | .persistTsMax => orderOkAux rest true c
    | .cidCommit => orderOkAux rest p true
    | .beCommit => p && c && orderOkAux rest p c
    | .other => orderOkAux rest p c

def orderOk (steps : List CStep) : Bool := orderOkAux steps false false

/-- The final state of a commit run, whatever step failed, for a transaction stamped `cid` that started
from in-memory maximum `mem0` and durable `ts_max` `db0`. -/
structure WorkPost (cid mem0 : Cid) (db0 : Option Nat) (w : Work) : Prop where
  memEither : w.mem = cid ∨ w.mem = mem0
  dur : w.durable = true → w.dbTs = some cid.ts ∧ w.mem = cid
  notDur : w.durable = false → w.dbTs = db0

/-- While the commit runs: `p`/`c` = persist / cid-commit already ran. -/
structure WorkInv (cid mem0 : Cid) (db0 : Option Nat) (p c : Bool) (w : Work) : Prop
    extends WorkPost cid mem0 db0 w where
  pend : p = true → w.pendingTs = some cid.ts
  memC : c = true → w.mem = cid

theorem runSteps_post (cid mem0 : Cid) (db0 : Option Nat) (fail : Option Nat) :
    ∀ (steps : List CStep) (i : Nat) (p c : Bool) (w : Work),
      orderOkAux steps p c = true → WorkInv cid mem0 db0 p c w →
      WorkPost cid mem0 db0 (runSteps cid steps i fail w).1 := by
  intro steps i p c w
  fun_induction runSteps cid steps i fail w generalizing p c with
  | case1 => exact fun _ h => h.toWorkPost  -- no step left
  | case2 => exact fun _ h => h.toWorkPost  -- the step at `i` fails
  | case3 st rest i fail w _ ih =>  -- the step at `i` runs
    intro hok h
    cases hk : st.kind <;> simp only [orderOkAux, hk, Bool.and_eq_true] at hok <;> rw [hk] at ih
    · -- `persistTsMax`
      exact ih true c hok ⟨⟨h.memEither, h.dur, h.notDur⟩, fun _ => rfl, h.memC⟩
    · -- `cidCommit`
      exact ih p true hok ⟨⟨.inl rfl, fun hd => ⟨(h.dur hd).1, rfl⟩, h.notDur⟩, h.pend, fun _ => rfl⟩
    · -- `beCommit` makes the pending `ts_max` durable; both earlier steps have run
      have hpend := h.pend hok.1.1
      have hmem := h.memC hok.1.2
      refine ih p c hok.2 ⟨⟨.inl hmem, fun _ => ⟨?_, hmem⟩, nofun⟩, fun _ => hpend, fun _ => hmem⟩
      simp only [applyStep, hpend]
    · -- `other`
      exact ih p c hok h

/-- `WorkPost` for a run from the state in which `commitTxn`, and C05's `crashCommit`, start. -/
theorem runSteps_start (s : Server) (t : Txn) (fail : Option Nat) (steps : List CStep)
    (hok : orderOk steps = true) :
    WorkPost t.cid s.mem s.dbTs (runSteps t.cid steps 0 fail
      { mem := s.mem, dbTs := s.dbTs, dbUuid := s.dbUuid, pendingTs := none,
        pendingUuid := t.pendingUuid, durable := false }).1 :=
  runSteps_post t.cid s.mem s.dbTs fail steps 0 false false _ hok
    ⟨⟨.inr rfl, nofun, fun _ => rfl⟩, nofun, nofun⟩

/-- `durable` is set by the backend commit and never cleared. -/
theorem runSteps_ok_durable (cid : Cid) (fail : Option Nat) (steps : List CStep) (i : Nat) (w : Work) :
    (w.durable = true ∨ ∃ st ∈ steps, st.kind = .beCommit) →
    (runSteps cid steps i fail w).2 = true → (runSteps cid steps i fail w).1.durable = true := by
  fun_induction runSteps cid steps i fail w with
  | case1 => exact fun h _ => h.elim id fun ⟨_, hm, _⟩ => nomatch hm  -- no step left
  | case2 => exact fun _ h => nomatch h  -- the step at `i` fails: not `Ok`
  | case3 st rest i fail w _ ih =>  -- the step at `i` runs
    refine fun h => ih (h.elim (fun hd => .inl ?_) ?_)
    · cases st.kind <;> first | exact hd | rfl
    · rintro ⟨st', hm, hb⟩
      rcases List.mem_cons.mp hm with rfl | hm
      · left; rw [hb]; rfl
      · exact .inr ⟨st', hm, hb⟩

theorem orderOkAux_take : ∀ (steps : List CStep) (k : Nat) (p c : Bool),
    orderOkAux steps p c = true → orderOkAux (steps.take k) p c = true
  | _, 0, _, _, _ => rfl
  | [], _ + 1, _, _, _ => rfl
  | st :: rest, k + 1, p, c, h => by
    rw [List.take_succ_cons]
    cases hk : st.kind <;> simp only [orderOkAux, hk, Bool.and_eq_true] at h ⊢
    · exact orderOkAux_take rest k true c h
    · exact orderOkAux_take rest k p true h
    · exact ⟨h.1, orderOkAux_take rest k p c h.2⟩
    · exact orderOkAux_take rest k p c h

theorem WorkPost.hist_cases {cid mem0 : Cid} {db0 : Option Nat} {w : Work}
    (hp : WorkPost cid mem0 db0 w) (hist : List Cid) :
    ((if w.durable then hist ++ [cid] else hist) = hist ++ [cid] ∧ w.dbTs = some cid.ts ∧ w.mem = cid) ∨
    ((if w.durable then hist ++ [cid] else hist) = hist ∧ w.dbTs = db0) := by
  cases hd : w.durable
  · exact .inr ⟨rfl, hp.notDur hd⟩
  · exact .inl ⟨rfl, hp.dur hd⟩

theorem stepR_commit {s : Server} {t : Txn} (htx : s.txn = some t) (fail : Option Nat) :
    stepR s (.commit fail)
      = ((commitTxn s t fail).1, if (commitTxn s t fail).2 then .ok else .err) := by
  simp only [stepR, htx]

theorem step_commit {s : Server} {t : Txn} (htx : s.txn = some t) (fail : Option Nat) :
    step s (.commit fail) = (commitTxn s t fail).1 :=
  congrArg Prod.fst (stepR_commit htx fail)

structure Inv (s : Server) : Prop where
  /-- the in-memory maximum dominates every committed transaction -/
  memDom : ∀ c ∈ s.hist, c.ts ≤ s.mem.ts
  /-- the durable maximum dominates every committed transaction -/
  dbDom : ∀ c ∈ s.hist, ∃ d, s.dbTs = some d ∧ c.ts ≤ d
  /-- an open transaction is stamped strictly above the in-memory maximum -/
  txnAbove : ∀ t, s.txn = some t → s.mem.ts < t.cid.ts
  /-- committed cids strictly increase -/
  sorted : s.hist.Pairwise (fun a b => cidLt a b = true)

theorem Inv.frame {s s' : Server} (h : Inv s) (hh : s'.hist = s.hist) (hd : s'.dbTs = s.dbTs)
    (hm : ∀ c ∈ s.hist, c.ts ≤ s'.mem.ts) (ht : ∀ t, s'.txn = some t → s'.mem.ts < t.cid.ts) :
    Inv s' where
  memDom := hh ▸ hm
  dbDom := hh ▸ hd ▸ h.dbDom
  txnAbove := ht
  sorted := hh ▸ h.sorted

theorem Inv.push {s s' : Server} (h : Inv s) {c : Cid} (hc : s.mem.ts < c.ts)
    (hh : s'.hist = s.hist ++ [c]) (hd : s'.dbTs = some c.ts) (hm : s'.mem = c)
    (ht : s'.txn = none) : Inv s' := by
  have hle : ∀ a ∈ s'.hist, a.ts ≤ c.ts := by
    intro a ha
    rcases List.mem_append.mp (hh ▸ ha) with hin | hin
    · exact Nat.le_of_lt (Nat.lt_of_le_of_lt (h.memDom a hin) hc)
    · rw [List.mem_singleton.mp hin]; exact Nat.le_refl _
  refine ⟨hm ▸ hle, fun a ha => ⟨c.ts, hd, hle a ha⟩, fun t ht' => (by rw [ht] at ht'; cases ht'), ?_⟩
  rw [hh, List.pairwise_append]
  refine ⟨h.sorted, List.pairwise_singleton _ _, fun a ha b hb => ?_⟩
  rw [List.mem_singleton.mp hb]
  exact (cidLt_iff a c).2 (.inl (Nat.lt_of_le_of_lt (h.memDom a ha) hc))

/-- The server a commit run leaves, whichever step failed: `push` if the run got durable, `frame` if not. -/
theorem Inv.seal {s : Server} (h : Inv s) {cid : Cid} (hc : s.mem.ts < cid.ts) {w : Work}
    (hp : WorkPost cid s.mem s.dbTs w) (u : Nat) :
    Inv { mem := w.mem, dbTs := w.dbTs, dbUuid := u, txn := none,
          hist := if w.durable then s.hist ++ [cid] else s.hist } := by
  rcases hp.hist_cases s.hist with ⟨hh, hdb, hm⟩ | ⟨hh, hdb⟩
  · exact h.push hc hh hdb hm rfl
  · refine h.frame hh hdb (fun c hcm => ?_) fun _ h => nomatch h
    show c.ts ≤ w.mem.ts
    rcases hp.memEither with hm | hm <;> rw [hm]
    · exact Nat.le_of_lt (Nat.lt_of_le_of_lt (h.memDom c hcm) hc)
    · exact h.memDom c hcm

end Kanidm.Cid
