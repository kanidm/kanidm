import KanidmModel.ReplReap
import KanidmProofs.Lemmas.ReplMerge
import KanidmProofs.Lemmas.RangeDiff
/-! For C09: the update vector's per-server ranges, what `trim_up_to`, `filter_ruv_range` and the reap's anchor
do to them, and which states `can_delete` takes. -/
namespace Kanidm.ReplReap
open Kanidm.Cid (Cid cidLt cidLt_iff)
open Kanidm.ReplMerge hiding lookup
open Kanidm.RangeDiff (Range Ruv lookup)
open Kanidm.Gen.ReapOps

theorem minList_eq (l : List Nat) : minList l = l.min?.getD 0 := by cases l <;> rfl

theorem maxList_eq (l : List Nat) : maxList l = l.max?.getD 0 := by cases l <;> rfl

theorem minList_le_mem {l : List Nat} {x : Nat} (h : x ∈ l) : minList l ≤ x :=
  minList_eq l ▸ List.min?_getD_le_of_mem h

theorem mem_le_maxList {l : List Nat} {x : Nat} (h : x ∈ l) : x ≤ maxList l :=
  maxList_eq l ▸ List.le_max?_getD_of_mem h

theorem minList_mem {l : List Nat} (hne : l ≠ []) : minList l ∈ l := by
  obtain ⟨a, ha⟩ := Option.isSome_iff_exists.mp (List.isSome_min?_of_ne_nil hne)
  rw [minList_eq, ha]
  exact List.min?_mem ha

theorem nodup_rangesOf (d : RuvData) : ((rangesOf d).map (·.1)).Nodup := by
  unfold rangesOf
  rw [List.map_map]
  exact (List.map_id _).symm ▸ nodup_sortDedup _

theorem lookup_rangesOf_eq_some {d : RuvData} {s : Nat} {r : Range} :
    lookup (rangesOf d) s = some r ↔
      s ∈ d.map (·.sUuid) ∧ ⟨minList (tsOf d s), maxList (tsOf d s)⟩ = r := by
  unfold rangesOf
  rw [RangeDiff.lookup_map_key]
  simp only [mem_sortDedup, Option.ite_none_right_eq_some, Option.some.injEq]

theorem mem_tsOf (d : RuvData) (s x : Nat) : x ∈ tsOf d s ↔ (⟨x, s⟩ : Cid) ∈ d := by
  unfold tsOf
  simp only [List.mem_map, List.mem_filter, beq_iff_eq]
  constructor
  · rintro ⟨⟨_, _⟩, ⟨hc, rfl⟩, rfl⟩; exact hc
  · intro h; exact ⟨⟨x, s⟩, ⟨h, rfl⟩, rfl⟩

theorem tsOf_ne_nil {d : RuvData} {s : Nat} (h : s ∈ d.map (·.sUuid)) : tsOf d s ≠ [] := by
  obtain ⟨⟨ts, _⟩, hc, rfl⟩ := List.mem_map.mp h
  exact List.ne_nil_of_mem ((mem_tsOf d _ ts).mpr hc)

theorem lookup_rangesOf_of_mem {d : RuvData} {c : Cid} (h : c ∈ d) :
    ∃ r, lookup (rangesOf d) c.sUuid = some r ∧ r.tsMin ≤ c.ts ∧ c.ts ≤ r.tsMax := by
  have hts : c.ts ∈ tsOf d c.sUuid := (mem_tsOf d c.sUuid c.ts).mpr h
  exact ⟨_, lookup_rangesOf_eq_some.mpr ⟨List.mem_map.mpr ⟨c, h, rfl⟩, rfl⟩,
    minList_le_mem hts, mem_le_maxList hts⟩

theorem rangesOf_min_le_max {d : RuvData} {s : Nat} {r : Range}
    (h : lookup (rangesOf d) s = some r) : r.tsMin ≤ r.tsMax := by
  obtain ⟨hm, rfl⟩ := lookup_rangesOf_eq_some.mp h
  exact mem_le_maxList (minList_mem (tsOf_ne_nil hm))

theorem mem_trimUpTo (t : Cid) (d : RuvData) (x : Cid) :
    x ∈ trimUpTo t d ↔ x ∈ d ∧ cidLt x t = false := by
  simp only [trimUpTo, trimRemoves, List.mem_filter, Bool.not_eq_true']

theorem ts_ge_of_not_lt {x t : Cid} (h : cidLt x t = false) : t.ts ≤ x.ts :=
  Nat.le_of_not_lt fun hlt => Bool.false_ne_true (h ▸ (cidLt_iff x t).mpr (Or.inl hlt))

theorem trimmed_min_ge {t : Cid} {d : RuvData} {s : Nat} {r : Range}
    (h : lookup (rangesOf (trimUpTo t d)) s = some r) : t.ts ≤ r.tsMin := by
  obtain ⟨hm, rfl⟩ := lookup_rangesOf_eq_some.mp h
  exact ts_ge_of_not_lt
    ((mem_trimUpTo t d _).mp ((mem_tsOf _ _ _).mp (minList_mem (tsOf_ne_nil hm)))).2

theorem nodup_filterView (t : Cid) (r : Ruv) (hn : (r.map (·.1)).Nodup) :
    ((filterView t r).map (·.1)).Nodup :=
  hn.sublist (List.filter_sublist.map _)

theorem lookup_filterView {t : Cid} {r : Ruv} (hn : (r.map (·.1)).Nodup) {s : Nat} {x : Range} :
    lookup (filterView t r) s = some x ↔ (lookup r s = some x ∧ ¬ x.tsMax < t.ts) := by
  unfold filterView
  rw [RangeDiff.lookup_filter hn]
  simp only [filterDrops, Bool.not_eq_true', decide_eq_false_iff_not]

theorem canDelete_iff (trim : Cid) (st : St) :
    canDelete trim st = true ↔ ∃ a, st = .tomb a ∧ cidLt a trim = true := by
  cases st with
  | live e => simp only [canDelete, canDeleteLive, Bool.false_eq_true, reduceCtorEq, false_and, exists_false]
  | tomb a => simp only [canDelete, canDeleteTomb, St.tomb.injEq, exists_eq_left']

theorem reap_ruv (now t : Cid) (s : Server) : (reap now t s).ruv = trimUpTo t (insertCid now s.ruv) := rfl

theorem reap_range_min_ge {now t : Cid} {s : Server} {k : Nat} {r : Range}
    (h : lookup (rangesOf (reap now t s).ruv) k = some r) : t.ts ≤ r.tsMin :=
  trimmed_min_ge (reap_ruv now t s ▸ h)

theorem mem_insertCid_self (c : Cid) (d : RuvData) : c ∈ insertCid c d := by
  unfold insertCid
  split
  · next h => exact List.contains_iff_mem.mp h
  · exact List.mem_append_right _ List.mem_cons_self

end Kanidm.ReplReap
