import KanidmModel.TxnCommit
/-!
C04's commit model, for any step list: operations touch only pending copies (`applyOps_committed`); a commit runs a prefix
of its steps and drops the rest (`commitWith_eq`); what a step list publishes, slot by slot (`applyAll_cell`,
`applyAll_db`); under an order predicate a failing commit has run nothing the predicate guards (`fail_before_first`).
Only the lemmas at the end evaluate the generated order.
-/
namespace Kanidm.TxnCommit
open Kanidm.Gen.CommitOrder

theorem applyOp_committed (s : St) (o : Op) :
    (∀ c, ((applyOp s o).cells c).committed = (s.cells c).committed) ∧
    (applyOp s o).db.committed = s.db.committed := by
  cases o with
  | stage c v =>
    refine ⟨fun d => ?_, rfl⟩
    show (if d = c then _ else _ : CellSt).committed = _
    split <;> rfl
  | dbStage v => exact ⟨fun _ => rfl, rfl⟩

theorem applyOps_committed (ops : List Op) (s : St) :
    (∀ c, ((applyOps s ops).cells c).committed = (s.cells c).committed) ∧
    (applyOps s ops).db.committed = s.db.committed :=
  List.foldlRecOn ops applyOp (motive := fun t => (∀ c, (t.cells c).committed = (s.cells c).committed) ∧
      t.db.committed = s.db.committed) ⟨fun _ => rfl, rfl⟩ fun t ht o _ =>
    ⟨fun c => ((applyOp_committed t o).1 c).trans (ht.1 c), (applyOp_committed t o).2.trans ht.2⟩

theorem CellSt.discard_eq {x y : CellSt} (hy : y.pending = none) (h : x.committed = y.committed) :
    x.discard = y := by
  obtain ⟨cm, pd⟩ := y
  dsimp only at hy h
  rw [hy, ← h]
  rfl

theorem CellSt.discard_ite (b : Prop) [Decidable b] (x : CellSt) {v : Nat} (h : x.committed = v) :
    (if b then x.publish else x).discard = ⟨if b then x.publish.committed else v, none⟩ := by
  split
  · rfl
  · rw [← h]
    rfl

theorem dropTxn_of_committed_eq {s t : St} (hs : Clean s)
    (hc : ∀ c, (t.cells c).committed = (s.cells c).committed)
    (hd : t.db.committed = s.db.committed) : dropTxn t = s := by
  obtain ⟨cells, db⟩ := s
  show St.mk _ _ = _
  congr 1
  · exact funext fun c => CellSt.discard_eq (hs.1 c) (hc c)
  · exact CellSt.discard_eq hs.2 hd

theorem dropTxn_clean (s : St) : Clean (dropTxn s) := ⟨fun _ => rfl, rfl⟩

theorem zero_clean : Clean zero := ⟨fun _ => rfl, rfl⟩

theorem runSteps_eq (steps : List CStep) : ∀ (i : Nat) (fail : Option Nat) (s : St),
    runSteps steps i fail s = (applyAll (steps.take (execCount steps i fail)) s, okOf steps i fail) := by
  induction steps with
  | nil => intro i fail s; rfl
  | cons st rest ih =>
    intro i fail s
    unfold runSteps execCount okOf
    split
    · rfl
    · rw [ih]
      rfl

theorem commitWith_eq (steps : List CStep) (s : St) (fail : Option Nat) :
    commitWith steps s fail =
      (dropTxn (applyAll (steps.take (execCount steps 0 fail)) s), okOf steps 0 fail) := by
  unfold commitWith
  rw [runSteps_eq]

theorem commitWith_snd (steps : List CStep) (s : St) (fail : Option Nat) :
    (commitWith steps s fail).2 = okOf steps 0 fail :=
  congrArg Prod.snd (commitWith_eq steps s fail)

theorem okOf_of_all_infallible (steps : List CStep) (h : steps.all (fun r => !r.fallible) = true) :
    ∀ i fail, okOf steps i fail = true := by
  induction steps with
  | nil => intro i fail; rfl
  | cons st rest ih =>
    intro i fail
    simp only [List.all_cons, Bool.and_eq_true, Bool.not_eq_true'] at h
    simp only [okOf, h.1, Bool.false_and, Bool.false_eq_true, if_false]
    exact ih h.2 _ _

theorem execCount_of_okOf (steps : List CStep) : ∀ i fail,
    (okOf steps i fail = true → execCount steps i fail = steps.length) ∧
    (okOf steps i fail = false → fail = some (execCount steps i fail + i)) := by
  induction steps with
  | nil => intro i fail; exact ⟨fun _ => rfl, nofun⟩
  | cons st rest ih =>
    intro i fail
    unfold okOf execCount
    split
    · rename_i hc
      rw [Nat.zero_add]
      exact ⟨nofun, fun _ => eq_of_beq (Bool.and_eq_true_iff.mp hc).2⟩
    · rw [Nat.add_assoc, Nat.add_comm 1 i]
      exact (ih (i + 1) fail).imp_left fun h hok => congrArg (· + 1) (h hok)

theorem applyKind_nopublish (st : CStep) (h : publishes st = false) (s : St) : applyKind st.kind s = s := by
  obtain ⟨id, kind, f⟩ := st
  cases kind with
  | publish c => cases h
  | dbCommit => cases h
  | _ => rfl

theorem applyAll_nopublish (steps : List CStep) (h : steps.any publishes = false) (s : St) :
    applyAll steps s = s :=
  List.foldlRecOn steps _ (motive := (· = s)) rfl fun _ ht st hm =>
    (congrArg (applyKind st.kind) ht).trans
      (applyKind_nopublish st (Bool.eq_false_iff.mpr (List.any_eq_false.mp h st hm)) s)

theorem firstPublish_eq (steps : List CStep) : firstPublish steps = steps.findIdx publishes := by
  induction steps with
  | nil => rfl
  | cons x rest ih =>
    rw [firstPublish, List.findIdx_cons, ih]
    cases publishes x <;> rfl

theorem any_take_firstPublish (steps : List CStep) (k : Nat) (hk : k ≤ firstPublish steps) :
    (steps.take k).any publishes = false :=
  List.any_eq_false.mpr fun _ hx => Bool.not_eq_true _ ▸
    List.false_of_mem_take_findIdx (List.take_subset_take_left steps (firstPublish_eq steps ▸ hk) hx)

theorem mem_publishedCells_cons {c : Cell} {x : CStep} {rest : List CStep} :
    c ∈ publishedCells (x :: rest) ↔ x.kind = .publish c ∨ c ∈ publishedCells rest := by
  obtain ⟨id, kind, f⟩ := x
  cases kind with
  | publish d =>
    exact List.mem_cons.trans (or_congr ⟨fun h => h ▸ rfl, fun h => (Kind.publish.inj h).symm⟩ Iff.rfl)
  | _ => exact (or_iff_right (fun h => by cases h)).symm

theorem CellSt.publish_publish (x : CellSt) : x.publish.publish = x.publish := by
  cases x with
  | mk c p => cases p <;> rfl

theorem applyAll_cell (steps : List CStep) : ∀ (s : St) (c : Cell),
    (applyAll steps s).cells c =
      if c ∈ publishedCells steps then (s.cells c).publish else s.cells c := by
  induction steps with
  | nil => intro s c; rfl
  | cons st rest ih =>
    intro s c
    obtain ⟨id, kind, f⟩ := st
    show (applyAll rest (applyKind kind s)).cells c = _
    rw [ih]
    cases kind with
    | publish d =>
      by_cases hcd : c = d
      · simp only [applyKind, publishedCells, hcd, if_true, List.mem_cons, true_or, CellSt.publish_publish, ite_self]
      · simp only [applyKind, publishedCells, hcd, if_false, List.mem_cons, false_or]
    | _ => rfl

theorem applyAll_db (steps : List CStep) : ∀ (s : St),
    (applyAll steps s).db = if steps.any isDbCommit then s.db.publish else s.db := by
  induction steps with
  | nil => intro s; rfl
  | cons st rest ih =>
    intro s
    obtain ⟨id, kind, f⟩ := st
    show (applyAll rest (applyKind kind s)).db = _
    rw [ih]
    cases kind with
    | dbCommit =>
      show (if rest.any isDbCommit then s.db.publish.publish else s.db.publish) = s.db.publish
      rw [CellSt.publish_publish, ite_self]
    | _ => rfl

/-- `Ordered` (with `p := publishes`) and `noFallibleAfterDbCommit` (with `p := isDbCommit`) are the two
instances of `safe`: once a step satisfying `p` has run, nothing can fail.  Hence a failing commit has
executed no such step. -/
theorem fail_before_first (p : CStep → Bool) (safe : List CStep → Bool)
    (hsafe : ∀ x rest, safe (x :: rest) =
      ((if p x then rest.all (fun r => !r.fallible) else true) && safe rest)) :
    ∀ steps i fail, safe steps = true → okOf steps i fail = false →
      (steps.take (execCount steps i fail)).any p = false := by
  intro steps
  induction steps with
  | nil => intro i fail _ h; cases h
  | cons x rest ih =>
    intro i fail ho h
    rw [hsafe, Bool.and_eq_true] at ho
    unfold okOf at h
    unfold execCount
    split at h
    · rename_i hc
      rw [if_pos hc]
      rfl
    · rename_i hc
      rw [if_neg hc, List.take_succ_cons, List.any_cons, ih _ _ ho.2 h, Bool.or_false]
      cases hp : p x with
      | false => rfl
      | true =>
        rw [hp, if_pos rfl] at ho
        rw [okOf_of_all_infallible rest ho.1] at h
        cases h

/-- Index of `COMMIT TRANSACTION` in the flattened commit: after that many steps every IDM- and QS-level
cell is published, the database is not yet committed. -/
def dbCommitIdx : Nat := flatSteps.findIdx isDbCommit

/-- `Cell.all` lists the constructors in declaration order: `c` stands at position `c.ctorIdx`. -/
theorem Cell.mem_all (c : Cell) : c ∈ Cell.all :=
  List.mem_of_getElem? (i := c.ctorIdx) (by cases c <;> rfl)

/-- Every transactional cell is published by a successful commit, and the database is committed. -/
theorem flat_publishes_everything :
    Cell.all.all (fun c => decide (c ∈ publishedCells flatSteps)) = true ∧ flatSteps.any isDbCommit = true := by
  decide +kernel

theorem flatSteps_publishes_all : (∀ c, c ∈ publishedCells flatSteps) ∧ flatSteps.any isDbCommit = true :=
  ⟨fun c => of_decide_eq_true (List.all_eq_true.mp flat_publishes_everything.1 c (Cell.mem_all c)),
    flat_publishes_everything.2⟩

end Kanidm.TxnCommit
