/-!
Model-free facts about `List.foldl`: a step that changes nothing (`foldl_const`); one operation folded over the
elements' values, order-independent if commutative and associative, a bound if `min` or `max` (`foldl_glb`); a
property each step sets or keeps (`foldl_iff`).  `last_or_none` is what "the last match wins" rests on.
-/
namespace Kanidm

theorem foldl_const {α β : Type} (f : α → β → α) (l : List β) (a : α)
    (h : ∀ a b, b ∈ l → f a b = a) : l.foldl f a = a :=
  l.foldlRecOn f rfl (motive := (· = a)) fun _ hb x hx => (congrArg (f · x) hb).trans (h a x hx)

section Op
variable {α γ : Type}

theorem foldl_op_perm (op : γ → γ → γ) [Std.Commutative op] [Std.Associative op] (x : α → γ)
    {l₁ l₂ : List α} (h : l₁.Perm l₂) (b : γ) :
    l₁.foldl (fun m p => op m (x p)) b = l₂.foldl (fun m p => op m (x p)) b :=
  h.foldl_eq' (fun _ _ _ _ _ => by ac_rfl) b

/-- `hop`: `op` is the greatest lower bound under `R` (`min` under `≤`, `max` under `≥`); then so is the fold,
of the start value and all the elements' values. -/
theorem foldl_glb {op : γ → γ → γ} {R : γ → γ → Prop} (hop : ∀ k m v, R k (op m v) ↔ R k m ∧ R k v)
    (x : α → γ) (k : γ) (l : List α) (b : γ) :
    R k (l.foldl (fun m p => op m (x p)) b) ↔ R k b ∧ ∀ p ∈ l, R k (x p) := by
  induction l generalizing b with
  | nil => simp
  | cons q t ih => rw [List.foldl_cons, ih, hop, and_assoc, List.forall_mem_cons]

theorem foldl_min_le (x : α → Nat) (l : List α) (b : Nat) :
    l.foldl (fun m p => min m (x p)) b ≤ b ∧ ∀ p ∈ l, l.foldl (fun m p => min m (x p)) b ≤ x p :=
  (foldl_glb (R := (· ≤ ·)) (fun _ _ _ => Nat.le_min) x _ l b).1 (Nat.le_refl _)

theorem le_foldl_max (x : α → Nat) (l : List α) (b : Nat) :
    b ≤ l.foldl (fun m p => max m (x p)) b ∧ ∀ p ∈ l, x p ≤ l.foldl (fun m p => max m (x p)) b :=
  (foldl_glb (R := (· ≥ ·)) (fun _ _ _ => Nat.max_le) x _ l b).1 (Nat.le_refl _)

theorem foldl_max_le (l : List Nat) (a : Nat) {b : Nat} : l.foldl max a ≤ b ↔ a ≤ b ∧ ∀ x ∈ l, x ≤ b :=
  foldl_glb (R := (· ≥ ·)) (fun _ _ _ => Nat.max_le) id b l a

end Op

theorem foldl_iff_of_inv {α β : Type} {f : β → α → β} {I M : β → Prop} {C : α → Prop}
    (h : ∀ b a, I b → I (f b a) ∧ (M (f b a) ↔ M b ∨ C a)) (l : List α) (b : β) (hb : I b) :
    M (l.foldl f b) ↔ M b ∨ ∃ a ∈ l, C a := by
  induction l generalizing b with
  | nil => simp
  | cons a r ih =>
    rw [List.foldl_cons, ih _ (h b a hb).1, (h b a hb).2, or_assoc]
    simp only [List.mem_cons, exists_eq_or_imp]

theorem foldl_iff {α β : Type} {f : β → α → β} {M : β → Prop} {C : α → Prop}
    (h : ∀ b a, M (f b a) ↔ M b ∨ C a) (l : List α) (b : β) : M (l.foldl f b) ↔ M b ∨ ∃ a ∈ l, C a :=
  foldl_iff_of_inv (I := fun _ => True) (fun b a _ => ⟨trivial, h b a⟩) l b trivial

theorem last_or_none {α : Type} (p : α → Prop) [DecidablePred p] (l : List α) :
    (∀ x ∈ l, ¬ p x) ∨ ∃ pre x post, l = pre ++ x :: post ∧ p x ∧ ∀ y ∈ post, ¬ p y := by
  induction l with
  | nil => exact .inl nofun
  | cons a l ih =>
    rcases ih with h | ⟨pre, x, post, rfl, hx, hpost⟩
    · by_cases ha : p a
      · exact .inr ⟨[], a, l, rfl, ha, h⟩
      · exact .inl (List.forall_mem_cons.mpr ⟨ha, h⟩)
    · exact .inr ⟨a :: pre, x, post, rfl, hx, hpost⟩

end Kanidm
