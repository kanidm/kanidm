import KanidmModel.Refint
import KanidmProofs.Lemmas.Keyed
import Mathlib.Data.List.Perm.Subperm
/-!
C16: the vocabulary the property is stated in (`Entry.exempt`, `Entry.propRefs`, `Inv`; `WeakInv`,
`SidFree` for the fix-up) and the lemmas about values, entries and states behind it.  Two of them
carry what follows: `existFast_sound` (the counting argument of `check_uuids_exist_fast`) and
`inv_removeRefs` (a state in which every reference is live *or about to be removed* satisfies the
invariant after `remove_references`).
-/
namespace Kanidm.Refint
open Kanidm.Gen.Refint

/-- The attributes the code exempts from its own checks: `memberof` on every entry, `dynmember`
on a dynamic group (both are recomputed by other plugins). -/
def Entry.exempt (e : Entry) (a : Nat) : Bool := a == aMemberOf || (e.dyn && a == aDynMember)

/-- The references of an entry the property speaks about: every active reference of every
non-exempt attribute. -/
def Entry.propRefs (e : Entry) : List Nat :=
  e.attrs.flatMap (fun p => if e.exempt p.1 then [] else p.2.active)

/-- Uuids are unique, and every (non-exempt, active) reference of **every** stored entry — live,
recycled or tombstoned — is the uuid of a live entry. -/
def Inv (s : State) : Prop :=
  (s.map (·.uuid)).Nodup ∧ ∀ e ∈ s, ∀ r ∈ e.propRefs, isLive s r = true

/-- Every reference is live or in `us` (the uuids `remove_references` is about to sweep). -/
def WeakInv (us : List Nat) (s : State) : Prop :=
  (s.map (·.uuid)).Nodup ∧ ∀ e ∈ s, ∀ r ∈ e.propRefs, isLive s r = true ∨ r ∈ us

def SidFree (us : List Nat) (s : State) : Prop :=
  ∀ e ∈ s, ∀ p ∈ e.attrs, ∀ u ∈ us, u ∉ p.2.sids

theorem mem_propRefs {e : Entry} {r : Nat} :
    r ∈ e.propRefs ↔ ∃ p ∈ e.attrs, e.exempt p.1 = false ∧ r ∈ p.2.active := by
  simp only [Entry.propRefs, List.mem_flatMap]
  refine exists_congr fun p => and_congr_right fun _ => ?_
  cases e.exempt p.1 <;> simp

theorem isLive_iff {s : State} {u : Nat} :
    isLive s u = true ↔ ∃ e ∈ s, e.uuid = u ∧ e.st = .live := by
  simp [isLive]

theorem inIndex_iff {s : State} {u : Nat} : inIndex s u = true ↔ ∃ e ∈ s, e.uuid = u := by
  simp [inIndex]

/-- `as_ref_uuid_iter` skips revoked sessions (`sessionRefsSkipRevoked`), so what refint collects
from a value is what the property calls its active references. -/
theorem refs_eq_active (vs : VS) : vs.refs = vs.active := by
  cases vs with
  | keys k ks => cases k <;> rfl
  | claims m => rfl
  | sessions m => rfl

theorem active_idxHas {vs : VS} {r : Nat} (h : r ∈ vs.active) : vs.idxHas r = true := by
  cases vs with
  | keys k ks => cases k <;> simp_all [VS.active, VS.idxHas]
  | claims m =>
    obtain ⟨c, hc, hr⟩ := List.mem_flatMap.mp h
    exact List.any_eq_true.mpr ⟨c, hc, List.contains_iff_mem.mpr hr⟩
  | sessions m =>
    obtain ⟨x, hx, rfl⟩ := List.mem_map.mp h
    exact List.any_eq_true.mpr ⟨x, (List.mem_filter.mp hx).1, by simp⟩

/-- A value with an active reference has a syntax that `schema.rs` puts into the `ref_cache`
(this is where the regenerated syntax rule enters every theorem). -/
theorem refcache_of_active {vs : VS} {r : Nat} (h : r ∈ vs.active) : inRefCache vs.syn = true := by
  cases vs with
  | keys k ks => cases k <;> first | rfl | cases h
  | claims m => rfl
  | sessions m => rfl

/-- `f` keeps session id and resource server and only ever revokes; a session it leaves active
was active and satisfies `P`. -/
structure Revokes (f : Sess → Sess) (P : Sess → Prop) : Prop where
  sid : ∀ x, (f x).sid = x.sid
  rs : ∀ x, (f x).rs = x.rs
  kept : ∀ x, (f x).revoked = false → x.revoked = false ∧ P x

theorem revokeSid_spec (u : Nat) : Revokes (revokeSid u) fun _ => True := by
  refine ⟨fun x => ?_, fun x => ?_, fun x => ?_⟩ <;> unfold revokeSid <;> split <;> simp_all

theorem revokeRs_spec (u : Nat) : Revokes (revokeRs u) fun x => x.rs ≠ u := by
  refine ⟨fun x => ?_, fun x => ?_, fun x => ?_⟩ <;> unfold revokeRs <;> split <;> simp_all

theorem remove_sids (u : Nat) (vs : VS) : (vs.remove u).sids = vs.sids := by
  fun_cases VS.remove u vs with
  | case4 m => -- sessions, `u` one of the session ids: `revokeSid`
    exact (List.map_map ..).trans (List.map_congr_left fun x _ => (revokeSid_spec u).sid x)
  | case5 m => -- sessions otherwise: `revokeRs`
    exact (List.map_map ..).trans (List.map_congr_left fun x _ => (revokeRs_spec u).sid x)
  | _ => rfl -- keys and claims have no session ids

theorem mem_active_sessions {m : List Sess} {r : Nat} :
    r ∈ (VS.sessions m).active ↔ ∃ x ∈ m, x.revoked = false ∧ x.rs = r := by
  simp only [VS.active, List.mem_map, List.mem_filter, Bool.not_eq_true', and_assoc]

theorem remove_active {u r : Nat} {vs : VS} (h : r ∈ (vs.remove u).active) :
    r ∈ vs.active ∧ (u ∉ vs.sids → r ≠ u) := by
  revert h
  fun_cases VS.remove u vs with
  | case1 => nofun -- plain uuids are no references
  | case2 k ks hk => -- the three key syntaxes that are references: filtered
    intro h
    cases k <;> first
      | exact absurd rfl hk
      | exact ⟨(List.mem_filter.mp h).1, fun _ => by simpa using (List.mem_filter.mp h).2⟩
  | case3 m => -- claim map: every group list filtered, empty claims dropped
    simp only [VS.active, List.mem_flatMap, List.mem_filter, List.mem_map]
    rintro ⟨c, ⟨⟨c0, hc0, rfl⟩, _⟩, hr⟩
    exact ⟨⟨c0, hc0, (List.mem_filter.mp hr).1⟩, fun _ => by simpa using (List.mem_filter.mp hr).2⟩
  | case4 m hsid =>
    -- `u` is a session id of the value: that session is revoked, nothing else changes
    intro h
    obtain ⟨_, hy, hrev, rfl⟩ := mem_active_sessions.mp h
    obtain ⟨x, hx, rfl⟩ := List.mem_map.mp hy
    exact ⟨mem_active_sessions.mpr ⟨x, hx, ((revokeSid_spec u).kept x hrev).1, ((revokeSid_spec u).rs x).symm⟩,
      fun hs => absurd hsid (by simpa [VS.sids] using hs)⟩
  | case5 m =>
    -- otherwise every session bound to resource server `u` is revoked
    intro h
    obtain ⟨_, hy, hrev, rfl⟩ := mem_active_sessions.mp h
    obtain ⟨x, hx, rfl⟩ := List.mem_map.mp hy
    obtain ⟨h1, h2⟩ := (revokeRs_spec u).kept x hrev
    exact ⟨mem_active_sessions.mpr ⟨x, hx, h1, ((revokeRs_spec u).rs x).symm⟩,
      fun _ => (revokeRs_spec u).rs x ▸ h2⟩

theorem removeAll_sids (us : List Nat) (vs : VS) : (vs.removeAll us).sids = vs.sids :=
  us.foldlRecOn _ rfl (motive := fun v => v.sids = vs.sids) fun v h u _ => (remove_sids u v).trans h

theorem removeAll_active {us : List Nat} {vs : VS} {r : Nat}
    (hs : ∀ u ∈ us, u ∉ vs.sids) (h : r ∈ (vs.removeAll us).active) : r ∈ vs.active ∧ r ∉ us := by
  unfold VS.removeAll at h
  induction us generalizing vs with
  | nil => exact ⟨h, by simp⟩
  | cons u us ih =>
    simp only [List.foldl_cons] at h
    obtain ⟨h1, h2⟩ := ih (fun v hv => remove_sids u vs ▸ hs v (List.mem_cons_of_mem _ hv)) h
    obtain ⟨h3, h4⟩ := remove_active h1
    exact ⟨h3, fun hmem => (List.mem_cons.mp hmem).elim (h4 (hs u (List.mem_cons_self ..))) h2⟩

theorem strip_active {us : List Nat} {e : Entry} {q : Nat × VS} {r : Nat}
    (hs : ∀ p ∈ e.attrs, ∀ u ∈ us, u ∉ p.2.sids) (hq : q ∈ (e.strip us).attrs)
    (hr : r ∈ q.2.active) : (∃ p ∈ e.attrs, p.1 = q.1 ∧ r ∈ p.2.active) ∧ r ∉ us := by
  obtain ⟨p, hp, hf⟩ := List.mem_filterMap.mp hq
  have hc : (removeSweepsEveryRefType && inRefCache p.2.syn) = true → q = (p.1, p.2.removeAll us) := by
    intro hc
    rw [if_pos hc] at hf
    dsimp only at hf
    split at hf
    · cases hf
    · exact (Option.some.inj hf).symm
  by_cases hsw : (removeSweepsEveryRefType && inRefCache p.2.syn) = true
  · rw [hc hsw] at hr ⊢
    obtain ⟨h1, h2⟩ := removeAll_active (hs p hp) hr
    exact ⟨⟨p, hp, rfl, h1⟩, h2⟩
  · -- an attribute outside the ref_cache has no active reference
    rw [if_neg hsw] at hf
    cases hf
    exact absurd (refcache_of_active hr) hsw

theorem not_matches_active {us : List Nat} {e : Entry} {p : Nat × VS} {r : Nat}
    (hm : e.matchesAny us = false) (hp : p ∈ e.attrs) (hr : r ∈ p.2.active) : r ∉ us := by
  intro hu
  have : e.matchesAny us = true :=
    List.any_eq_true.mpr ⟨p, hp, Bool.and_eq_true_iff.mpr
      ⟨refcache_of_active hr, List.any_eq_true.mpr ⟨r, hu, active_idxHas hr⟩⟩⟩
  rw [this] at hm
  cases hm

theorem rawRefs_iff {e : Entry} {r : Nat} : r ∈ e.rawRefs ↔ r ∈ e.propRefs := by
  simp only [Entry.rawRefs, List.mem_flatMap, List.mem_filter, mem_propRefs, refs_eq_active]
  refine exists_congr fun p => ?_
  -- collected = in the ref_cache and not exempt; a value with an active reference is in the ref_cache
  have : r ∈ p.2.active → (e.collected p = true ↔ e.exempt p.1 = false) := fun hr => by
    rw [Entry.collected, Entry.exempt, refcache_of_active hr, skipDynMemberOnDynGroup, skipMemberOf,
      Bool.true_and, Bool.true_and, Bool.true_and, ← Bool.not_or, Bool.or_comm, Bool.not_eq_true']
  constructor
  · rintro ⟨⟨hp, hc⟩, hr⟩; exact ⟨hp, (this hr).mp hc, hr⟩
  · rintro ⟨hp, hx, hr⟩; exact ⟨⟨hp, (this hr).mpr hx⟩, hr⟩

theorem mem_refSet {es : List Entry} {r : Nat} : r ∈ refSet es ↔ ∃ e ∈ es, r ∈ e.propRefs := by
  simp only [refSet, List.mem_flatMap, rawRefs_iff]

theorem mem_newRefs {pre : Option (List Entry)} {post : List Entry} {r : Nat} :
    r ∈ newRefs pre post ↔ r ∈ refSet post ∧ r ∉ refSet (pre.getD []) := by
  cases pre <;>
    simp only [newRefs, newRefsAreDifference, if_true, List.mem_filter, Bool.not_eq_true',
      List.contains_eq_mem, decide_eq_false_iff_not, Option.getD]
  exact and_congr_right fun _ => iff_of_true List.not_mem_nil List.not_mem_nil

/-- `e'` is `e` put into state `σ`, with some attributes dropped and the others kept or satisfying
`Q`: what the entry-level edits of the model (`erase`, `set`, writing `attrs`, `with st := σ`) and
everything composed of them can do. -/
structure Entry.Edit (σ : St) (Q : Nat × VS → Prop) (e e' : Entry) : Prop where
  uuid : e'.uuid = e.uuid
  dyn : e'.dyn = e.dyn
  st : e'.st = σ
  attrs : ∀ p ∈ e'.attrs, p ∈ e.attrs ∨ Q p

namespace Entry.Edit
variable {σ τ : St} {Q : Nat × VS → Prop} {e e' e'' : Entry}

theorem refl (e : Entry) : e.Edit e.st Q e := ⟨rfl, rfl, rfl, fun _ => Or.inl⟩

theorem trans (h : e.Edit σ Q e') (h' : e'.Edit τ Q e'') : e.Edit τ Q e'' :=
  ⟨h'.uuid.trans h.uuid, h'.dyn.trans h.dyn, h'.st, fun p hp => (h'.attrs p hp).elim (h.attrs p) Or.inr⟩

theorem withSt (h : e.Edit σ Q e') (τ : St) : e.Edit τ Q { e' with st := τ } :=
  ⟨h.uuid, h.dyn, rfl, h.attrs⟩

theorem withAttrs (h : e.Edit σ Q e') {as : List (Nat × VS)} (has : ∀ p ∈ as, p ∈ e'.attrs ∨ Q p) :
    e.Edit σ Q { e' with attrs := as } :=
  ⟨h.uuid, h.dyn, h.st, fun p hp => (has p hp).elim (h.attrs p) Or.inr⟩

theorem append (h : e.Edit σ Q e') {p : Nat × VS} (hq : Q p) :
    e.Edit σ Q { e' with attrs := e'.attrs ++ [p] } :=
  h.withAttrs fun q hq' => (List.mem_append.mp hq').imp_right fun h => by rwa [List.mem_singleton.mp h]

theorem erase (h : e.Edit σ Q e') (a : Nat) : e.Edit σ Q (e'.erase a) :=
  h.withAttrs fun _ hp => .inl (List.mem_filter.mp hp).1

theorem set (h : e.Edit σ Q e') {a : Nat} {vs : VS} (hq : Q (a, vs)) : e.Edit σ Q (e'.set a vs) := by
  fun_cases Entry.set e' a vs with
  | case1 => exact h.erase a -- an empty value removes the attribute
  | case2 => -- the attribute is there: its value is replaced
    refine h.withAttrs fun p hp => ?_
    obtain ⟨q, hq', rfl⟩ := List.mem_map.mp hp
    split
    · exact .inr hq
    · exact .inl hq'
  | case3 => exact h.append hq -- new attribute

theorem propRefs (h : e.Edit σ Q e') {r : Nat} (hr : r ∈ e'.propRefs) :
    r ∈ e.propRefs ∨ ∃ p, Q p ∧ r ∈ p.2.active := by
  obtain ⟨p, hp, hx, hra⟩ := mem_propRefs.mp hr
  rcases h.attrs p hp with h1 | h2
  · exact .inl (mem_propRefs.mpr ⟨p, h1, by rwa [Entry.exempt, ← h.dyn], hra⟩)
  · exact .inr ⟨p, h2, hra⟩

end Entry.Edit

theorem isLive_map_mono {s : State} {f : Entry → Entry}
    (hf : ∀ e ∈ s, (f e).uuid = e.uuid ∧ (e.st = .live → (f e).st = .live)) {u : Nat}
    (h : isLive s u = true) : isLive (s.map f) u = true := by
  obtain ⟨e, he, hu, hl⟩ := isLive_iff.mp h
  exact isLive_iff.mpr ⟨f e, List.mem_map_of_mem he, (hf e he).1.trans hu, (hf e he).2 hl⟩

theorem isLive_map_congr {s : State} {f : Entry → Entry}
    (hf : ∀ e ∈ s, (f e).uuid = e.uuid ∧ ((f e).st = .live ↔ e.st = .live)) (u : Nat) :
    isLive (s.map f) u = isLive s u := by
  rw [Bool.eq_iff_iff, isLive_iff, isLive_iff]
  constructor
  · rintro ⟨_, he', hu, hl⟩
    obtain ⟨e, he, rfl⟩ := List.mem_map.mp he'
    exact ⟨e, he, (hf e he).1 ▸ hu, (hf e he).2.mp hl⟩
  · rintro ⟨e, he, hu, hl⟩
    exact ⟨f e, List.mem_map_of_mem he, (hf e he).1.trans hu, (hf e he).2.mpr hl⟩

theorem strip_fields (us : List Nat) (e : Entry) : (e.strip us).uuid = e.uuid ∧ (e.strip us).st = e.st := ⟨rfl, rfl⟩

theorem removeRefs_entry {us : List Nat} {s : State} (hs : SidFree us s) {e' : Entry}
    (he' : e' ∈ removeRefsState s us) :
    ∃ e ∈ s, e'.dyn = e.dyn ∧
      ∀ q ∈ e'.attrs, ∀ r ∈ q.2.active, (∃ p ∈ e.attrs, p.1 = q.1 ∧ r ∈ p.2.active) ∧ r ∉ us := by
  obtain ⟨e, he, rfl⟩ := List.mem_map.mp he'
  refine ⟨e, he, ?_⟩
  split
  · exact ⟨rfl, fun q hq r hr => strip_active (hs e he) hq hr⟩
  · rename_i hws
    have hm : e.matchesAny us = false := by
      simpa [Entry.inWorkSet, removeSearchesAllStates] using hws
    exact ⟨rfl, fun q hq r hr => ⟨⟨q, hq, rfl, hr⟩, not_matches_active hm hq hr⟩⟩

theorem inv_removeRefs {us : List Nat} {s : State} (hw : WeakInv us s) (hs : SidFree us s) :
    Inv (removeRefsState s us) := by
  have hfield : ∀ e ∈ s, (if e.inWorkSet us then e.strip us else e).uuid = e.uuid ∧
      (e.st = .live → (if e.inWorkSet us then e.strip us else e).st = .live) := by
    intro e _; split <;> exact ⟨rfl, id⟩
  refine ⟨Keyed.nodup_map Entry.uuid (fun e he => (hfield e he).1) hw.1, ?_⟩
  intro e' he' r hr
  obtain ⟨e, he, hd, hact⟩ := removeRefs_entry hs he'
  obtain ⟨q, hq, hx, hrq⟩ := mem_propRefs.mp hr
  obtain ⟨⟨p, hp, hpq, hrp⟩, hnot⟩ := hact q hq r hrq
  have : r ∈ e.propRefs := mem_propRefs.mpr ⟨p, hp, by rwa [hpq, Entry.exempt, ← hd], hrp⟩
  exact isLive_map_mono (f := fun e => if e.inWorkSet us then e.strip us else e) hfield
    ((hw.2 e he r this).resolve_right hnot)

theorem mem_insertSorted {x y : Nat} {l : List Nat} : y ∈ insertSorted x l ↔ y = x ∨ y ∈ l := by
  fun_induction insertSorted x l with
  | case1 => simp -- empty list
  | case2 => simp -- smaller than the head: put in front
  | case3 _ _ _ h => rw [beq_iff_eq.mp h]; simp -- equal to the head: dropped
  | case4 _ _ _ _ ih => simp only [List.mem_cons, ih]; exact or_left_comm -- larger: further down

theorem mem_sortDedup {y : Nat} {l : List Nat} : y ∈ sortDedup l ↔ y ∈ l := by
  unfold sortDedup
  induction l with
  | nil => simp
  | cons x xs ih => simp only [List.foldr_cons, mem_insertSorted, ih, List.mem_cons]

/-- `check_uuids_exist_fast` answers `true` only if every uuid asked for is a live entry
(the counting argument: the entries found are distinct, all among the uuids asked for, and as
many as the distinct uuids asked for). -/
theorem existFast_sound {s : State} (hn : (s.map (·.uuid)).Nodup) {us : List Nat}
    (h : existFast s us = true) {u : Nat} (hu : u ∈ us) : isLive s u = true := by
  revert h
  fun_cases existFast s us with
  | case1 hemp => rw [List.isEmpty_iff.mp hemp] at hu; cases hu -- nothing asked for
  | case2 _ distinct found =>
    intro h
    have hsub : found.Sublist s := by
      unfold found; split
      · exact List.filter_sublist
      · exact List.nil_sublist _
    have hprop : ∀ e ∈ found, e.uuid ∈ distinct ∧ e.st = .live := by
      unfold found; intro e he; split at he
      · simpa [existsFastHidesMasked] using (List.mem_filter.mp he).2
      · cases he
    have hss : found.map (·.uuid) ⊆ distinct := by
      intro x hx
      obtain ⟨e, he, rfl⟩ := List.mem_map.mp hx
      exact (hprop e he).1
    have hperm := (List.subperm_of_subset ((hsub.map _).nodup hn) hss).perm_of_length_le
      (by rw [List.length_map, beq_iff_eq.mp h]; exact Nat.le_refl _)
    obtain ⟨e, he, rfl⟩ := List.mem_map.mp (hperm.symm.subset (mem_sortDedup.mpr hu))
    exact isLive_iff.mpr ⟨e, hsub.subset he, rfl, (hprop e he).2⟩

theorem existSlow_complete {s : State} {us : List Nat} {u : Nat} (hu : u ∈ us) :
    isLive s u = true ∨ u ∈ existSlow s us := by
  cases h : isLive s u
  · -- with `existsSlowHidesMasked` the per-uuid test is `isLive`
    refine Or.inr (List.mem_filter.mpr ⟨hu, ?_⟩)
    show (!isLive s u) = true
    rw [h]; rfl
  · exact Or.inl rfl

theorem postModifyInner_none {s : State} {pre : Option (List Entry)} {post : List Entry}
    (h : postModifyInner s pre post = none) : existFast s (newRefs pre post) = true := by
  unfold postModifyInner at h
  split at h
  · cases h
  · rename_i hr; simpa [refuseWhen] using hr

/-- An operation that rewrites some entries (`post`, written over `pre ⊆ s`) and passes
`post_modify_inner` keeps the invariant: a reference of a rewritten entry was there before, or
is new and therefore checked. -/
theorem inv_checked {s s1 : State} {pre : Option (List Entry)} {post : List Entry}
    (hinv : Inv s) (hn : (s1.map (·.uuid)).Nodup)
    (hpre : ∀ p ∈ pre.getD [], p ∈ s)
    (hlive : ∀ u, isLive s u = true → isLive s1 u = true)
    (hmem : ∀ e ∈ s1, e ∈ s ∨ e ∈ post)
    (hchk : postModifyInner s1 pre post = none) : Inv s1 := by
  refine ⟨hn, ?_⟩
  intro e he r hr
  rcases hmem e he with h | h
  · exact hlive r (hinv.2 e h r hr)
  · by_cases hprev : r ∈ refSet (pre.getD [])
    · obtain ⟨p, hp, hrp⟩ := mem_refSet.mp hprev
      exact hlive r (hinv.2 p (hpre p hp) r hrp)
    · exact existFast_sound hn (postModifyInner_none hchk)
        (mem_newRefs.mpr ⟨mem_refSet.mpr ⟨e, h, hr⟩, hprev⟩)

theorem inv_checked_map {s : State} {f : Entry → Entry} {pre post : List Entry}
    (hinv : Inv s) (hpre : ∀ p ∈ pre, p ∈ s)
    (hf : ∀ x ∈ s, (f x).uuid = x.uuid ∧ (x.st = .live → (f x).st = .live) ∧ (f x = x ∨ f x ∈ post))
    (hchk : postModifyInner (s.map f) (some pre) post = none) : Inv (s.map f) := by
  refine inv_checked (pre := some pre) hinv
    (Keyed.nodup_map Entry.uuid (fun x hx => (hf x hx).1) hinv.1) hpre
    (fun u => isLive_map_mono fun x hx => ⟨(hf x hx).1, (hf x hx).2.1⟩) ?_ hchk
  intro e he
  obtain ⟨x, hx, rfl⟩ := List.mem_map.mp he
  exact (hf x hx).2.2.imp_left fun h : f x = x => h.symm ▸ hx

end Kanidm.Refint
