import KanidmModel.ReplMerge
import KanidmProofs.Lemmas.Cid
import KanidmProofs.Lemmas.Pick
/-! For C08 / C09: association lists, `merge_state` as last-writer-wins on the replicated view
(`view_mergeState`), the top-cell predicate in which the specifications of delivery trees are stated, and
what the range-filtered delta keeps (`rcell_delta`, `Dominated`).  Every choice the merge makes is `pick` /
`pickOpt` (Lemmas/Pick.lean) for a strict weak order derived from `cidLt`. -/
namespace Kanidm.ReplMerge
open Kanidm.Cid (Cid cidLt cidLt_irrefl cidLt_connex cidLt_asymm cidLt_false_trans)
open Kanidm.Gen.ReplMergeOps
open Kanidm.SessionMerge (StrictWeak TieOpt pickOpt pickOpt_idem pickOpt_comm pickOpt_assoc pickOpt_mem)

theorem strictWeak_cidLt : StrictWeak cidLt :=
  ⟨fun _ _ => cidLt_asymm, fun _ _ _ => cidLt_false_trans⟩

/-- The choice among tombstones, `if cidLt a b then a else b`, is `pick cidLt b a`. -/
theorem tmin_assoc (a b c : Cid) :
    (if cidLt (if cidLt a b then a else b) c then (if cidLt a b then a else b) else c)
      = (if cidLt a (if cidLt b c then b else c) then a else (if cidLt b c then b else c)) :=
  (SessionMerge.pick_assoc strictWeak_cidLt c b a).symm

theorem lookup_filterMap_key {γ : Type} (h : Nat → Option γ) (ks : List Nat) (a : Nat) :
    lookup (ks.filterMap (fun k => (h k).map (fun x => (k, x)))) a = if a ∈ ks then h a else none := by
  induction ks with
  | nil => rfl
  | cons k tl ih =>
    rw [List.filterMap_cons]
    by_cases e : a = k
    · subst e
      cases hk : h a <;> simp [lookup, ih, hk]
    · cases h k <;> simp [lookup, ih, e]

theorem lookup_map_self {β : Type} (f : Nat → β) (ks : List Nat) (a : Nat) :
    lookup (ks.map (fun k => (k, f k))) a = if a ∈ ks then some (f a) else none := by
  simpa only [Option.map_some, List.filterMap_eq_map'] using lookup_filterMap_key (fun k => some (f k)) ks a

theorem lookup_filter_key {β : Type} (p : Nat → Bool) (l : List (Nat × β)) (a : Nat) :
    lookup (l.filter (fun c => p c.1)) a = if p a then lookup l a else none := by
  induction l with
  | nil => simp [lookup]
  | cons hd tl ih =>
    obtain ⟨k, v⟩ := hd
    by_cases e : a = k
    · subst e
      cases hp : p a <;> simp [lookup, hp, ih]
    · cases hp : p k <;> simp [lookup, hp, ih, e]

theorem lookup_eq_none_iff {β : Type} (l : List (Nat × β)) (a : Nat) :
    lookup l a = none ↔ a ∉ l.map (·.1) := by
  induction l with
  | nil => exact ⟨fun _ => List.not_mem_nil, fun _ => rfl⟩
  | cons hd tl ih =>
    rw [lookup, List.map_cons, List.mem_cons, not_or, ← ih]
    by_cases e : a = hd.1
    · simp only [e, if_true, not_true, false_and, reduceCtorEq]
    · simp only [e, if_false, not_false_iff, true_and]

theorem mem_insertKey (x a : Nat) (l : List Nat) : a ∈ insertKey x l ↔ a = x ∨ a ∈ l := by
  fun_induction insertKey x l with
  | case1 => simp  -- empty list
  | case2 y ys h => simp  -- `x < y`: goes in front
  | case3 ys h1 => simp  -- `x = y`: already there
  | case4 y ys h1 h2 ih => rw [List.mem_cons, ih, List.mem_cons]; exact or_left_comm  -- `y < x`: into the tail

theorem mem_sortDedup (a : Nat) (l : List Nat) : a ∈ sortDedup l ↔ a ∈ l := by
  induction l with
  | nil => simp [sortDedup]
  | cons x xs ih =>
    rw [show sortDedup (x :: xs) = insertKey x (sortDedup xs) from rfl, mem_insertKey, ih, List.mem_cons]

theorem pairwise_insertKey (x : Nat) (l : List Nat) (h : l.Pairwise (· < ·)) :
    (insertKey x l).Pairwise (· < ·) := by
  fun_induction insertKey x l with
  | case1 => exact List.pairwise_singleton _ _  -- empty list
  | case2 y ys h1 =>  -- `x < y`: goes in front
    exact List.pairwise_cons.mpr
      ⟨List.forall_mem_cons.mpr ⟨h1, fun z hz => Nat.lt_trans h1 (List.rel_of_pairwise_cons h hz)⟩, h⟩
  | case3 ys h1 => exact h  -- `x = y`: already there
  | case4 y ys h1 h2 ih =>  -- `y < x`: goes into the tail
    obtain ⟨hy, hys⟩ := List.pairwise_cons.mp h
    refine List.pairwise_cons.mpr ⟨fun z hz => ?_, ih hys⟩
    rcases (mem_insertKey x z ys).mp hz with rfl | hz'
    · exact Nat.lt_of_le_of_ne (Nat.le_of_not_lt h1) (Ne.symm h2)
    · exact hy z hz'

theorem pairwise_sortDedup (l : List Nat) : (sortDedup l).Pairwise (· < ·) := by
  induction l with
  | nil => exact List.Pairwise.nil
  | cons x xs ih => exact pairwise_insertKey x _ ih

theorem nodup_sortDedup (l : List Nat) : (sortDedup l).Nodup :=
  (pairwise_sortDedup l).imp (fun h => Nat.ne_of_lt h)

/-- The value arms, as a function of (left value present, right value present, `take_left`): the side
that is later supplies cid and value; `repl_merge_valueset` is consulted only when both have a value,
with the later side as `self`. -/
theorem generated_arms_are_spec (ls rs tl : Bool) :
    pickArm ls rs tl bothArms = some
      (if tl then ⟨.left, if ls then (if rs then .mergeLeftNewer else .left) else .none⟩
       else ⟨.right, if rs then (if ls then .mergeRightNewer else .right) else .none⟩) := by
  revert ls rs tl; decide +kernel

/-- The generated inner match is exhaustive (a Rust `match` must be), so `mergeAttr`'s fallback
is never used. -/
theorem bothArms_total (ls rs tl : Bool) : (pickArm ls rs tl bothArms).isSome = true := by
  rw [generated_arms_are_spec]; rfl

theorem pickVal_later (vm : Nat → Nat → Option Nat) (hvm : ∀ n o, vm n o = none) (vl vr : Option Nat) :
    pickVal vm (if vl.isSome then (if vr.isSome then .mergeLeftNewer else .left) else .none) vl vr = vl
      ∧ pickVal vm (if vr.isSome then (if vl.isSome then .mergeRightNewer else .right) else .none) vl vr = vr := by
  cases vl <;> cases vr <;> try exact ⟨rfl, rfl⟩
  show some ((vm _ _).getD _) = _ ∧ some ((vm _ _).getD _) = _
  rw [hvm, hvm]
  exact ⟨rfl, rfl⟩

theorem mergeAttr_both (vm : Nat → Nat → Option Nat) (hvm : ∀ n o, vm n o = none) (L R : Live) (a : Nat)
    {cl cr : Cid} (hl : lookup L.changes a = some cl) (hr : lookup R.changes a = some cr) :
    mergeAttr vm L R a
      = if cidLt cr cl then (some cl, lookup L.attrs a) else (some cr, lookup R.attrs a) := by
  rw [mergeAttr, hl, hr]
  simp only [generated_arms_are_spec, takeLeft]
  cases cidLt cr cl
  · exact congrArg (Prod.mk (some cr)) (pickVal_later vm hvm _ _).2
  · exact congrArg (Prod.mk (some cl)) (pickVal_later vm hvm _ _).1

theorem mergeAttr_of_not_mem (vm : Nat → Nat → Option Nat) {L R : Live} {a : Nat} (h : a ∉ attrSet L R) :
    mergeAttr vm L R a = (none, none) := by
  rw [attrSet, mem_sortDedup, List.mem_append, not_or, ← lookup_eq_none_iff, ← lookup_eq_none_iff] at h
  simp only [mergeAttr, h.1, h.2]

theorem lookup_cellsOf {γ : Type} (vm : Nat → Nat → Option Nat) (L R : Live)
    (p : Option Cid × Option Nat → Option γ) (hp : p (none, none) = none) (a : Nat) :
    lookup ((cellsOf vm L R).filterMap (fun c => (p c.2).map (fun x => (c.1, x)))) a
      = p (mergeAttr vm L R a) := by
  rw [cellsOf, List.filterMap_map]
  refine (lookup_filterMap_key (fun a => p (mergeAttr vm L R a)) _ a).trans ?_
  by_cases hm : a ∈ attrSet L R
  · rw [if_pos hm]
  · rw [if_neg hm, mergeAttr_of_not_mem vm hm, hp]

theorem lookup_changes_mergeLive (vm : Nat → Nat → Option Nat) (repl : Nat → Bool) (L R : Live) (a : Nat) :
    lookup (mergeLive vm repl L R).changes a = if repl a then (mergeAttr vm L R a).1 else none := by
  simp only [mergeLive, show retainReplicated = true from rfl, if_true, lookup_filter_key]
  rw [lookup_cellsOf vm L R Prod.fst rfl]

theorem lookup_attrs_mergeLive (vm : Nat → Nat → Option Nat) (repl : Nat → Bool) (L R : Live) (a : Nat) :
    lookup (mergeLive vm repl L R).attrs a = (mergeAttr vm L R a).2 :=
  lookup_cellsOf vm L R Prod.snd rfl a

/-- With the default `repl_merge_valueset` (`None`), the replicated cell of the
merged entry is the last-writer-wins combination of the two cells.  This is where the generated
operator and arm tables are consumed: another `take_left`, a swapped arm, a wrong side in one of
the eleven arms or a dropped `retain` makes this statement false. -/
theorem rcell_mergeLive (vm : Nat → Nat → Option Nat) (hvm : ∀ n o, vm n o = none)
    (repl : Nat → Bool) (L R : Live) (a : Nat) :
    rcell repl (mergeLive vm repl L R) a = lww (rcell repl L a) (rcell repl R a) := by
  unfold rcell
  rw [lookup_changes_mergeLive, lookup_attrs_mergeLive]
  cases repl a
  · rfl
  simp only [if_true]
  cases hl : lookup L.changes a <;> cases hr : lookup R.changes a
  case some.some =>
    rw [mergeAttr_both vm hvm L R a hl hr]
    simp only [Option.map_some, lww]
    cases cidLt _ _ <;> rfl
  -- a change cid on one side at most: `leftOnlyArm`, `rightOnlyArm` evaluate
  all_goals simp only [mergeAttr, hl, hr]; rfl

theorem crAt_mergeLive (vm : Nat → Nat → Option Nat) (repl : Nat → Bool) (L R : Live) :
    (mergeLive vm repl L R).crAt = L.crAt := rfl

/-- History invariant H_cid_unique at one attribute: one change cid names one write. -/
def Agree (x y : Option (Cid × Option Nat)) : Prop :=
  ∀ c vx vy, x = some (c, vx) → y = some (c, vy) → vx = vy

def later (x y : Cid × Option Nat) : Bool := cidLt y.1 x.1

theorem strictWeak_later : StrictWeak later :=
  ⟨fun _ _ => cidLt_asymm, fun _ _ _ h1 h2 => cidLt_false_trans h2 h1⟩

theorem lww_eq_pickOpt (x y : Option (Cid × Option Nat)) : lww x y = pickOpt later y x := by
  rcases x with _ | x <;> rcases y with _ | y <;> first | rfl | exact (apply_ite some _ x y).symm

theorem lww_none_left (y : Option (Cid × Option Nat)) : lww none y = y := by
  cases y <;> rfl

theorem lww_none_right (x : Option (Cid × Option Nat)) : lww x none = x := by
  rcases x with _ | ⟨c, v⟩ <;> rfl

theorem lww_some_some (x y : Cid × Option Nat) :
    lww (some x) (some y) = some (if cidLt y.1 x.1 then x else y) :=
  (apply_ite some _ x y).symm

theorem lww_eq_or (x y : Option (Cid × Option Nat)) : lww x y = x ∨ lww x y = y :=
  lww_eq_pickOpt x y ▸ (pickOpt_mem later y x).symm

theorem lww_idem (x : Option (Cid × Option Nat)) : lww x x = x :=
  (lww_eq_pickOpt x x).trans (pickOpt_idem strictWeak_later x)

theorem Agree.tieOpt {x y : Option (Cid × Option Nat)} (h : Agree x y) : TieOpt later y x := by
  rintro ⟨cy, vy⟩ ⟨cx, vx⟩ rfl rfl h1 h2
  cases cidLt_connex h1 h2
  rw [h _ _ _ rfl rfl]

theorem lww_comm (x y : Option (Cid × Option Nat)) (h : Agree x y) : lww x y = lww y x := by
  rw [lww_eq_pickOpt, lww_eq_pickOpt]
  exact pickOpt_comm strictWeak_later y x h.tieOpt

theorem lww_assoc (x y z : Option (Cid × Option Nat)) : lww (lww x y) z = lww x (lww y z) := by
  simp only [lww_eq_pickOpt]
  exact (pickOpt_assoc strictWeak_later z y x).symm

/-- `merge_state` as seen on the replicated stratum (specification side: LWW per attribute, a tombstone
absorbs, of two tombstones the earlier survives). -/
def vmerge : View → View → View
  | .live a f, .live _ g => .live a (fun x => lww (f x) (g x))
  | .tomb a, .live _ _ => .tomb a
  | .live _ _, .tomb b => .tomb b
  | .tomb a, .tomb b => if cidLt a b then .tomb a else .tomb b

theorem vmerge_live_live (a b : Cid) (f g : Nat → Option (Cid × Option Nat)) :
    vmerge (.live a f) (.live b g) = .live a (fun x => lww (f x) (g x)) := rfl

theorem vmerge_tomb_live (a b : Cid) (g : Nat → Option (Cid × Option Nat)) :
    vmerge (.tomb a) (.live b g) = .tomb a := rfl

theorem vmerge_live_tomb (a b : Cid) (f : Nat → Option (Cid × Option Nat)) :
    vmerge (.live a f) (.tomb b) = .tomb b := rfl

theorem vmerge_tomb_tomb (a b : Cid) :
    vmerge (.tomb a) (.tomb b) = .tomb (if cidLt a b then a else b) :=
  (apply_ite View.tomb _ a b).symm

theorem mergeState_tomb_tomb (vm : Nat → Nat → Option Nat) (repl : Nat → Bool) (a b : Cid) :
    mergeState vm repl (.tomb a) (.tomb b) = .tomb (if cidLt a b then a else b) :=
  (apply_ite St.tomb _ a b).symm

/-- `merge_state` acts on the replicated stratum as `vmerge` (consumes every generated definition of
the merge: operator, arm tables, tombstone sides, `retain`, `at`). -/
theorem view_mergeState (vm : Nat → Nat → Option Nat) (hvm : ∀ n o, vm n o = none)
    (repl : Nat → Bool) (s t : St) :
    view repl (mergeState vm repl s t) = vmerge (view repl s) (view repl t) := by
  cases s with
  | live L =>
    cases t with
    | live R => exact congrArg (View.live L.crAt) (funext (rcell_mergeLive vm hvm repl L R))
    | tomb b => rfl
  | tomb a =>
    cases t with
    | live R => rfl
    | tomb b => rw [mergeState_tomb_tomb]; exact (vmerge_tomb_tomb a b).symm

theorem vmerge_idem (v : View) : vmerge v v = v := by
  cases v with
  | live a f => exact congrArg (View.live a) (funext fun x => lww_idem (f x))
  | tomb a => rw [vmerge_tomb_tomb, cidLt_irrefl]; rfl

/-- Two views are coherent: created by the same create (no uuid clash) and one cid names one write. -/
def VCoh : View → View → Prop
  | .live a f, .live b g => a = b ∧ ∀ x, Agree (f x) (g x)
  | _, _ => True

theorem vmerge_comm (v w : View) (h : VCoh v w) : vmerge v w = vmerge w v := by
  cases v with
  | live a f =>
    cases w with
    | live b g =>
      obtain ⟨hab, hag⟩ := h
      subst hab
      exact congrArg (View.live a) (funext fun x => lww_comm (f x) (g x) (hag x))
    | tomb b => rfl
  | tomb a =>
    cases w with
    | live b g => rfl
    | tomb b =>
      rw [vmerge_tomb_tomb, vmerge_tomb_tomb]
      exact congrArg View.tomb (SessionMerge.pick_comm strictWeak_cidLt b a cidLt_connex)

theorem vmerge_assoc (u v w : View) : vmerge (vmerge u v) w = vmerge u (vmerge v w) := by
  cases u <;> cases v <;> cases w <;>
    simp only [vmerge_live_live, vmerge_tomb_live, vmerge_live_tomb, vmerge_tomb_tomb, lww_assoc, tmin_assoc]

def cellOf : View → Nat → Option (Cid × Option Nat)
  | .live _ f, x => f x
  | .tomb _, _ => none

/-- `x` is the cell with the greatest change cid among the cells at attribute `a` of the states
selected by `P` (`none` iff none of them has a cell there). -/
def TopCell (W : Nat → View) (P : Nat → Prop) (a : Nat) : Option (Cid × Option Nat) → Prop
  | none => ∀ i, P i → cellOf (W i) a = none
  | some (c, v) => (∃ i, P i ∧ cellOf (W i) a = some (c, v)) ∧
      ∀ j c' v', P j → cellOf (W j) a = some (c', v') → cidLt c c' = false

theorem topCell_leaf {W : Nat → View} {P : Nat → Prop} {i : Nat} (hi : P i) (hP : ∀ j, P j → j = i)
    (a : Nat) : TopCell W P a (cellOf (W i) a) := by
  cases h : cellOf (W i) a with
  | none => intro j hj; rw [hP j hj, h]
  | some cv =>
    obtain ⟨c, v⟩ := cv
    refine ⟨⟨i, hi, h⟩, fun j c' v' hj hc => ?_⟩
    rw [hP j hj, h] at hc
    cases hc; exact cidLt_irrefl c

theorem topCell_lww {W : Nat → View} {P Q : Nat → Prop} {a : Nat} {x y : Option (Cid × Option Nat)}
    (hx : TopCell W P a x) (hy : TopCell W Q a y) : TopCell W (fun i => P i ∨ Q i) a (lww x y) := by
  rcases x with _ | ⟨cx, vx⟩ <;> rcases y with _ | ⟨cy, vy⟩
  · exact fun i hi => hi.elim (hx i) (hy i)
  · refine ⟨hy.1.imp fun i hi => ⟨Or.inr hi.1, hi.2⟩, fun j c' v' hj hcj => hj.elim (fun hj => ?_) (hy.2 j c' v' · hcj)⟩
    rw [hx j hj] at hcj; cases hcj
  · refine ⟨hx.1.imp fun i hi => ⟨Or.inl hi.1, hi.2⟩, fun j c' v' hj hcj => hj.elim (hx.2 j c' v' · hcj) (fun hj => ?_)⟩
    rw [hy j hj] at hcj; cases hcj
  · obtain ⟨⟨i, hi, hci⟩, hmx⟩ := hx
    obtain ⟨⟨k, hk, hck⟩, hmy⟩ := hy
    simp only [lww]
    cases hlt : cidLt cy cx
    · exact ⟨⟨k, Or.inr hk, hck⟩, fun j c' v' hj hcj => hj.elim
        (fun hj => cidLt_false_trans hlt (hmx j c' v' hj hcj)) (hmy j c' v' · hcj)⟩
    · exact ⟨⟨i, Or.inl hi, hci⟩, fun j c' v' hj hcj => hj.elim
        (hmx j c' v' · hcj) (fun hj => cidLt_false_trans (cidLt_asymm hlt) (hmy j c' v' hj hcj))⟩

theorem topCell_unique {W : Nat → View} {P : Nat → Prop} {a : Nat} {x y : Option (Cid × Option Nat)}
    (hag : ∀ i j, P i → P j → Agree (cellOf (W i) a) (cellOf (W j) a))
    (hx : TopCell W P a x) (hy : TopCell W P a y) : x = y := by
  rcases x with _ | ⟨cx, vx⟩ <;> rcases y with _ | ⟨cy, vy⟩
  · rfl
  · obtain ⟨⟨i, hi, hc⟩, _⟩ := hy
    rw [hx i hi] at hc; cases hc
  · obtain ⟨⟨i, hi, hc⟩, _⟩ := hx
    rw [hy i hi] at hc; cases hc
  · obtain ⟨⟨i, hi, hci⟩, hmx⟩ := hx
    obtain ⟨⟨k, hk, hck⟩, hmy⟩ := hy
    cases cidLt_connex (hmx k cy vy hk hck) (hmy i cx vx hi hci)
    rw [hag i k hi hk cx vx vy hci hck]

/-- What a delivery tree must evaluate to, stated over the set `P` of delivered states only. -/
def TreeSpec (W : Nat → View) (P : Nat → Prop) : View → Prop
  | .tomb c => (∃ i, P i ∧ W i = .tomb c) ∧ ∀ j c', P j → W j = .tomb c' → cidLt c' c = false
  | .live a F => (∃ i, P i) ∧ (∀ i, P i → ∃ f, W i = .live a f) ∧ ∀ x, TopCell W P x (F x)

theorem rcell_delta (repl : Nat → Bool) (rg : Ranges) (e : Live) (a : Nat) :
    rcell repl { crAt := e.crAt
                 changes := e.changes.filter (fun c => keySent repl rg e c.1)
                 attrs := e.attrs.filter (fun v => keySent repl rg e v.1) } a
      = if keySent repl rg e a then rcell repl e a else none := by
  unfold rcell
  simp only [lookup_filter_key]
  cases repl a <;> cases keySent repl rg e a <;> rfl

/-- A cell of `S` that is not sent is already dominated on the consumer `K` (what the update vector
promises: the consumer has seen every change of that origin up to `ts_min`). -/
def Dominated (repl : Nat → Bool) (rg : Ranges) (S K : Live) : Prop :=
  ∀ a c v, rcell repl S a = some (c, v) → sent repl rg a c = false →
    ∃ c' v', rcell repl K a = some (c', v') ∧ cidLt c' c = false ∧ (c' = c → v' = v)

theorem withinRange_iff (ts lo hi : Nat) : withinRange ts lo hi = true ↔ (lo < ts ∧ ts ≤ hi) := by
  simp only [withinRange, Bool.and_eq_true, decide_eq_true_eq]
  exact and_comm

theorem keySent_eq_sent {repl : Nat → Bool} {rg : Ranges} {S : Live} {a : Nat} {c : Cid} {v : Option Nat}
    (h : rcell repl S a = some (c, v)) : keySent repl rg S a = sent repl rg a c := by
  rw [rcell] at h
  cases hrep : repl a <;> rw [hrep] at h
  · cases h
  cases hl : lookup S.changes a <;> rw [hl] at h
  · cases h
  · cases h; simp only [keySent, hl]

end Kanidm.ReplMerge
