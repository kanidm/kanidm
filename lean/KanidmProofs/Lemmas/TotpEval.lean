import KanidmProofs.Lemmas.Totp
/-!
An evaluator for HMAC-SHA beside the definitions of `KanidmModel/TotpHash.lean`, for the known answers
of C29.  Evaluated as they are written, the definitions spend their time walking lists: every word of a
message schedule is four look-ups in the list of all words so far, and HMAC pads and chunks
`K ⊕ pad ‖ text` whole although its first block is the key.  Here a schedule carries its last sixteen
words in a structure, and the hash of `b ++ m` goes on from the state after the block `b`, so that HMAC
is a function of the two states after the key blocks and known answers under one key compute them
once.  Each step comes with the theorem that it agrees with the model (`HashAlg.Eval`, `hmac_keyed`).
-/
namespace Kanidm.Totp
open Kanidm.Gen.Totp
open Kanidm.Totp.Hash

/-- The last sixteen words of a message schedule, oldest first. -/
structure W16 where
  (w0 w1 w2 w3 w4 w5 w6 w7 w8 w9 w10 w11 w12 w13 w14 w15 : Nat)

namespace W16

/-- Newest first, the order in which `sha1Sched` and `sha2Sched` keep their words. -/
def toList (s : W16) : List Nat :=
  [s.w15, s.w14, s.w13, s.w12, s.w11, s.w10, s.w9, s.w8, s.w7, s.w6, s.w5, s.w4, s.w3, s.w2, s.w1, s.w0]

def push (s : W16) (w : Nat) : W16 :=
  ⟨s.w1, s.w2, s.w3, s.w4, s.w5, s.w6, s.w7, s.w8, s.w9, s.w10, s.w11, s.w12, s.w13, s.w14, s.w15, w⟩

def ofList : List Nat → Option W16
  | [a0, a1, a2, a3, a4, a5, a6, a7, a8, a9, a10, a11, a12, a13, a14, a15] =>
    some ⟨a0, a1, a2, a3, a4, a5, a6, a7, a8, a9, a10, a11, a12, a13, a14, a15⟩
  | _ => none

theorem reverse_of_ofList {l : List Nat} {s : W16} (h : ofList l = some s) : l.reverse = s.toList := by
  unfold ofList at h
  split at h
  · cases h; rfl
  · cases h

end W16

/-- One step of a schedule whose next word is `new` of the window; second component: all words so
far, newest first. -/
def slide (new : W16 → Nat) (st : W16 × List Nat) (_ : Nat) : W16 × List Nat :=
  (st.1.push (new st.1), new st.1 :: st.2)

/-- `f` is a schedule step of the model: it reads the sixteen newest words of its list. -/
theorem foldl_slide {new : W16 → Nat} {f : List Nat → List Nat}
    (hf : ∀ s rest, f (s.toList ++ rest) = new s :: (s.toList ++ rest)) :
    ∀ (l : List Nat) (s : W16) (rest : List Nat),
      l.foldl (fun ws _ => f ws) (s.toList ++ rest) = (l.foldl (slide new) (s, s.toList ++ rest)).2
  | [], _, _ => rfl
  | _ :: l, s, rest => by
    rw [List.foldl_cons, List.foldl_cons, hf]
    exact foldl_slide hf l (s.push (new s)) (s.w0 :: rest)

/-- `n` further words after the sixteen words `w0`; `dflt` when `w0` is not sixteen words (a block of
the wrong length, which the hash functions never produce). -/
def schedVia (new : W16 → Nat) (n : Nat) (w0 dflt : List Nat) : List Nat :=
  match W16.ofList w0 with
  | some s => ((List.range n).foldl (slide new) (s, s.toList)).2.reverse
  | none => dflt

theorem schedVia_eq {new : W16 → Nat} {f : List Nat → List Nat}
    (hf : ∀ s rest, f (s.toList ++ rest) = new s :: (s.toList ++ rest)) (n : Nat) (w0 : List Nat) :
    schedVia new n w0 (((List.range n).foldl (fun ws _ => f ws) w0.reverse).reverse) =
      ((List.range n).foldl (fun ws _ => f ws) w0.reverse).reverse := by
  unfold schedVia
  split
  · next s h => rw [W16.reverse_of_ofList h, ← List.append_nil s.toList, foldl_slide hf]
  · rfl

/-- The next word of `sha1Sched`. -/
def new1 (s : W16) : Nat := rotl32 (s.w13 ^^^ s.w8 ^^^ s.w2 ^^^ s.w0) 1

/-- `sha1Compress` with its schedule by `slide`. -/
def compress1 (h : S5) (block : List Nat) : S5 :=
  let r := (schedVia new1 64 ((chunks 4 block).map beNum) (sha1Sched block)).zipIdx.foldl sha1Round h
  ⟨add32 h.a r.a, add32 h.b r.b, add32 h.c r.c, add32 h.d r.d, add32 h.e r.e⟩

theorem sha1Compress_eq : sha1Compress = compress1 := by
  funext h block
  have hs : schedVia new1 64 ((chunks 4 block).map beNum) (sha1Sched block) = sha1Sched block :=
    schedVia_eq (f := fun ws => rotl32 (ws.getD 2 0 ^^^ ws.getD 7 0 ^^^ ws.getD 13 0 ^^^ ws.getD 15 0) 1 :: ws)
      (fun _ _ => rfl) 64 _
  rw [compress1, hs]
  rfl

/-- The next word of `sha2Sched`. -/
def new2 (p : Sha2P) (s : W16) : Nat :=
  addw p (addw p (addw p (smallSigma p p.smallS1 s.w14) s.w9) (smallSigma p p.smallS0 s.w1)) s.w0

/-- `sha2Compress` with its schedule by `slide`. -/
def compress2 (p : Sha2P) (h : S8) (block : List Nat) : S8 :=
  let r := ((schedVia (new2 p) (p.k.length - 16) ((chunks (p.bits / 8) block).map beNum)
    (sha2Sched p block)).zip p.k).foldl (sha2Round p) h
  ⟨addw p h.a r.a, addw p h.b r.b, addw p h.c r.c, addw p h.d r.d,
   addw p h.e r.e, addw p h.f r.f, addw p h.g r.g, addw p h.h r.h⟩

theorem sha2Compress_eq (p : Sha2P) : sha2Compress p = compress2 p := by
  funext h block
  have hs : schedVia (new2 p) (p.k.length - 16) ((chunks (p.bits / 8) block).map beNum) (sha2Sched p block) =
      sha2Sched p block :=
    schedVia_eq (f := fun ws => addw p (addw p (addw p (smallSigma p p.smallS1 (ws.getD 1 0)) (ws.getD 6 0))
      (smallSigma p p.smallS0 (ws.getD 14 0))) (ws.getD 15 0) :: ws) (fun _ _ => rfl) _ _
  rw [compress2, hs]
  rfl

/-! `sha1` and `sha2` pad the whole message and then fold the compression function over its blocks.
Read from the front this is: compress the first block, then go on from that state with the rest. -/

theorem chunksAux_fuel {n : Nat} (hn : 0 < n) : ∀ (f g : Nat) (l : List Nat), l.length ≤ f → l.length ≤ g →
    chunksAux n f l = chunksAux n g l
  | f, g, [], _, _ => by cases f <;> cases g <;> rfl
  | f + 1, g + 1, a :: t, hf, hg => by
    simp only [chunksAux]
    rw [chunksAux_fuel hn f g _ (by simp at hf ⊢; omega) (by simp at hg ⊢; omega)]

theorem chunks_append {n : Nat} (b r : List Nat) (hb : b.length = n) (hn : 0 < n) :
    chunks n (b ++ r) = b :: chunks n r := by
  subst hb
  unfold chunks
  rw [List.length_append, show b.length + r.length = (b.length - 1 + r.length) + 1 by omega]
  cases hbr : b ++ r with
  | nil => rw [(List.append_eq_nil_iff.mp hbr).1] at hn; exact absurd hn (Nat.lt_irrefl 0)
  | cons a t =>
    simp only [chunksAux]
    rw [← hbr, List.take_left, List.drop_left, chunksAux_fuel hn _ r.length r (by omega) (Nat.le_refl _)]

/-- `pad` of a message of which `done` bytes came before `m`: the same filler, the length field counts both. -/
def padFrom (blk lenBytes done : Nat) (m : List Nat) : List Nat :=
  m ++ [0x80] ++ List.replicate ((blk - (done + m.length + 1 + lenBytes) % blk) % blk) 0 ++
    beBytes lenBytes (8 * (done + m.length))

theorem chunks_pad_append {blk : Nat} (lenBytes : Nat) (b m : List Nat) (hb : b.length = blk) (hn : 0 < blk) :
    chunks blk (pad blk lenBytes (b ++ m)) = b :: chunks blk (padFrom blk lenBytes blk m) := by
  rw [← chunks_append b _ hb hn]
  simp only [pad, padFrom, List.length_append, List.append_assoc, hb]

/-- An evaluator for `h.hash`: the whole hash (`hash`), and the hash of a first block `b` followed by `m`
in two steps (`start b`: the state after `b`, `tail s m`: the digest from there). -/
structure Hash.HashAlg.Eval (h : HashAlg) (σ : Type) where
  hash : List Nat → List Nat
  start : List Nat → σ
  tail : σ → List Nat → List Nat
  hash_eq : ∀ m, h.hash m = hash m
  append : ∀ b m, b.length = h.blockLen → h.hash (b ++ m) = tail (start b) m

/-- A Merkle–Damgård hash (compression function `compress`, digest `out` of the last state, blocks of `blk` bytes,
length field of `lenBytes` bytes) from the state `s` reached after `done` bytes, a whole number of blocks: the
digest of those bytes followed by `m`. -/
def mdFrom {σ : Type} (compress : σ → List Nat → σ) (out : σ → List Nat) (blk lenBytes : Nat) (s : σ) (done : Nat)
    (m : List Nat) : List Nat :=
  out ((chunks blk (padFrom blk lenBytes done m)).foldl compress s)

/-- `sha1` and `sha2 p init` are of this form; the evaluator runs `compress`, which is the model's `compress₀`. -/
def mdEval {σ : Type} {compress₀ compress : σ → List Nat → σ} (hc : compress₀ = compress) (out : σ → List Nat)
    (blk lenBytes : Nat) (init : σ) (outLen : Nat) (hn : 0 < blk) :
    (⟨fun m => out ((chunks blk (pad blk lenBytes m)).foldl compress₀ init), blk, outLen⟩ : HashAlg).Eval σ where
  hash := mdFrom compress out blk lenBytes init 0
  start := compress init
  tail := (mdFrom compress out blk lenBytes · blk)
  hash_eq := fun m => by simp only [mdFrom, pad, padFrom, Nat.zero_add, hc]
  append := fun b m hb => by simp only [mdFrom, chunks_pad_append lenBytes b m hb hn, List.foldl_cons, hc]

def evalSha1 : algSha1.Eval S5 :=
  mdEval sha1Compress_eq (fun h => beBytes 4 h.a ++ beBytes 4 h.b ++ beBytes 4 h.c ++ beBytes 4 h.d ++ beBytes 4 h.e)
    64 8 _ 20 (by decide)

def evalSha2 (p : Sha2P) (init : S8) (out : Nat) (hn : 0 < 16 * (p.bits / 8)) :
    (⟨sha2 p init, 16 * (p.bits / 8), out⟩ : HashAlg).Eval S8 :=
  mdEval (sha2Compress_eq p)
    (fun h =>
      let wb := p.bits / 8
      beBytes wb h.a ++ beBytes wb h.b ++ beBytes wb h.c ++ beBytes wb h.d ++
      beBytes wb h.e ++ beBytes wb h.f ++ beBytes wb h.g ++ beBytes wb h.h)
    _ (2 * (p.bits / 8)) init out hn

/-- RFC 2104 by an evaluator, `k` the key filled to one block: it enters only through the two states
`start (k ⊕ opad)`, `start (k ⊕ ipad)`. -/
def hmacFrom {h : HashAlg} {σ : Type} (e : h.Eval σ) (k msg : List Nat) : List Nat :=
  e.tail (e.start (k.map (· ^^^ 0x5c))) (e.tail (e.start (k.map (· ^^^ 0x36))) msg)

theorem hmac_keyed {h : HashAlg} (wf : h.WF) {σ : Type} (e : h.Eval σ) (key msg : List Nat) :
    hmac h key msg = hmacFrom e (hmacKey ⟨e.hash, h.blockLen, h.outLen⟩ key) msg := by
  have hk : hmacKey ⟨e.hash, h.blockLen, h.outLen⟩ key = hmacKey h key := by simp only [hmacKey, e.hash_eq]
  have hl (f : Nat → Nat) : ((hmacKey h key).map f).length = h.blockLen := by
    rw [List.length_map, hmacKey_length wf]
  rw [hmac, hmacFrom, hk, e.append _ _ (hl _), e.append _ _ (hl _)]

theorem hotp_keyed (a : Algo) {σ : Type} (e : (hashAlg (stdHash a)).Eval σ) (key : List Nat) (c d : Nat) :
    Rfc.hotp a key c d =
      Rfc.dynTrunc (hmacFrom e
        (hmacKey ⟨e.hash, (hashAlg (stdHash a)).blockLen, (hashAlg (stdHash a)).outLen⟩ key) (Rfc.counter8 c)) % 10 ^ d :=
  congrArg (Rfc.dynTrunc · % 10 ^ d) (hmac_keyed (hashAlg_wf _) e key _)

end Kanidm.Totp
