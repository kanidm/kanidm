import KanidmModel.Totp
/-!
What C29 needs of the hash functions and of HMAC (`HashAlg.WF`: output length and byte range, key
filling), the bridge from the code's truncation (slice, `u32::from_be_bytes`, mask, `%`) to RFC 4226's
`DT` and from `DT` to the reference expression of §5.4, and the counter of the previous time step.
-/
namespace Kanidm.Totp
open Kanidm.Gen.Totp
open Kanidm.Totp.Hash

theorem beBytes_length (n w : Nat) : (beBytes n w).length = n := by
  induction n with
  | zero => rfl
  | succ n ih => simp [beBytes, ih]

theorem beBytes_lt (n w b : Nat) (h : b ∈ beBytes n w) : b < 256 := by
  induction n with
  | zero => simp [beBytes] at h
  | succ n ih =>
    simp only [beBytes, List.mem_cons] at h
    rcases h with h | h
    · subst h; exact Nat.mod_lt _ (by decide)
    · exact ih h

theorem sha1_length (m : List Nat) : (sha1 m).length = 20 := by
  simp [sha1, beBytes_length]

theorem sha1_lt (m : List Nat) (b : Nat) (h : b ∈ sha1 m) : b < 256 := by
  simp only [sha1, List.mem_append] at h
  rcases h with (((h | h) | h) | h) | h <;> exact beBytes_lt _ _ _ h

theorem sha2_length (p : Sha2P) (init : S8) (m : List Nat) :
    (sha2 p init m).length = 8 * (p.bits / 8) := by
  simp only [sha2, List.length_append, beBytes_length]
  omega

theorem sha2_lt (p : Sha2P) (init : S8) (m : List Nat) (b : Nat) (h : b ∈ sha2 p init m) :
    b < 256 := by
  simp only [sha2, List.mem_append] at h
  rcases h with ((((((h | h) | h) | h) | h) | h) | h) | h <;> exact beBytes_lt _ _ _ h

/-- A hash function as HMAC and the truncation need it: fixed output length of at least 20
bytes that fits a block, bytes in range. -/
structure Hash.HashAlg.WF (h : HashAlg) : Prop where
  len : ∀ m, (h.hash m).length = h.outLen
  lt : ∀ m b, b ∈ h.hash m → b < 256
  out_ge : 20 ≤ h.outLen
  out_le_block : h.outLen ≤ h.blockLen

theorem hashAlg_wf (i : HashId) : (hashAlg i).WF := by
  cases i
  · exact ⟨sha1_length, sha1_lt, by decide, by decide⟩
  · exact ⟨fun m => by simp [hashAlg, algSha256, sha256, sha2_length, p256], fun m b h => sha2_lt _ _ _ _ h,
      by decide, by decide⟩
  · exact ⟨fun m => by simp [hashAlg, algSha512, sha512, sha2_length, p512], fun m b h => sha2_lt _ _ _ _ h,
      by decide, by decide⟩

theorem hmac_length {h : HashAlg} (wf : h.WF) (key msg : List Nat) :
    (hmac h key msg).length = h.outLen := by
  simp [hmac, wf.len]

theorem hmac_lt {h : HashAlg} (wf : h.WF) (key msg : List Nat) (b : Nat)
    (hb : b ∈ hmac h key msg) : b < 256 := wf.lt _ _ hb

/-- RFC 2104: a key longer than the block is replaced by its hash. -/
theorem hmacKey_long {h : HashAlg} (wf : h.WF) (key : List Nat) (hlong : h.blockLen < key.length) :
    hmacKey h key = hmacKey h (h.hash key) := by
  have h1 : ¬ h.blockLen < (h.hash key).length := by
    rw [wf.len]; exact Nat.not_lt.mpr wf.out_le_block
  simp [hmacKey, hlong, h1]

/-- RFC 2104: a key of at most one block is used as it is, zero-filled to the block. -/
theorem hmacKey_short (h : HashAlg) (key : List Nat) (hshort : key.length ≤ h.blockLen) :
    hmacKey h key = key ++ List.replicate (h.blockLen - key.length) 0 := by
  simp [hmacKey, Nat.not_lt.mpr hshort]

theorem hmacKey_length {h : HashAlg} (wf : h.WF) (key : List Nat) :
    (hmacKey h key).length = h.blockLen := by
  unfold hmacKey
  by_cases hl : h.blockLen < key.length
  · simp only [hl, if_true, List.length_append, List.length_replicate, wf.len]
    have := wf.out_le_block; omega
  · simp only [hl, if_false, List.length_append, List.length_replicate]
    omega

theorem getLast?_eq_getD (l : List Nat) (h : l ≠ []) :
    l.getLast? = some (l.getD (l.length - 1) 0) := by
  rw [List.getLast?_eq_getElem?]
  have hl : l.length - 1 < l.length := by
    cases l with
    | nil => exact absurd rfl h
    | cons a t => simp
  simp [List.getD, List.getElem?_eq_getElem hl]

theorem drop_take4 (l : List Nat) (o : Nat) (h : o + 4 ≤ l.length) :
    (l.drop o).take 4 = [l.getD o 0, l.getD (o + 1) 0, l.getD (o + 2) 0, l.getD (o + 3) 0] := by
  induction o generalizing l with
  | zero =>
    match l, h with
    | a :: b :: c :: d :: t, _ => rfl
  | succ o ih =>
    match l, h with
    | a :: t, h => exact ih t (Nat.le_of_succ_le_succ h)

theorem beNum4 (a b c d : Nat) :
    beNum [a, b, c, d] = a * 2 ^ 24 + b * 2 ^ 16 + c * 2 ^ 8 + d := by
  simp [beNum]; omega

/-- The code's truncation of an HMAC value of at least 20 bytes never fails and is RFC 4226's
`DT` followed by the modulus: `&&& 0xf` is `% 16` and `&&& 0x7fff_ffff` is `% 2^31` (both constants
come from the generated file), and the slice `hm[o..o+4]` read big-endian is the four `getD`s of `DT`
(`drop_take4`, `beNum4`). -/
theorem truncate_eq_dynTrunc (hm : List Nat) (hlen : 20 ≤ hm.length) (modulus : Nat) :
    truncate hm modulus = some (.ok (Rfc.dynTrunc hm % modulus)) := by
  have hne : hm ≠ [] := by intro h; simp [h] at hlen
  have hoff : ∀ v, offsetOf v = v % 16 := fun v => Nat.and_two_pow_sub_one_eq_mod v 4
  have hmask : ∀ x, x &&& 2147483647 = x % 2 ^ 31 := fun x => Nat.and_two_pow_sub_one_eq_mod x 31
  have ho : hm.getD (hm.length - 1) 0 % 16 + 4 ≤ hm.length := by
    have := Nat.mod_lt (hm.getD (hm.length - 1) 0) (show 0 < 16 by decide)
    omega
  unfold truncate
  rw [getLast?_eq_getD hm hne]
  simp only [hoff, sliceStart, sliceEnd, slice, Nat.le_add_right, ho, and_self, if_true,
    Nat.add_sub_cancel_left, drop_take4 hm _ ho, List.length_cons, List.length_nil, arrayLen,
    ne_eq, not_true_eq_false, if_false, u32OfBytes, otpBigEndian, beNum4, finalise, hmask,
    Rfc.dynTrunc]

/-! ### RFC 4226 §5.4 reference expression -/

theorem ref_expr (b0 b1 b2 b3 : Nat) (h1 : b1 < 256) (h2 : b2 < 256) (h3 : b3 < 256) :
    (b0 * 2 ^ 24 + b1 * 2 ^ 16 + b2 * 2 ^ 8 + b3) % 2 ^ 31 =
    ((b0 &&& 0x7f) <<< 24) ||| ((b1 &&& 0xff) <<< 16) ||| ((b2 &&& 0xff) <<< 8) ||| (b3 &&& 0xff) := by
  -- the four shifted fields do not overlap, so each `|||` is a `+`
  rw [Nat.and_two_pow_sub_one_of_lt_two_pow (n := 8) h1, Nat.and_two_pow_sub_one_of_lt_two_pow (n := 8) h2,
    Nat.and_two_pow_sub_one_of_lt_two_pow (n := 8) h3, Nat.and_two_pow_sub_one_eq_mod b0 7,
    Nat.or_assoc, Nat.or_assoc, ← Nat.shiftLeft_add_eq_or_of_lt (i := 8) h3,
    ← Nat.shiftLeft_add_eq_or_of_lt (i := 16) (by rw [Nat.shiftLeft_eq]; omega),
    ← Nat.shiftLeft_add_eq_or_of_lt (i := 24) (by simp only [Nat.shiftLeft_eq]; omega)]
  simp only [Nat.shiftLeft_eq]
  omega

theorem getD_lt (hs : List Nat) (hlt : ∀ b ∈ hs, b < 256) (i : Nat) : hs.getD i 0 < 256 := by
  rw [List.getD_eq_getElem?_getD]
  cases h : hs[i]? with
  | none => decide
  | some b => exact hlt b (List.mem_of_getElem? h)

theorem dynTrunc_eq_refTrunc (hs : List Nat) (hlt : ∀ b ∈ hs, b < 256) :
    Rfc.dynTrunc hs = Rfc.refTrunc hs := by
  have ho : hs.getD (hs.length - 1) 0 &&& 0xf = hs.getD (hs.length - 1) 0 % 16 :=
    Nat.and_two_pow_sub_one_eq_mod _ 4
  unfold Rfc.dynTrunc Rfc.refTrunc
  simp only [ho]
  exact ref_expr _ _ _ _ (getD_lt hs hlt _) (getD_lt hs hlt _) (getD_lt hs hlt _)

theorem prev_step_counter (secs step : Nat) :
    (secs - step) / step = secs / step - 1 := by
  simpa using Nat.sub_mul_div secs step 1

end Kanidm.Totp
