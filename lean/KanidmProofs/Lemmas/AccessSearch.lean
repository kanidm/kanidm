import KanidmModel.Access.Search
import KanidmProofs.C02
/-
Lemmas for C23. `MayRead` is the reference reading of a read grant. `userAllowed` is the one list
of attributes the per-entry decision allows a user; `mem_userAllowed` says it is exactly `MayRead`
over the profiles related to the request. `filter_entries`, `search` and `search_ext` are then read
through it (`mem_filterEntries`, `search_eq`, `mem_search`, `searchExt_mem`).
-/
namespace Kanidm.Access
open Kanidm.Filter
open Kanidm.Gen

/-- The profile's receiver matches the identity (for this entry): the identity is a member of one
of the receiver groups, or — entry-manager receiver — the entry names the identity or one of its
groups as its manager. -/
def ReceiverMatches (id : Identity) (p : Profile) (e : DbEntry) : Prop :=
  match p.receiver with
  | .group gs => ∃ mo, id.memberOf = some mo ∧ ∃ g, g ∈ mo ∧ g ∈ gs
  | .entryManager =>
    ∃ m, m ∈ e.attrs Attr.EntryManagedBy ∧ (m = id.uuid ∨ ∃ mo, id.memberOf = some mo ∧ m ∈ mo)
  | .none => False

/-- The profile's target filter, read for this identity (`self` = its uuid), matches the entry. -/
def TargetMatches (id : Identity) (p : Profile) (e : DbEntry) : Prop :=
  match p.target with
  | .scope f => f.matches ValSem.std id.uuid Attr.Uuid e.attrs = true
  | .none => False

/-- An access control profile grants `a` on `e` to `id`. -/
def AcpGrants (acps : List SearchAcp) (id : Identity) (e : DbEntry) (a : Nat) : Prop :=
  ∃ acs, acs ∈ acps ∧ ReceiverMatches id acs.acp e ∧ TargetMatches id acs.acp e ∧ a ∈ acs.attrs

/-- Built-in rule: OAuth2 client visibility for (non-anonymous) users holding one of its scopes. -/
def OAuth2Grants (id : Identity) (ue e : DbEntry) (a : Nat) : Prop :=
  ue.uuid ≠ AccessSearch.uuidAnonymous ∧ AccessSearch.oauth2Class0 ∈ e.classes ∧
  (∃ mo, id.memberOf = some mo ∧ ∃ g, g ∈ e.attrs Attr.OAuth2RsScopeMap ∧ g ∈ mo) ∧
  a ∈ AccessSearch.oauth2Released

/-- Built-in rule: application visibility for (non-anonymous) members of its linked group. -/
def ApplicationGrants (id : Identity) (ue e : DbEntry) (a : Nat) : Prop :=
  ue.uuid ≠ AccessSearch.uuidAnonymous ∧ AccessSearch.applicationClass0 ∈ e.classes ∧
  (∃ g mo, e.attrs Attr.LinkedGroup = [g] ∧ id.memberOf = some mo ∧ g ∈ mo) ∧
  a ∈ AccessSearch.applicationReleased

/-- Built-in rule: a synchronised account sees the sync account it comes from. -/
def SyncAccountGrants (ue e : DbEntry) (a : Nat) : Prop :=
  AccessSearch.syncAccountClass0 ∈ ue.classes ∧ AccessSearch.syncAccountClass1 ∈ ue.classes ∧
  AccessSearch.syncAccountClass2 ∈ e.classes ∧ ue.attrs Attr.SyncParentUuid = [e.uuid] ∧
  a ∈ AccessSearch.syncAccountReleased

/-- `id` may read attribute `a` of entry `e`: it is a user identity whose scope is not
`Synchronise`, and an ACP or a built-in visibility rule whose receiver and target both match
covers `a`. -/
def MayRead (acps : List SearchAcp) (id : Identity) (e : DbEntry) (a : Nat) : Prop :=
  ∃ ue, id.origin = .user ue ∧ id.scope ≠ .synchronise ∧
    (AcpGrants acps id e a ∨ OAuth2Grants id ue e a ∨ ApplicationGrants id ue e a ∨
      SyncAccountGrants ue e a)

theorem MayRead.mono {acps acps' : List SearchAcp} {id : Identity} {e : DbEntry} {a : Nat}
    (hsub : acps ⊆ acps') (h : MayRead acps id e a) : MayRead acps' id e a := by
  obtain ⟨ue, ho, hs, ⟨acs, hacs, h⟩ | h⟩ := h
  · exact ⟨ue, ho, hs, Or.inl ⟨acs, hsub hacs, h⟩⟩
  · exact ⟨ue, ho, hs, Or.inr h⟩

theorem intersects_iff (a b : List Val) : intersects a b = true ↔ ∃ g, g ∈ a ∧ g ∈ b := by
  simp [intersects, List.any_eq_true]

theorem subset_iff (a b : List Nat) : subset a b = true ↔ ∀ x ∈ a, x ∈ b := by
  simp [subset, List.all_eq_true]

theorem mem_inter (a b : List Nat) (x : Nat) : x ∈ inter a b ↔ x ∈ a ∧ x ∈ b := by
  simp [inter, List.mem_filter]

theorem mem_reduceAttrs (req : Option (List Nat)) (al : List Nat) (a : Nat) :
    a ∈ AccessSearch.reduceAttrs req al ↔ a ∈ al ∧ ∀ rq, req = some rq → a ∈ rq := by
  cases req <;> simp [AccessSearch.reduceAttrs, mem_inter, and_comm]

theorem reduceAttributes_ne_nil (e : DbEntry) (l : List Nat) (a : Nat) :
    (reduceAttributes e l).attrs a ≠ [] ↔ a ∈ l ∧ e.attrs a ≠ [] := by
  by_cases h : a ∈ l <;> simp [reduceAttributes, h]

theorem reduceAttributes_of_mem {e : DbEntry} {l : List Nat} {a : Nat} (h : a ∈ l) :
    (reduceAttributes e l).attrs a = e.attrs a := by
  simp [reduceAttributes, h]

theorem resolveFilter_matches (id : Identity) (f : FC) (t : F) (e : Entry)
    (h : resolveFilter id f = some t) :
    t.matches ValSem.std e = f.matches ValSem.std id.uuid Attr.Uuid e :=
  resolveNoIdx_preserves ValSem.std e consts id.uuid f t h

theorem resolveFilter_total (id : Identity) (f : FC) : ∃ t, resolveFilter id f = some t :=
  (resolve_total consts id.uuid (fun _ _ => none) f).2

theorem entryManagerCheck_iff (id : Identity) (e : DbEntry) :
    entryManagerCheck id e = true ↔
      ∃ m, m ∈ e.attrs Attr.EntryManagedBy ∧ (m = id.uuid ∨ ∃ mo, id.memberOf = some mo ∧ m ∈ mo) := by
  fun_cases entryManagerCheck id e
  · simp_all +zetaDelta  -- no manager named
  · -- some manager named: group check or user check
    cases hmo : id.memberOf <;> simp +zetaDelta [hmo, intersects_iff, and_comm, or_comm]

theorem resolved_conditions_hold_iff_matches (id : Identity) (p : Profile) (e : DbEntry) :
    (∃ rc t, resolveAccessConditions id p = some (rc, t) ∧ rc.holds id e = true ∧
        t.matches ValSem.std e.attrs = true) ↔
      ReceiverMatches id p e ∧ TargetMatches id p e := by
  unfold resolveAccessConditions ReceiverMatches TargetMatches
  cases ht : p.target with
  | none => cases p.receiver <;> simp <;> split <;> simp
  | scope f =>
    -- the target always resolves, to a filter that matches the same entries
    obtain ⟨t0, ht0⟩ := resolveFilter_total id f
    have hm := resolveFilter_matches id f t0 e.attrs ht0
    unfold resolveFilter at ht0
    -- the group pre-check is decided at resolution, the entry-manager test is left to the entry
    cases hr : p.receiver with
    | none => simp
    | entryManager => simp [ht0, hm, ReceiverCond.holds, entryManagerCheck_iff, and_assoc]
    | group gs =>
      cases hmo : id.memberOf with
      | none => simp
      | some mo =>
        by_cases hi : intersects mo gs = true
        · simp [hi, ht0, hm, ReceiverCond.holds, (intersects_iff mo gs).mp hi, and_assoc]
        · simp [hi, mt (intersects_iff mo gs).mpr hi]

/-- The profiles `search_related_acp` keeps for a request: all of them when no list is given. A
requested list acts on the decision only through this smaller set. -/
def relatedTo (req : Option (List Nat)) (acps : List SearchAcp) : List SearchAcp :=
  match req with
  | some r => acps.filter (fun acs => AccessSearch.relatedKeeps acs.attrs r)
  | none => acps

theorem relatedTo_subset (req : Option (List Nat)) (acps : List SearchAcp) :
    relatedTo req acps ⊆ acps := by
  cases req with
  | none => exact List.Subset.refl _
  | some r => exact List.filter_sublist.subset

theorem searchRelatedAcp_eq (id : Identity) (acps : List SearchAcp) (req : Option (List Nat)) :
    searchRelatedAcp id acps req = searchRelatedAcp id (relatedTo req acps) none := by
  cases req with
  | none => rfl
  | some r =>
    -- the trim reads only `attrs`, which resolution copies
    simp only [searchRelatedAcp, relatedTo, List.filterMap_filter, List.filter_filterMap]
    congr 1
    funext acs
    cases resolveAccessConditions id acs.acp <;> simp [Option.filter]

theorem mem_searchRelatedAcp (id : Identity) (acps : List SearchAcp) (sr : SearchResolved) :
    sr ∈ searchRelatedAcp id acps none ↔
      ∃ acs, acs ∈ acps ∧
        ∃ ct, resolveAccessConditions id acs.acp = some ct ∧ sr = ⟨acs.attrs, ct.1, ct.2⟩ := by
  simp only [searchRelatedAcp, List.mem_filterMap, Option.map_eq_some_iff, @eq_comm _ sr]

theorem acpRelease_eq_some {id : Identity} {e : DbEntry} {sr : SearchResolved} {l : List Nat} :
    acpRelease id e sr = some l ↔
      sr.rc.holds id e = true ∧ sr.target.matches ValSem.std e.attrs = true ∧ l = sr.attrs := by
  unfold acpRelease
  cases sr.rc.holds id e <;> cases sr.target.matches ValSem.std e.attrs <;> simp [eq_comm]

/-- Attributes released by the ACP module for the related set computed with request `req`. -/
def acpAllowed (id : Identity) (acps : List SearchAcp) (req : Option (List Nat)) (e : DbEntry) :
    List Nat :=
  ((searchRelatedAcp id acps req).filterMap (acpRelease id e)).flatten

theorem mem_acpAllowed (id : Identity) (acps : List SearchAcp) (req : Option (List Nat))
    (e : DbEntry) (a : Nat) :
    a ∈ acpAllowed id acps req e ↔ AcpGrants (relatedTo req acps) id e a := by
  unfold acpAllowed AcpGrants
  simp only [searchRelatedAcp_eq id acps req, List.mem_flatten, List.mem_filterMap,
    mem_searchRelatedAcp]
  constructor
  · rintro ⟨l, ⟨sr, ⟨acs, hacs, ct, hct, rfl⟩, hrel⟩, hal⟩
    obtain ⟨h1, h2, rfl⟩ := acpRelease_eq_some.mp hrel
    have := (resolved_conditions_hold_iff_matches id acs.acp e).mp ⟨ct.1, ct.2, hct, h1, h2⟩
    exact ⟨acs, hacs, this.1, this.2, hal⟩
  · rintro ⟨acs, hacs, hr, ht, ha⟩
    obtain ⟨rc, t, hres, h1, h2⟩ := (resolved_conditions_hold_iff_matches id acs.acp e).mpr ⟨hr, ht⟩
    exact ⟨acs.attrs, ⟨⟨acs.attrs, rc, t⟩, ⟨acs, hacs, (rc, t), hres, rfl⟩,
      acpRelease_eq_some.mpr ⟨h1, h2, rfl⟩⟩, ha⟩

/-- `Allow` / `Ignore`: results that neither deny nor grant. -/
def SrchResult.soft : SrchResult → Bool
  | .allow _ | .ignore => true
  | _ => false

def SrchResult.released : SrchResult → List Nat
  | .allow l => l
  | _ => []

def SrchResult.isDeny : SrchResult → Bool
  | .deny => true
  | _ => false

theorem foldl_step_denied (l : List SrchResult) (a : Acc) :
    (l.foldl Acc.step a).denied = (a.denied || l.any SrchResult.isDeny) := by
  induction l generalizing a with
  | nil => simp
  | cons x xs ih =>
    simp only [List.foldl_cons, List.any_cons, ih]
    cases x <;> simp [Acc.step, SrchResult.isDeny]

theorem step_soft (a : Acc) {r : SrchResult} (h : r.soft = true) :
    a.step r = { a with allow := a.allow ++ r.released } := by
  cases r with
  | allow l => rfl
  | ignore => simp [Acc.step, SrchResult.released]
  | deny | grant => cases h

theorem oauth2_soft (id : Identity) (e : DbEntry) : (searchOauth2FilterEntry id e).soft = true := by
  fun_cases searchOauth2FilterEntry id e <;> rfl

theorem applications_soft (id : Identity) (e : DbEntry) :
    (searchApplicationsFilterEntry id e).soft = true := by
  fun_cases searchApplicationsFilterEntry id e <;> rfl

theorem syncAccount_soft (id : Identity) (e : DbEntry) :
    (searchSyncAccountFilterEntry id e).soft = true := by
  fun_cases searchSyncAccountFilterEntry id e <;> rfl

theorem searchFilterEntry_user (id : Identity) (ue : DbEntry) (related : List SearchResolved)
    (e : DbEntry) (ho : id.origin = .user ue) (hs : id.scope ≠ .synchronise) :
    searchFilterEntry id related e = .allow ((related.filterMap (acpRelease id e)).flatten) := by
  unfold searchFilterEntry
  rw [ho]
  cases hsc : id.scope <;> simp_all

/-- The built-in rules never deny or grant: the decision is that of `search_filter_entry`, with
their releases appended to what it allows. -/
theorem applySearchAccess_eq (id : Identity) (related : List SearchResolved) (e : DbEntry) :
    applySearchAccess id related e =
      match searchFilterEntry id related e with
      | .deny => .deny
      | .grant => .grant
      | r => .allow (r.released ++ (searchOauth2FilterEntry id e).released ++
          (searchApplicationsFilterEntry id e).released ++
          (searchSyncAccountFilterEntry id e).released) := by
  simp only [applySearchAccess, moduleResults, List.foldl_cons, List.foldl_nil,
    step_soft _ (oauth2_soft id e), step_soft _ (applications_soft id e),
    step_soft _ (syncAccount_soft id e)]
  cases searchFilterEntry id related e <;> rfl

/-- What the four modules release to a user on an entry, in call order. -/
def userAllowed (id : Identity) (acps : List SearchAcp) (req : Option (List Nat)) (e : DbEntry) :
    List Nat :=
  acpAllowed id acps req e ++ (searchOauth2FilterEntry id e).released ++
    (searchApplicationsFilterEntry id e).released ++ (searchSyncAccountFilterEntry id e).released

theorem applySearchAccess_user (id : Identity) (ue : DbEntry) (acps : List SearchAcp)
    (req : Option (List Nat)) (e : DbEntry) (ho : id.origin = .user ue)
    (hs : id.scope ≠ .synchronise) :
    applySearchAccess id (searchRelatedAcp id acps req) e = .allow (userAllowed id acps req e) := by
  rw [applySearchAccess_eq, searchFilterEntry_user id ue _ e ho hs]
  rfl

theorem apply_user (id : Identity) (ue : DbEntry) (acps : List SearchAcp) (req : Option (List Nat))
    (e : DbEntry) (ho : id.origin = .user ue) (hs : id.scope ≠ .synchronise) :
    applySearchAccess id (searchRelatedAcp id acps req) e =
      .allow (acpAllowed id acps req e ++ (searchOauth2FilterEntry id e).released ++
        (searchApplicationsFilterEntry id e).released ++
        (searchSyncAccountFilterEntry id e).released) :=
  applySearchAccess_user id ue acps req e ho hs

theorem released_allow (l : List Nat) : (SrchResult.allow l).released = l := rfl

theorem released_ignore : SrchResult.ignore.released = [] := rfl

/-- A built-in rule is a cascade of `if`s ending in `Allow` of its table, `Ignore` elsewhere: an
attribute is released iff every condition on the way holds. -/
theorem mem_released_ite {c : Prop} [Decidable c] {r : SrchResult} {a : Nat} :
    a ∈ (if c then r else .ignore).released ↔ c ∧ a ∈ r.released := by
  split <;> simp [released_ignore, *]

theorem mem_released_ite_ignore {c : Prop} [Decidable c] {r : SrchResult} {a : Nat} :
    a ∈ (if c then .ignore else r).released ↔ ¬ c ∧ a ∈ r.released := by
  split <;> simp [released_ignore, *]

theorem mem_oauth2_released (id : Identity) (ue e : DbEntry) (a : Nat) (ho : id.origin = .user ue) :
    a ∈ (searchOauth2FilterEntry id e).released ↔ OAuth2Grants id ue e a := by
  cases hmo : id.memberOf <;>
    simp [searchOauth2FilterEntry, OAuth2Grants, ho, hmo, mem_released_ite,
      mem_released_ite_ignore, released_allow, released_ignore,
      AccessSearch.oauth2ExcludesAnonymous, and_assoc]

theorem mem_applications_released (id : Identity) (ue e : DbEntry) (a : Nat)
    (ho : id.origin = .user ue) :
    a ∈ (searchApplicationsFilterEntry id e).released ↔ ApplicationGrants id ue e a := by
  cases hmo : id.memberOf <;>
    rcases hl : e.attrs Attr.LinkedGroup with _ | ⟨g, _ | ⟨g2, rest⟩⟩ <;>
    simp [searchApplicationsFilterEntry, ApplicationGrants, ho, hmo, hl, mem_released_ite,
      mem_released_ite_ignore, released_allow, released_ignore,
      AccessSearch.applicationExcludesAnonymous, and_assoc]

theorem mem_syncAccount_released (id : Identity) (ue e : DbEntry) (a : Nat)
    (ho : id.origin = .user ue) :
    a ∈ (searchSyncAccountFilterEntry id e).released ↔ SyncAccountGrants ue e a := by
  rcases hl : ue.attrs Attr.SyncParentUuid with _ | ⟨p, _ | ⟨p2, rest⟩⟩ <;>
    simp [searchSyncAccountFilterEntry, SyncAccountGrants, ho, hl, mem_released_ite,
      released_allow, released_ignore, AccessSearch.syncAccountExcludesAnonymous, and_assoc]

theorem mem_userAllowed {id : Identity} {ue : DbEntry} {acps : List SearchAcp}
    {req : Option (List Nat)} {e : DbEntry} {a : Nat} (ho : id.origin = .user ue)
    (hs : id.scope ≠ .synchronise) :
    a ∈ userAllowed id acps req e ↔ MayRead (relatedTo req acps) id e a := by
  simp only [userAllowed, List.mem_append, mem_acpAllowed, mem_oauth2_released id ue e a ho,
    mem_applications_released id ue e a ho, mem_syncAccount_released id ue e a ho, or_assoc]
  constructor
  · exact fun h => ⟨ue, ho, hs, h⟩
  · rintro ⟨ue', ho', _, h⟩
    cases ho.symm.trans ho'
    exact h

theorem mayRead_of_allowed {id : Identity} {ue : DbEntry} {acps : List SearchAcp}
    {req : Option (List Nat)} {e : DbEntry} {a : Nat} (ho : id.origin = .user ue)
    (hs : id.scope ≠ .synchronise) (h : a ∈ userAllowed id acps req e) : MayRead acps id e a :=
  ((mem_userAllowed ho hs).mp h).mono (relatedTo_subset req acps)

theorem deny_of_sync (id : Identity) (related : List SearchResolved) (e : DbEntry)
    (h : (∃ u, id.origin = .synch u) ∨ (∃ ue, id.origin = .user ue ∧ id.scope = .synchronise)) :
    applySearchAccess id related e = .deny := by
  rw [applySearchAccess_eq, searchFilterEntry]
  rcases h with ⟨u, hu⟩ | ⟨ue, hu, hs⟩
  · rw [hu]
  · rw [hu, hs]

theorem filterEntries_subset (id : Identity) (acps : List SearchAcp) (fo : FC)
    (entries : List DbEntry) (e : DbEntry) (he : e ∈ filterEntries id acps fo entries) :
    e ∈ entries := by
  revert he
  fun_cases filterEntries id acps fo entries
  · nofun  -- the filter names no attribute
  · exact fun he => (List.mem_filter.mp he).1  -- the per-entry filter

theorem filterEntries_of_sync (id : Identity) (acps : List SearchAcp) (fo : FC)
    (entries : List DbEntry)
    (h : (∃ u, id.origin = .synch u) ∨ (∃ ue, id.origin = .user ue ∧ id.scope = .synchronise)) :
    filterEntries id acps fo entries = [] := by
  fun_cases filterEntries id acps fo entries
  · rfl  -- the filter names no attribute
  · -- the per-entry filter
    refine List.filter_eq_nil_iff.mpr fun e _ => ?_
    rw [deny_of_sync id _ e h]
    simp [AccessSearch.filterEntriesDeny]

theorem mem_filterEntries_user {id : Identity} {ue : DbEntry} {acps : List SearchAcp} {fo : FC}
    {entries : List DbEntry} {e : DbEntry} (ho : id.origin = .user ue)
    (hs : id.scope ≠ .synchronise) :
    e ∈ filterEntries id acps fo entries ↔
      e ∈ entries ∧ FC.attrSet fo ≠ [] ∧ ∀ a ∈ FC.attrSet fo, MayRead acps id e a := by
  have hiff (a) : a ∈ userAllowed id acps none e ↔ MayRead acps id e a := mem_userAllowed ho hs
  fun_cases filterEntries id acps fo entries
  · simp_all +zetaDelta  -- the filter names no attribute
  · -- the per-entry filter
    simp_all +zetaDelta [applySearchAccess_user id ue acps none _ ho hs,
      AccessSearch.filterEntriesAllow, subset_iff]

theorem mem_filterEntries {id : Identity} {acps : List SearchAcp} {fo : FC}
    {entries : List DbEntry} {e : DbEntry} (hni : id.isInternal = false) :
    e ∈ filterEntries id acps fo entries ↔
      e ∈ entries ∧ FC.attrSet fo ≠ [] ∧ ∀ a ∈ FC.attrSet fo, MayRead acps id e a := by
  constructor
  · intro he
    cases ho : id.origin with
    | internal r => simp [Identity.isInternal, ho] at hni
    | synch u => rw [filterEntries_of_sync id acps fo entries (Or.inl ⟨u, ho⟩)] at he; cases he
    | user ue =>
      by_cases hs : id.scope = .synchronise
      · rw [filterEntries_of_sync id acps fo entries (Or.inr ⟨ue, ho, hs⟩)] at he; cases he
      · exact (mem_filterEntries_user ho hs).mp he
  · -- a readable attribute makes the identity a user whose scope is not `Synchronise`
    rintro ⟨hin, hne, hall⟩
    obtain ⟨a, ha⟩ := List.exists_mem_of_ne_nil _ hne
    obtain ⟨ue, ho, hs, _⟩ := hall a ha
    exact (mem_filterEntries_user ho hs).mpr ⟨hin, hne, hall⟩

theorem search_eq (db : List DbEntry) (acps : List SearchAcp) (id : Identity) (f fo : FC) :
    search db acps id f fo = some (filterEntries id acps fo
      (db.filter fun e => f.matches ValSem.std id.uuid Attr.Uuid e.attrs)) := by
  obtain ⟨vfr, hr⟩ := resolveFilter_total id f
  simp only [search, hr, backendSearch, resolveFilter_matches id f vfr _ hr]

theorem search_subset {db : List DbEntry} {acps : List SearchAcp} {id : Identity} {f fo : FC}
    {res : List DbEntry} {e : DbEntry} (h : search db acps id f fo = some res) (he : e ∈ res) :
    e ∈ db ∧ f.matches ValSem.std id.uuid Attr.Uuid e.attrs = true := by
  cases (search_eq db acps id f fo).symm.trans h
  exact List.mem_filter.mp (filterEntries_subset id acps fo _ e he)

theorem mem_search {db : List DbEntry} {acps : List SearchAcp} {id : Identity} {f fo : FC}
    {res : List DbEntry} {e : DbEntry} (hni : id.isInternal = false)
    (h : search db acps id f fo = some res) :
    e ∈ res ↔ e ∈ db ∧ f.matches ValSem.std id.uuid Attr.Uuid e.attrs = true ∧
      FC.attrSet fo ≠ [] ∧ ∀ a ∈ FC.attrSet fo, MayRead acps id e a := by
  cases (search_eq db acps id f fo).symm.trans h
  rw [mem_filterEntries hni, List.mem_filter, and_assoc]

theorem search_of_sync {db : List DbEntry} {acps : List SearchAcp} {id : Identity} {f fo : FC}
    {res : List DbEntry}
    (hb : (∃ u, id.origin = .synch u) ∨ (∃ ue, id.origin = .user ue ∧ id.scope = .synchronise))
    (h : search db acps id f fo = some res) : res = [] := by
  cases (search_eq db acps id f fo).symm.trans h
  exact filterEntries_of_sync id acps fo _ hb

theorem searchExt_mem {db : List DbEntry} {acps : List SearchAcp} {id : Identity} {f fo : FC}
    {req : Option (List Nat)} {res : List DbEntry} {r : DbEntry}
    (h : searchExt db acps id f fo req = some res) (hr : r ∈ res) :
    ∃ ue ents e, id.origin = .user ue ∧ id.scope ≠ .synchronise ∧
      search db acps id f fo = some ents ∧ e ∈ ents ∧
      r = reduceAttributes e (AccessSearch.reduceAttrs req (userAllowed id acps req e)) := by
  simp only [searchExt, search_eq] at h
  revert h
  fun_cases searchFilterEntryAttributes id acps req _ <;> intro h
  case case3 ue ho related =>  -- user origin
    cases h
    obtain ⟨e, he, hred⟩ := List.mem_filterMap.mp hr
    by_cases hs : id.scope = .synchronise
    · simp [related, deny_of_sync id _ e (Or.inr ⟨ue, ho, hs⟩)] at hred
    · simp only [related, applySearchAccess_user id ue acps req e ho hs] at hred
      exact ⟨ue, _, e, ho, hs, search_eq db acps id f fo, he, (Option.some.inj hred).symm⟩
  all_goals cases h  -- internal and Synch origins are refused

theorem matches_ignoreHidden (S : ValSem) (self : Val) (ua : Nat) (e : DbEntry) (f : FC) :
    (AccessSearch.ignoreHidden f).matches S self ua e.attrs = true ↔
      AccessSearch.clsTombstone ∉ e.classes ∧ AccessSearch.clsRecycled ∉ e.classes ∧
        f.matches S self ua e.attrs = true := by
  simp [AccessSearch.ignoreHidden, FC.matches, FC.matchesAll, FC.matchesAny, DbEntry.classes,
    and_assoc]

theorem matches_recycledOnly (S : ValSem) (self : Val) (ua : Nat) (e : DbEntry) (f : FC) :
    (AccessSearch.recycledOnly f).matches S self ua e.attrs = true ↔
      AccessSearch.clsRecycled ∈ e.classes ∧ f.matches S self ua e.attrs = true := by
  simp [AccessSearch.recycledOnly, FC.matches, FC.matchesAll, DbEntry.classes]

end Kanidm.Access
