import KanidmProofs.Lemmas.ReplMerge
/-! C08: delivery trees over `applyEntry` (uuid clashes included).  On views `applyEntry` keeps the state
that comes first in one strict weak order (a tombstone before a live state, then by `at`) and merges two
states it cannot tell apart; so a tree evaluates to the first of its leaves with the top cells among the
leaves tied with it (`Resolves`), which is what `TreeSpecA` says and is unique.  The clash-free case
follows at the end. -/
namespace Kanidm.ReplMerge
open Kanidm.Cid (Cid cidLt cidLt_connex cidLt_asymm cidLt_false_trans)
open Kanidm.Gen.ReplMergeOps
open Kanidm.SessionMerge (StrictWeak)

/-- What `applyEntry` compares of a state: whether it is a tombstone, and its `at`. -/
def key : View → Bool × Cid
  | .tomb c => (true, c)
  | .live a _ => (false, a)

/-- A tombstone comes before a live state; two tombstones, or two live states, in the order of `at`. -/
def keyLt : Bool × Cid → Bool × Cid → Bool
  | (true, _), (false, _) => true
  | (false, _), (true, _) => false
  | (_, c), (_, d) => cidLt c d

theorem strictWeak_keyLt : StrictWeak keyLt where
  asymm := by
    rintro ⟨_ | _, c⟩ ⟨_ | _, d⟩ <;> first | exact cidLt_asymm | simp [keyLt]
  negtrans := by
    rintro ⟨_ | _, c⟩ ⟨_ | _, d⟩ ⟨_ | _, e⟩ <;> first | exact cidLt_false_trans | simp [keyLt]

theorem keyLt_connex : ∀ {k l : Bool × Cid}, keyLt k l = false → keyLt l k = false → k = l := by
  rintro ⟨_ | _, c⟩ ⟨_ | _, d⟩ h1 h2 <;> first | rw [cidLt_connex h1 h2] | cases h1; done | cases h2; done

def before (v w : View) : Bool := keyLt (key v) (key w)

/-- `applyEntry` as seen on the replicated stratum: the state that comes first survives whole; two
states with the same key (two live states of one creation, one tombstone twice) are merged. -/
def vapply (v w : View) : View :=
  if before v w then v else if before w v then w else vmerge v w

theorem vapply_of_key_eq {v w : View} (h : key v = key w) : vapply v w = vmerge v w := by
  simp only [vapply, before, h, strictWeak_keyLt.irrefl, Bool.false_eq_true, if_false]

/-- Only two live states of different creations are not merged. -/
theorem vapply_eq_vmerge {v w : View} (h : (key v).1 = true ∨ (key w).1 = true ∨ key v = key w) :
    vapply v w = vmerge v w := by
  cases v with
  | live a f =>
    cases w with
    | live b g =>
      obtain h | h | h := h
      · cases h
      · cases h
      · exact vapply_of_key_eq h
    | tomb d => rfl
  | tomb c =>
    cases w with
    | live b g => rfl
    | tomb d =>
      show (if cidLt c d then _ else if cidLt d c then _ else if cidLt c d then _ else _) = if cidLt c d then _ else _
      cases cidLt c d <;> cases cidLt d c <;> rfl

/-- Sealing does not touch the replicated stratum. -/
theorem view_sealSt (repl : Nat → Bool) (s : St) : view repl (sealSt repl s) = view repl s := by
  cases s with
  | tomb a => rfl
  | live e =>
    refine congrArg (View.live e.crAt) (funext fun a => ?_)
    show (if repl a then (lookup (e.changes.filter fun c => repl c.1) a).map _ else none) = rcell repl e a
    rw [lookup_filter_key, rcell]
    cases repl a <;> rfl

theorem applyEntry_live_live (vm : Nat → Nat → Option Nat) (repl : Nat → Bool) (txn : Cid) (L R : Live) :
    applyEntry vm repl txn (.live L) (.live R)
      = sealSt repl (if cidLt L.crAt R.crAt || cidLt R.crAt L.crAt then
          .live (if cidLt R.crAt L.crAt then R else L)
        else mergeState vm repl (.live L) (.live R)) := by
  show sealSt repl (if (cidLt L.crAt R.crAt || cidLt R.crAt L.crAt) = true then
      .live (if cidLt R.crAt L.crAt = true then (false, R) else (_, L)).2 else _) = _
  rw [apply_ite Prod.snd]

theorem applyEntry_tomb_right (vm : Nat → Nat → Option Nat) (repl : Nat → Bool) (txn a : Cid) (inc : St) :
    applyEntry vm repl txn inc (.tomb a) = sealSt repl (mergeState vm repl inc (.tomb a)) := by
  cases inc <;> rfl

theorem applyEntry_tomb_left (vm : Nat → Nat → Option Nat) (repl : Nat → Bool) (txn a : Cid) (db : St) :
    applyEntry vm repl txn (.tomb a) db = sealSt repl (mergeState vm repl (.tomb a) db) := rfl

theorem view_applyEntry (vm : Nat → Nat → Option Nat) (hvm : ∀ n o, vm n o = none) (repl : Nat → Bool)
    (txn : Cid) (s t : St) :
    view repl (applyEntry vm repl txn s t) = vapply (view repl s) (view repl t) := by
  cases s with
  | tomb a =>
    exact ((view_sealSt repl _).trans (view_mergeState vm hvm repl _ _)).trans (vapply_eq_vmerge (.inl rfl)).symm
  | live L =>
    cases t with
    | tomb b =>
      exact ((view_sealSt repl _).trans (view_mergeState vm hvm repl _ _)).trans
        (vapply_eq_vmerge (.inr (.inl rfl))).symm
    | live R =>
      rw [applyEntry_live_live, view_sealSt, apply_ite (view repl), view_mergeState vm hvm,
        apply_ite St.live, apply_ite (view repl)]
      show _ = if cidLt L.crAt R.crAt then _ else if cidLt R.crAt L.crAt then _ else _
      cases h : cidLt L.crAt R.crAt
      · cases cidLt R.crAt L.crAt <;> rfl
      · rw [cidLt_asymm h]; rfl

def Tree.evalA (vm : Nat → Nat → Option Nat) (repl : Nat → Bool) (txn : Cid) (w : Nat → St) : Tree → St
  | .leaf i => w i
  | .node l r => applyEntry vm repl txn (l.evalA vm repl txn w) (r.evalA vm repl txn w)

def Tree.evalVA (W : Nat → View) : Tree → View
  | .leaf i => W i
  | .node l r => vapply (l.evalVA W) (r.evalVA W)

theorem view_evalA (vm : Nat → Nat → Option Nat) (hvm : ∀ n o, vm n o = none) (repl : Nat → Bool)
    (txn : Cid) (w : Nat → St) (t : Tree) :
    view repl (t.evalA vm repl txn w) = t.evalVA (fun i => view repl (w i)) := by
  induction t with
  | leaf i => rfl
  | node l r ihl ihr => simp only [Tree.evalA, Tree.evalVA, view_applyEntry vm hvm, ihl, ihr]

theorem predExt {P Q : Nat → Prop} (h : ∀ i, P i ↔ Q i) : P = Q :=
  funext fun i => propext (h i)

theorem topCell_congr {W : Nat → View} {P Q : Nat → Prop} (h : ∀ i, P i ↔ Q i) {a : Nat}
    {x : Option (Cid × Option Nat)} (hx : TopCell W P a x) : TopCell W Q a x :=
  predExt h ▸ hx

/-- `v` resolves the states `W i`, `i ∈ P`: it has the key of one of them, none of them comes before it,
and each of its cells is the top cell among those of them that have its key. -/
structure Resolves (W : Nat → View) (P : Nat → Prop) (v : View) : Prop where
  attained : ∃ i, P i ∧ key (W i) = key v
  first : ∀ j, P j → before (W j) v = false
  top : ∀ x, TopCell W (fun i => P i ∧ key (W i) = key v) x (cellOf v x)

theorem Resolves.congr {W : Nat → View} {P Q : Nat → Prop} (h : ∀ i, P i ↔ Q i) {v : View}
    (hv : Resolves W P v) : Resolves W Q v :=
  predExt h ▸ hv

theorem Resolves.leaf (W : Nat → View) (i : Nat) : Resolves W (fun j => j = i) (W i) :=
  ⟨⟨i, rfl, rfl⟩, fun _ hj => hj ▸ strictWeak_keyLt.irrefl _,
    topCell_leaf (P := fun j => j = i ∧ key (W j) = key (W i)) ⟨rfl, rfl⟩ fun _ hj => hj.1⟩

theorem Resolves.keep_left {W : Nat → View} {P Q : Nat → Prop} {v w : View} (hv : Resolves W P v)
    (hw : Resolves W Q w) (h : before v w = true) : Resolves W (fun i => P i ∨ Q i) v := by
  refine ⟨hv.attained.imp fun i hi => ⟨Or.inl hi.1, hi.2⟩, fun j hj => hj.elim (hv.first j) fun hq =>
      strictWeak_keyLt.negtrans _ _ _ (hw.first j hq) (strictWeak_keyLt.asymm _ _ h),
    fun x => topCell_congr (fun i => and_congr_left fun hk => ⟨Or.inl, fun hi => hi.elim id fun hq => ?_⟩)
      (hv.top x)⟩
  -- a state of `Q` with the key of `v` would come before `w`
  have := hw.first i hq
  rw [before, hk, ← before, h] at this
  cases this

theorem vmerge_of_key_eq {v w : View} (h : key v = key w) :
    key (vmerge v w) = key v ∧ ∀ x, cellOf (vmerge v w) x = lww (cellOf v x) (cellOf w x) := by
  cases v <;> cases w <;> cases h
  · exact ⟨rfl, fun _ => rfl⟩
  · rw [vmerge_tomb_tomb, ite_self]; exact ⟨rfl, fun _ => rfl⟩

theorem Resolves.vapply {W : Nat → View} {P Q : Nat → Prop} {v w : View} (hv : Resolves W P v)
    (hw : Resolves W Q w) : Resolves W (fun i => P i ∨ Q i) (vapply v w) := by
  cases h1 : before v w
  · cases h2 : before w v
    · have hk := keyLt_connex h1 h2
      obtain ⟨hm, hc⟩ := vmerge_of_key_eq hk
      rw [vapply_of_key_eq hk]
      refine ⟨hv.attained.imp fun i hi => ⟨Or.inl hi.1, hi.2.trans hm.symm⟩, fun j hj => ?_, fun x => ?_⟩
      · rw [before, hm]
        exact hj.elim (hv.first j) fun hq => hk ▸ hw.first j hq
      · rw [hc, hm]
        exact topCell_congr (fun i => or_and_right.symm) (topCell_lww (hv.top x) (hk ▸ hw.top x))
    · rw [ReplMerge.vapply, h1, if_neg Bool.false_ne_true, h2, if_pos rfl]
      exact (hw.keep_left hv h2).congr fun _ => Or.comm
  · rw [ReplMerge.vapply, h1, if_pos rfl]
    exact hv.keep_left hw h1

theorem resolves_evalVA (W : Nat → View) (t : Tree) : Resolves W (fun i => i ∈ t.leaves) (t.evalVA W) := by
  induction t with
  | leaf i => exact (Resolves.leaf W i).congr (by intro j; simp [Tree.leaves])
  | node l r ihl ihr => exact (ihl.vapply ihr).congr (by intro j; simp [Tree.leaves])

def atOf : View → Option Cid
  | .live a _ => some a
  | .tomb _ => none

/-- Coherence for clashing creations: one cid names one write *within one creation*. -/
def VCohA : View → View → Prop
  | .live a f, .live b g => a = b → ∀ x, Agree (f x) (g x)
  | _, _ => True

theorem agree_cellOf_of_vcohA {v w : View} (h : VCohA v w) (hk : key v = key w) (x : Nat) :
    Agree (cellOf v x) (cellOf w x) := by
  cases v <;> cases w <;> cases hk
  · exact h rfl x
  · nofun

theorem view_ext {v w : View} (hk : key v = key w) (hc : ∀ x, cellOf v x = cellOf w x) : v = w := by
  cases v <;> cases w <;> cases hk
  · exact congrArg _ (funext hc)
  · rfl

theorem Resolves.unique {W : Nat → View} (hcoh : ∀ i j, VCohA (W i) (W j)) {P : Nat → Prop} {v w : View}
    (hv : Resolves W P v) (hw : Resolves W P w) : v = w := by
  obtain ⟨⟨i, hi, hki⟩, hvb, hvc⟩ := hv
  obtain ⟨⟨k, hk, hkk⟩, hwb, hwc⟩ := hw
  -- each has the key of a state that does not come before the other
  have hkey : key v = key w := keyLt_connex (hki ▸ hwb i hi) (hkk ▸ hvb k hk)
  exact view_ext hkey fun x => topCell_unique
    (fun p q hp hq => agree_cellOf_of_vcohA (hcoh p q) (hp.2.trans hq.2.symm) x) (hvc x) (hkey ▸ hwc x)

/-- What a delivery tree over `applyEntry` evaluates to, over the set `P` of delivered states: a
tombstone with the earliest `at` if any; otherwise the earliest creation, with per attribute the
greatest change cid among the delivered states *of that creation*. -/
def TreeSpecA (W : Nat → View) (P : Nat → Prop) : View → Prop
  | .tomb c => (∃ i, P i ∧ W i = .tomb c) ∧ ∀ j c', P j → W j = .tomb c' → cidLt c' c = false
  | .live a F =>
    (∃ i f, P i ∧ W i = .live a f) ∧ (∀ i, P i → ∃ b f, W i = .live b f ∧ cidLt b a = false)
      ∧ ∀ x, TopCell W (fun i => P i ∧ atOf (W i) = some a) x (F x)

theorem key_eq_tomb {u : View} {c : Cid} : key u = (true, c) ↔ u = .tomb c := by
  cases u <;> simp [key]

theorem key_eq_live {u : View} {a : Cid} : key u = (false, a) ↔ atOf u = some a := by
  cases u <;> simp [key, atOf]

theorem Resolves.treeSpecA {W : Nat → View} {P : Nat → Prop} {v : View} (h : Resolves W P v) :
    TreeSpecA W P v := by
  obtain ⟨⟨i, hi, hki⟩, hb, hc⟩ := h
  cases v with
  | tomb c =>
    refine ⟨⟨i, hi, key_eq_tomb.mp hki⟩, fun j c' hj hw => ?_⟩
    have := hb j hj
    rwa [hw] at this
  | live a F =>
    refine ⟨?_, fun j hj => ?_, fun x => topCell_congr (fun j => and_congr_right fun _ => key_eq_live) (hc x)⟩
    · cases hw : W i with
      | tomb d => rw [hw] at hki; cases hki
      | live b f => rw [hw] at hki; cases hki; exact ⟨i, f, hi, hw⟩
    · -- a tombstone would come before `v`
      have := hb j hj
      cases hw : W j with
      | tomb d => rw [hw] at this; cases this
      | live b f => rw [hw] at this; exact ⟨b, f, rfl, this⟩

/-! ## Without uuid clashes

When all delivered states stem from one creation (`VCoh`), two live states always have the same key, so
`vapply` is `vmerge` throughout a tree, and `TreeSpecA` says what `TreeSpec` says: the results about
`merge_state` alone are those about `applyEntry`. -/

theorem VCoh.vcohA {v w : View} (h : VCoh v w) : VCohA v w := by
  cases v with
  | tomb c => cases w <;> trivial
  | live a f =>
    cases w with
    | tomb d => trivial
    | live b g => exact fun _ => h.2

theorem VCoh.key {v w : View} (h : VCoh v w) : (key v).1 = true ∨ (key w).1 = true ∨ key v = key w := by
  cases v with
  | tomb c => exact .inl rfl
  | live a f =>
    cases w with
    | tomb d => exact .inr (.inl rfl)
    | live b g => exact .inr (.inr (congrArg (Prod.mk false) h.1))

theorem view_eval (vm : Nat → Nat → Option Nat) (hvm : ∀ n o, vm n o = none) (repl : Nat → Bool)
    (w : Nat → St) (hcoh : ∀ i j, VCoh (view repl (w i)) (view repl (w j))) (t : Tree) :
    view repl (t.eval vm repl w) = t.evalVA (fun i => view repl (w i)) := by
  induction t with
  | leaf i => rfl
  | node l r ihl ihr =>
    rw [Tree.eval, view_mergeState vm hvm, ihl, ihr]
    -- both keys are those of leaves, which are coherent
    obtain ⟨i, _, hi⟩ := (resolves_evalVA (fun i => view repl (w i)) l).attained
    obtain ⟨k, _, hk⟩ := (resolves_evalVA (fun i => view repl (w i)) r).attained
    exact (vapply_eq_vmerge (hi ▸ hk ▸ (hcoh i k).key)).symm

theorem treeSpec_of_treeSpecA {W : Nat → View} (hcoh : ∀ i j, VCoh (W i) (W j)) {P : Nat → Prop} {v : View}
    (h : TreeSpecA W P v) : TreeSpec W P v := by
  cases v with
  | tomb c => exact h
  | live a F =>
    obtain ⟨⟨i, f, hi, hwi⟩, hge, htop⟩ := h
    have hall : ∀ j, P j → ∃ g, W j = .live a g := fun j hj => by
      obtain ⟨b, g, hg, _⟩ := hge j hj
      have hij := hcoh i j
      rw [hwi, hg] at hij
      exact ⟨g, hij.1 ▸ hg⟩
    refine ⟨⟨i, hi⟩, hall, fun x => topCell_congr (fun j => and_iff_left_of_imp fun hj => ?_) (htop x)⟩
    obtain ⟨g, hg⟩ := hall j hj
    rw [hg]; rfl

end Kanidm.ReplMerge
