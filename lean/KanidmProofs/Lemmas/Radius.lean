import KanidmModel.Radius
import KanidmProofs.Lemmas.ListFold
/-!
Specification vocabulary of C46 (`Member`, `MappedTo`, `Unmapped`: the declarative reading of the
property text), the lemmas that tie it to `userInRequired`, `cfgLookup` and `resolve`, and `authorise` arm
by arm (`authorise_eq`).
-/
namespace Kanidm.Radius
open Kanidm.Gen.Radius

/-- Declarative membership: some group of the token is named, by uuid or by spn, in the
configured required list. -/
def Member (cfg : Config) (t : Token) : Prop :=
  ∃ g ∈ t.groups, g.uuid ∈ cfg.required ∨ g.spn ∈ cfg.required

/-- `c` is the configuration in force for spn `s`: the last entry of `radius_groups` with that spn. -/
def MappedTo (cfg : Config) (s : Nat) (c : GroupCfg) : Prop :=
  ∃ pre post, cfg.groups = pre ++ c :: post ∧ c.spn = s ∧ ∀ d ∈ post, d.spn ≠ s

def Unmapped (cfg : Config) (s : Nat) : Prop := ∀ d ∈ cfg.groups, d.spn ≠ s

theorem userInRequired_iff (cfg : Config) (gs : List Group) :
    userInRequired cfg gs = true ↔ ∃ g ∈ gs, g.uuid ∈ cfg.required ∨ g.spn ∈ cfg.required := by
  simp [userInRequired, memberAny, memberPred, List.any_eq_true]

theorem cfgLookup_nil (s : Nat) : cfgLookup [] s = none := rfl

theorem cfgLookup_of_none {l : List GroupCfg} {s : Nat} (h : ∀ d ∈ l, d.spn ≠ s) :
    cfgLookup l s = none :=
  foldl_const _ l none fun _ d hd => if_neg (h d hd)

theorem cfgLookup_of_last {pre post : List GroupCfg} {c : GroupCfg} {s : Nat} (hc : c.spn = s)
    (hpost : ∀ d ∈ post, d.spn ≠ s) : cfgLookup (pre ++ c :: post) s = some c := by
  rw [cfgLookup, List.foldl_append, List.foldl_cons, if_pos hc]
  exact foldl_const _ post _ fun _ d hd => if_neg (hpost d hd)

theorem cfgLookup_cons (d : GroupCfg) (l : List GroupCfg) (s : Nat) :
    cfgLookup (d :: l) s = (cfgLookup l s).or (if d.spn = s then some d else none) := by
  rcases last_or_none (·.spn = s) l with hn | ⟨pre, x, post, rfl, hx, hpost⟩
  · rw [cfgLookup_of_none hn, Option.none_or]
    split
    · exact cfgLookup_of_last (pre := []) ‹_› hn
    · exact cfgLookup_of_none (List.forall_mem_cons.mpr ⟨‹_›, hn⟩)
  · rw [cfgLookup_of_last hx hpost]
    exact cfgLookup_of_last (pre := d :: pre) hx hpost

theorem cfgLookup_none_iff (l : List GroupCfg) (s : Nat) :
    cfgLookup l s = none ↔ ∀ d ∈ l, d.spn ≠ s := by
  refine ⟨fun h => ?_, cfgLookup_of_none⟩
  rcases last_or_none (·.spn = s) l with hn | ⟨pre, c, post, rfl, hc, hpost⟩
  · exact hn
  · rw [cfgLookup_of_last hc hpost] at h; cases h

theorem cfgLookup_some_iff (l : List GroupCfg) (s : Nat) (c : GroupCfg) :
    cfgLookup l s = some c ↔
      ∃ pre post, l = pre ++ c :: post ∧ c.spn = s ∧ ∀ d ∈ post, d.spn ≠ s := by
  constructor
  · intro h
    rcases last_or_none (·.spn = s) l with hn | ⟨pre, x, post, rfl, hx, hpost⟩
    · rw [cfgLookup_of_none hn] at h; cases h
    · rw [cfgLookup_of_last hx hpost] at h; cases h; exact ⟨pre, post, rfl, hx, hpost⟩
  · rintro ⟨pre, post, rfl, h2, h3⟩
    exact cfgLookup_of_last h2 h3

theorem resolveStep_unmapped (cfg : Config) (acc : Resolved) (g : Group)
    (h : Unmapped cfg g.spn) : resolveStep cfg acc g = acc := by
  simp [resolveStep, cfgKey, (cfgLookup_none_iff _ _).mpr h]

theorem resolveStep_mapped (cfg : Config) (acc : Resolved) (g : Group) (c : GroupCfg)
    (h : MappedTo cfg g.spn c) : (resolveStep cfg acc g).vlan = c.vlan := by
  simp [resolveStep, cfgKey, (cfgLookup_some_iff _ _ _).mpr h]

theorem resolve_vlan_last (cfg : Config) (pre post : List Group) (g : Group) (c : GroupCfg)
    (hg : MappedTo cfg g.spn c) (hpost : ∀ h ∈ post, Unmapped cfg h.spn) :
    (resolve cfg (pre ++ g :: post)).vlan = c.vlan := by
  unfold resolve
  rw [List.foldl_append, List.foldl_cons,
    foldl_const _ post _ fun acc h hh => resolveStep_unmapped cfg acc h (hpost h hh)]
  exact resolveStep_mapped cfg _ g c hg

theorem resolve_vlan_default (cfg : Config) (gs : List Group)
    (h : ∀ g ∈ gs, Unmapped cfg g.spn) : (resolve cfg gs).vlan = cfg.defaultVlan := by
  unfold resolve
  rw [foldl_const _ gs _ fun acc g hg => resolveStep_unmapped cfg acc g (h g hg)]

/-- `authorise` arm by arm, with the generated constants (early-return table, guard polarity,
"not found" status) read off. -/
theorem authorise_eq (cfg : Config) (dir : Nat → Http) (req : Request) :
    authorise cfg dir req =
      match userId req with
      | none => .err .fail
      | some id =>
        match dir id with
        | .ok t =>
          if userInRequired cfg t.groups then
            .accept { name := t.name, uuid := t.uuid, secret := t.secret,
                      vlan := (resolve cfg t.groups).vlan, attrs := (resolve cfg t.groups).attrs }
          else .err .reject
        | .status c => if c = 404 then .err .notFound else .err .fail
        | .broken => .err .fail := by
  unfold authorise
  cases userId req with
  | none => rfl
  | some id =>
    dsimp only
    cases dir id with
    | ok t => cases h : userInRequired cfg t.groups <;> simp [fetchToken, returnWhenMember, h, errGuard]
    | status c => by_cases hc : c = 404 <;> simp [fetchToken, notFoundStatus, hc, errNotFound, errLookup]
    | broken => rfl

end Kanidm.Radius
