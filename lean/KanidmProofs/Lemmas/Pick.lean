/-!
The pick-the-maximum algebra shared by the entry merge (C08), the session and key merges (C11) and
the key object (C34): per key a merge keeps the newer value unless the older one replaces it
(`pick`, `pickOpt` when a side may be absent; the models spell the `if` out in their loops and the
`lookup_*` lemmas of each fold it back into these). For a replace test that is a strict weak order
(`StrictWeak`: asymmetric, negatively transitive) the choice is idempotent and associative, the
value kept is an input that no input replaces (`pickOpt_max`), and it is commutative where
incomparable values are equal (`Tie`). No model is imported. The namespace is
`Kanidm.SessionMerge` because the audited statements of C11 and C34 print
`Kanidm.SessionMerge.StrictWeak`.
-/
namespace Kanidm.SessionMerge

variable {α : Type}

/-- Per key: the value kept when `n` is in the newer map and `o` in the older one. -/
def pick (repl : α → α → Bool) (n o : α) : α := if repl o n then o else n

/-- The same when either side may be absent: core's `Option.merge` of `pick`. -/
def pickOpt (repl : α → α → Bool) : Option α → Option α → Option α := Option.merge (pick repl)

@[simp] theorem pickOpt_none_right (repl : α → α → Bool) (x : Option α) : pickOpt repl x none = x :=
  Option.merge_none_right

@[simp] theorem pickOpt_none_left (repl : α → α → Bool) (x : Option α) : pickOpt repl none x = x :=
  Option.merge_none_left

structure StrictWeak (repl : α → α → Bool) : Prop where
  asymm : ∀ a b, repl a b = true → repl b a = false
  negtrans : ∀ a b c, repl a b = false → repl b c = false → repl a c = false

/-- Incomparable values are equal (for sessions, what the payload hypothesis H1 of C11 provides). -/
def Tie (repl : α → α → Bool) (a b : α) : Prop := repl a b = false → repl b a = false → a = b

theorem StrictWeak.irrefl {repl : α → α → Bool} (h : StrictWeak repl) (a : α) : repl a a = false := by
  cases hr : repl a a with
  | false => rfl
  | true => have := h.asymm a a hr; simp [hr] at this

theorem StrictWeak.trans {repl : α → α → Bool} (h : StrictWeak repl) (a b c : α)
    (hab : repl a b = true) (hbc : repl b c = true) : repl a c = true := by
  cases hac : repl a c with
  | true => rfl
  | false => exact absurd hab (Bool.eq_false_iff.1 (h.negtrans a c b hac (h.asymm b c hbc)))

theorem StrictWeak.comap {β : Type} {repl : α → α → Bool} (h : StrictWeak repl) (f : β → α) :
    StrictWeak (fun a b => repl (f a) (f b)) :=
  ⟨fun _ _ => h.asymm _ _, fun _ _ _ => h.negtrans _ _ _⟩

theorem StrictWeak.of_lex {repl : α → α → Bool} (f : α → Nat) (g : α → Int)
    (h : ∀ a b, repl a b = true ↔ f b < f a ∨ (f a = f b ∧ g b < g a)) : StrictWeak repl where
  asymm a b := by simp only [Bool.eq_false_iff, ne_eq, h]; omega
  negtrans a b c := by simp only [Bool.eq_false_iff, ne_eq, h]; omega

theorem pick_idem {repl : α → α → Bool} (h : StrictWeak repl) (a : α) : pick repl a a = a := by
  simp [pick, h.irrefl]

theorem pick_comm {repl : α → α → Bool} (h : StrictWeak repl) (a b : α) (t : Tie repl a b) :
    pick repl a b = pick repl b a := by
  unfold pick
  cases hba : repl b a with
  | true => simp [h.asymm b a hba]
  | false =>
    cases hab : repl a b with
    | true => simp
    | false => simp [t hab hba]

/-- Left-biased maximum is associative — no tie hypothesis needed as long as the roles
(newer/older) are not permuted. -/
theorem pick_assoc {repl : α → α → Bool} (h : StrictWeak repl) (a b c : α) :
    pick repl (pick repl a b) c = pick repl a (pick repl b c) := by
  unfold pick
  cases hba : repl b a <;> cases hcb : repl c b <;> cases hca : repl c a <;> simp [hba, hcb, hca]
  · have := h.negtrans c b a hcb hba
    simp [this] at hca
  · have := h.trans c b a hcb hba
    simp [this] at hca

theorem pickOpt_idem {repl : α → α → Bool} (h : StrictWeak repl) (x : Option α) :
    pickOpt repl x x = x :=
  haveI : Std.IdempotentOp (pick repl) := ⟨pick_idem h⟩
  Std.IdempotentOp.idempotent (op := Option.merge (pick repl)) x

def TieOpt (repl : α → α → Bool) (x y : Option α) : Prop :=
  ∀ a b, x = some a → y = some b → Tie repl a b

theorem Tie.symm {repl : α → α → Bool} {a b : α} (t : Tie repl a b) : Tie repl b a :=
  fun h1 h2 => (t h2 h1).symm

theorem TieOpt.symm {repl : α → α → Bool} {x y : Option α} (t : TieOpt repl x y) :
    TieOpt repl y x := fun a b ha hb => (t b a hb ha).symm

theorem pickOpt_comm {repl : α → α → Bool} (h : StrictWeak repl) (x y : Option α)
    (t : TieOpt repl x y) : pickOpt repl x y = pickOpt repl y x := by
  cases x with
  | none => simp
  | some a =>
    cases y with
    | none => simp
    | some b => simp [pickOpt, pick_comm h a b (t a b rfl rfl)]

theorem pickOpt_assoc {repl : α → α → Bool} (h : StrictWeak repl) (x y z : Option α) :
    pickOpt repl (pickOpt repl x y) z = pickOpt repl x (pickOpt repl y z) :=
  haveI : Std.Associative (pick repl) := ⟨pick_assoc h⟩
  Std.Associative.assoc (op := Option.merge (pick repl)) x y z

theorem pickOpt_eq_none {repl : α → α → Bool} {x y : Option α} :
    pickOpt repl x y = none ↔ x = none ∧ y = none := Option.merge_eq_none_iff

theorem pickOpt_max {repl : α → α → Bool} (h : StrictWeak repl) {x y : Option α} {v : α}
    (hv : x = some v ∨ y = some v) :
    ∃ p, pickOpt repl x y = some p ∧ (x = some p ∨ y = some p) ∧ repl v p = false := by
  cases x with
  | none => exact ⟨v, by simpa using hv, by simpa using hv, h.irrefl v⟩
  | some a =>
    cases y with
    | none => exact ⟨v, by simpa using hv, by simpa using hv, h.irrefl v⟩
    | some b =>
      simp only [Option.some.injEq] at hv
      cases hr : repl b a with
      | true =>
        refine ⟨b, by simp [pickOpt, pick, hr], Or.inr rfl, ?_⟩
        rcases hv with rfl | rfl
        · exact h.asymm b a hr
        · exact h.irrefl b
      | false =>
        refine ⟨a, by simp [pickOpt, pick, hr], Or.inl rfl, ?_⟩
        rcases hv with rfl | rfl
        · exact h.irrefl a
        · exact hr

theorem pick_cases (repl : α → α → Bool) (a b : α) : pick repl a b = a ∨ pick repl a b = b := by
  unfold pick; cases repl b a <;> simp

theorem pickOpt_mem (repl : α → α → Bool) (x y : Option α) :
    pickOpt repl x y = x ∨ pickOpt repl x y = y := Option.merge_eq_or_eq (pick_cases repl) x y

end Kanidm.SessionMerge
