import KanidmProofs.Lemmas.RefintOps
/-!
C16: the replication fix-up (`opRepl`: `incremental_apply` of **arbitrary** merged candidates, then
`post_repl_incremental_conflict` and `post_repl_incremental`) preserves `Inv`.
-/
namespace Kanidm.Refint
open Kanidm.Gen.Refint

theorem mem_upsert {s : State} {c e : Entry} :
    e ∈ upsert s c ↔ e = c ∨ (e ∈ s ∧ e.uuid ≠ c.uuid) := by
  fun_cases upsert s c with
  | case1 hidx => -- the uuid is stored: replaced in place
    obtain ⟨x0, hx0, hxu0⟩ := inIndex_iff.mp hidx
    rw [List.mem_map]
    constructor
    · rintro ⟨x, hx, rfl⟩
      split
      · exact Or.inl rfl
      · rename_i hne; exact Or.inr ⟨hx, by simpa using hne⟩
    · rintro (rfl | ⟨he, hne⟩)
      · exact ⟨x0, hx0, by simp [hxu0]⟩
      · exact ⟨e, he, by simp [hne]⟩
  | case2 hidx => -- unknown uuid: appended
    rw [List.mem_append, List.mem_singleton]
    constructor
    · rintro (h | h)
      · exact Or.inr ⟨h, fun heq => hidx (inIndex_iff.mpr ⟨e, h, heq⟩)⟩
      · exact Or.inl h
    · rintro (rfl | ⟨he, _⟩)
      · exact Or.inr rfl
      · exact Or.inl he

theorem nodup_upsert {s : State} (hn : (s.map (·.uuid)).Nodup) (c : Entry) :
    ((upsert s c).map (·.uuid)).Nodup := by
  fun_cases upsert s c with
  | case1 => -- replaced in place
    refine Keyed.nodup_map Entry.uuid (fun x _ => ?_) hn
    split
    · rename_i h; exact (beq_iff_eq.mp h).symm
    · rfl
  | case2 hidx => -- appended
    exact Keyed.nodup_append Entry.uuid hn (List.pairwise_singleton ..) fun x hx y hy hab =>
      hidx (inIndex_iff.mpr ⟨x, hx, List.mem_singleton.mp hy ▸ hab⟩)

theorem nodup_upsertAll {s : State} (hn : (s.map (·.uuid)).Nodup) (cs : List Entry) :
    ((upsertAll s cs).map (·.uuid)).Nodup :=
  cs.foldlRecOn upsert hn (motive := fun s => (s.map (·.uuid)).Nodup) fun _ h c _ => nodup_upsert h c

theorem mem_upsertAll {s : State} {cs : List Entry} {e : Entry} :
    e ∈ upsertAll s cs ↔
      match cs.reverse.find? (·.uuid == e.uuid) with
      | some c => e = c
      | none => e ∈ s := by
  unfold upsertAll
  induction cs generalizing s with
  | nil => rfl
  | cons c cs ih =>
    rw [List.foldl_cons, ih, List.reverse_cons, List.find?_append]
    cases cs.reverse.find? (·.uuid == e.uuid) with
    | some c' => rfl
    | none =>
      rw [mem_upsert, Option.none_or, List.find?_singleton]
      by_cases h : c.uuid = e.uuid
      · rw [if_pos (beq_iff_eq.mpr h)]
        exact ⟨fun h' => h'.elim id fun h2 => absurd h.symm h2.2, Or.inl⟩
      · rw [if_neg (mt beq_iff_eq.mp h)]
        exact ⟨fun h' => h'.elim (fun h1 => absurd (h1 ▸ rfl) h) (·.1),
          fun h' => .inr ⟨h', fun h2 => h h2.symm⟩⟩

theorem of_mem_upsertAll {s : State} {cs : List Entry} {e : Entry} (h : e ∈ upsertAll s cs) :
    e ∈ cs ∨ e ∈ s := by
  have := mem_upsertAll.mp h
  split at this
  · rename_i c hc
    exact .inl (this ▸ List.mem_reverse.mp (List.mem_of_find?_eq_some hc))
  · exact .inr this

theorem uuid_mem_upsertAll {s : State} {cs : List Entry} {c : Entry} (hc : c ∈ cs) :
    c.uuid ∈ (upsertAll s cs).map (·.uuid) := by
  cases hf : cs.reverse.find? (·.uuid == c.uuid) with
  | none => exact absurd (beq_self_eq_true _) (List.find?_eq_none.mp hf c (List.mem_reverse.mpr hc))
  | some c' =>
    have hu := List.find?_some hf
    rw [beq_iff_eq] at hu
    exact List.mem_map.mpr ⟨c', mem_upsertAll.mpr (by rw [hu, hf]), hu⟩

theorem preOf_cases (s : State) (c : Entry) : preOf s c ∈ s ∨ (preOf s c).attrs = [] := by
  unfold preOf
  split
  · rename_i e h; exact Or.inl (List.mem_of_find?_eq_some h)
  · exact Or.inr rfl

theorem toConflict_propRefs (e : Entry) : (toConflict e).propRefs = e.propRefs := rfl

theorem conflictState_entry {s1 : State} {hit : List Nat} {e2 : Entry} (h : e2 ∈ conflictState s1 hit) :
    ∃ e1 ∈ s1, e2.attrs = e1.attrs ∧ e2.propRefs = e1.propRefs := by
  obtain ⟨e1, he1, rfl⟩ := List.mem_map.mp h
  exact ⟨e1, he1, by split <;> exact ⟨rfl, rfl⟩⟩

/-- `post_repl_incremental` hands three kinds of uuid to `remove_references`: new references
that are missing, the conflict uuids, and candidates that went from live to deleted. -/
theorem mem_replRemoveSet {s s2 : State} {cand : List Entry} {conf2 : List Nat} {u : Nat} :
    u ∈ replRemoveSet s s2 cand conf2 ↔
      u ∈ (if existFast s2 (newRefs (some (cand.map (preOf s))) cand) then []
        else existSlow s2 (newRefs (some (cand.map (preOf s))) cand)) ∨
      u ∈ conf2 ∨ ∃ c ∈ cand, (preOf s c).st = .live ∧ c.st ≠ .live ∧ c.uuid = u := by
  simp only [replRemoveSet, replRemovesMissing, replRemovesConflicts, replRemovesInactive, if_true,
    List.mem_append, List.mem_filterMap, or_assoc]
  refine or_congr_right (or_congr_right (exists_congr fun c => and_congr_right fun _ => ?_))
  cases h1 : (preOf s c).st == .live <;> cases h2 : c.st == .live <;>
    simp_all [becameInactive]

theorem conflictHits_sub (s1 : State) (conflicts : List Nat) :
    ∀ u ∈ conflictHits s1 conflicts, u ∈ s1.map (·.uuid) := by
  intro u hu
  unfold conflictHits at hu
  split at hu
  · cases hu
  · exact (List.filter_sublist.map _).subset hu

theorem replRemoveSet_sub {s s2 : State} {cand : List Entry} {conf2 : List Nat} {u : Nat}
    (hu : u ∈ replRemoveSet s s2 cand conf2) :
    u ∈ refSet cand ∨ u ∈ conf2 ∨ u ∈ cand.map (·.uuid) := by
  rcases mem_replRemoveSet.mp hu with h | h | ⟨c, hc, _, _, rfl⟩
  · -- missing ⊆ new references ⊆ references of the candidates
    split at h
    · cases h
    · exact .inl (mem_newRefs.mp (List.mem_filter.mp h).1).1
  · exact .inr (.inl h)
  · exact .inr (.inr (List.mem_map_of_mem hc))

/-- Liveness across `incremental_apply` and the conflict step: a live uuid stays live, or is a
conflict hit, or its candidate is no longer live; the last two are removed. -/
theorem isLive_repl {s s1 s2 : State} {cand : List Entry} {hit conf rm : List Nat} (hinv : Inv s)
    (hs1 : upsertAll s cand = s1) (hs2 : conflictState s1 hit = s2)
    (hrm : replRemoveSet s s2 cand (conf ++ hit) = rm) {r : Nat} (hr : isLive s r = true) :
    isLive s2 r = true ∨ r ∈ rm := by
  subst hs2
  have step2 : isLive s1 r = true → isLive (conflictState s1 hit) r = true ∨ r ∈ rm := by
    intro h1
    obtain ⟨x, hx, hxu, hxl⟩ := isLive_iff.mp h1
    by_cases hh : hit.contains r = true
    · exact .inr (hrm ▸ mem_replRemoveSet.mpr (.inr (.inl (List.mem_append_right _ (by simpa using hh)))))
    · refine .inl (isLive_iff.mpr ⟨_, List.mem_map_of_mem hx, ?_⟩)
      rw [hxu, if_neg hh]
      exact ⟨hxu, hxl⟩
  obtain ⟨x, hx, rfl, hxl⟩ := isLive_iff.mp hr
  cases hf : cand.reverse.find? (·.uuid == x.uuid) with
  | none => exact step2 (isLive_iff.mpr ⟨x, hs1 ▸ mem_upsertAll.mpr (by rw [hf]; exact hx), rfl, hxl⟩)
  | some c =>
    -- the last candidate with this uuid is what is stored now
    have hcu := List.find?_some hf
    rw [beq_iff_eq] at hcu
    by_cases hcl : c.st = .live
    · exact step2 (isLive_iff.mpr ⟨c, hs1 ▸ mem_upsertAll.mpr (by rw [hcu, hf]), hcu, hcl⟩)
    · have : (preOf s c).st = .live := by
        unfold preOf find; rw [hcu, Keyed.find_of_mem Entry.uuid hinv.1 hx]; exact hxl
      exact .inr (hrm ▸ mem_replRemoveSet.mpr (.inr (.inr
        ⟨c, List.mem_reverse.mp (List.mem_of_find?_eq_some hf), this, hcl, hcu⟩)))

theorem weakInv_repl {s s1 s2 : State} {cand : List Entry} {hit conf rm : List Nat} (hinv : Inv s)
    (hs1 : upsertAll s cand = s1) (hs2 : conflictState s1 hit = s2)
    (hrm : replRemoveSet s s2 cand (conf ++ hit) = rm) : WeakInv rm s2 := by
  have hlive := fun r => isLive_repl (r := r) hinv hs1 hs2 hrm
  subst hs2
  have hn2 : ((conflictState s1 hit).map (·.uuid)).Nodup :=
    Keyed.nodup_map Entry.uuid (f := fun x => if hit.contains x.uuid then toConflict x else x)
      (fun x _ => by split <;> rfl) (hs1 ▸ nodup_upsertAll hinv.1 cand)
  refine ⟨hn2, fun e2 he2 r hr => ?_⟩
  obtain ⟨e1, he1, _, hp⟩ := conflictState_entry he2
  rw [hp] at hr
  rcases of_mem_upsertAll (hs1 ▸ he1) with hc | hsm
  · -- a replicated candidate: the reference was on the entry it is merged over, or it is new
    by_cases hprev : r ∈ refSet (cand.map (preOf s))
    · obtain ⟨p, hp, hrp⟩ := mem_refSet.mp hprev
      obtain ⟨c, _, rfl⟩ := List.mem_map.mp hp
      rcases preOf_cases s c with h | h
      · exact hlive r (hinv.2 _ h r hrp)
      · simp [Entry.propRefs, h] at hrp
    · -- a new reference passed the fast check, or the slow check reports it missing
      have hnew : r ∈ newRefs (some (cand.map (preOf s))) cand :=
        mem_newRefs.mpr ⟨mem_refSet.mpr ⟨e1, hc, hr⟩, hprev⟩
      by_cases hf : existFast (conflictState s1 hit) (newRefs (some (cand.map (preOf s))) cand) = true
      · exact .inl (existFast_sound hn2 hf hnew)
      · exact (existSlow_complete (s := conflictState s1 hit) hnew).imp_right fun hm =>
          hrm ▸ mem_replRemoveSet.mpr (.inl (by rw [if_neg hf]; exact hm))
  · exact hlive r (hinv.2 e1 hsm r hr)

theorem inv_repl {s s' : State} (hinv : Inv s) {cand : List Entry} {conflicts : List Nat}
    (hok : stepOk s (.repl cand conflicts) = true) (h : opRepl s cand conflicts = .ok s') : Inv s' := by
  simp only [stepOk] at hok
  revert h
  fun_cases opRepl s cand conflicts with
  | case1 s1 hit s2 rm hempty => -- nothing to remove
    have hweak : WeakInv rm s2 := weakInv_repl hinv rfl rfl rfl
    refine fun h => Res.ok.inj h ▸ ?_
    exact ⟨hweak.1, fun e he r hr => (hweak.2 e he r hr).resolve_right
      (List.isEmpty_iff.mp hempty ▸ List.not_mem_nil)⟩
  | case2 s1 hit s2 rm _ s3 heq => -- swept
    rintro ⟨⟩
    refine removeReferences_some heq ▸ inv_removeRefs (weakInv_repl hinv rfl rfl rfl) fun e2 he2 p hp => ?_
    -- session ids avoid everything that can be removed
    obtain ⟨e1, he1, ha, _⟩ := conflictState_entry he2
    refine sidFree_of_all hok (fun u hu => ?_) e1 he1 p (ha ▸ hp)
    simp only [List.mem_append]
    rcases replRemoveSet_sub hu with h | h | h
    · exact .inl (.inl (.inr h))
    · exact (List.mem_append.mp h).elim (fun h => .inl (.inr h))
        fun h => .inl (.inl (.inl (conflictHits_sub _ _ _ h)))
    · exact .inr h
  | case3 => nofun -- the sweep met a schema violation

end Kanidm.Refint
