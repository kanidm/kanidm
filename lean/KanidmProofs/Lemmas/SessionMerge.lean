import KanidmModel.SessionMerge
import KanidmProofs.Lemmas.Pick
/-!
Maps as association lists seen through `lookup`, and the merge loop of the replicated value sets,
which per key is the choice `pick` of `Lemmas/Pick`; its algebra carried to maps (`core_comm`,
`core_assoc`, `core_idem`). On top of it: merge-then-trim (`filtMerge`; `Agrees` says a modelled
`repl_merge_valueset` is one) and the role choice of `Entry::merge_state` over any such function
(`attr_comm`, `attr_assoc`, `attr_idem`). What C34, C36 and C39 need of the session trim and of the
key-status order stands here too.
-/
namespace Kanidm.SessionMerge
open Kanidm.Gen.SessionOrd

variable {α : Type}

/-- The `BTreeMap` invariant: one value per key. -/
def KeysNodup (m : List (Nat × α)) : Prop := (m.map (·.1)).Nodup

/-- Observational equality: a `BTreeMap` is determined by its lookups, the list that stands for
it also has an order. -/
def SEq (m m' : List (Nat × α)) : Prop := ∀ k, lookup m k = lookup m' k

theorem lookup_eq_none_iff {m : List (Nat × α)} {k : Nat} : lookup m k = none ↔ k ∉ m.map (·.1) := by
  fun_induction lookup m k with
  | case1 => simp  -- empty map
  | case2 => simp  -- key at the head
  | case3 _ _ _ _ hk ih => simp [hk, ih]  -- other key at the head

theorem mem_of_lookup_eq_some {m : List (Nat × α)} {k : Nat} {v : α} (h : lookup m k = some v) :
    (k, v) ∈ m := by
  fun_induction lookup m k with
  | case1 => cases h  -- empty map
  | case2 => cases h; exact List.mem_cons_self  -- key at the head
  | case3 _ _ _ _ _ ih => exact List.mem_cons_of_mem _ (ih h)  -- other key at the head

theorem lookup_eq_none_iff_forall {m : List (Nat × α)} {k : Nat} : lookup m k = none ↔ ∀ v, (k, v) ∉ m := by
  refine ⟨fun h v hmem => lookup_eq_none_iff.mp h (List.mem_map.mpr ⟨(k, v), hmem, rfl⟩), fun h => ?_⟩
  cases hl : lookup m k with
  | none => rfl
  | some v => exact absurd (mem_of_lookup_eq_some hl) (h v)

theorem lookup_eq_some_of_mem {m : List (Nat × α)} (h : KeysNodup m) {k : Nat} {v : α}
    (hm : (k, v) ∈ m) : lookup m k = some v := by
  induction m with
  | nil => cases hm
  | cons hd tl ih =>
    obtain ⟨k', v'⟩ := hd
    have hnd : k' ∉ tl.map (·.1) ∧ KeysNodup tl := List.nodup_cons.1 h
    rcases List.mem_cons.1 hm with he | ht
    · cases he; simp [lookup]
    · have hk : k ≠ k' := fun hkk => hnd.1 (hkk ▸ List.mem_map.2 ⟨(k, v), ht, rfl⟩)
      simp [lookup, hk, ih hnd.2 ht]

theorem lookup_eq_some_iff {m : List (Nat × α)} (h : KeysNodup m) {k : Nat} {v : α} :
    lookup m k = some v ↔ (k, v) ∈ m := ⟨mem_of_lookup_eq_some, lookup_eq_some_of_mem h⟩

theorem lookup_perm {m m' : List (Nat × α)} (hp : m.Perm m') (h : KeysNodup m) (k : Nat) :
    lookup m k = lookup m' k := by
  have h' : KeysNodup m' := (hp.map _).nodup_iff.1 h
  apply Option.ext
  intro v
  rw [lookup_eq_some_iff h, lookup_eq_some_iff h', hp.mem_iff]

theorem lookup_map_val {β : Type} (f : Nat → α → β) (m : List (Nat × α)) (k : Nat) :
    lookup (m.map (fun e => (e.1, f e.1 e.2))) k = (lookup m k).map (f k) := by
  fun_induction lookup m k with
  | case1 => rfl  -- empty map
  | case2 => simp [lookup]  -- key at the head
  | case3 _ _ _ _ hk ih => simp only [List.map_cons, lookup, hk, if_false, ih]  -- other key at the head

theorem lookup_append_singleton (m : List (Nat × α)) (k : Nat) (v : α) (j : Nat) :
    lookup (m ++ [(k, v)]) j = (lookup m j).orElse fun _ => if j = k then some v else none := by
  fun_induction lookup m j with
  | case1 => simp [lookup]  -- empty map
  | case2 => simp [lookup]  -- key at the head
  | case3 _ _ _ _ hk ih => simp only [List.cons_append, lookup, hk, if_false, ih]  -- other key at the head

theorem keysNodup_filter (p : Nat × α → Bool) (m : List (Nat × α)) (h : KeysNodup m) :
    KeysNodup (m.filter p) := by
  unfold KeysNodup at *
  exact List.Sublist.nodup (List.Sublist.map _ List.filter_sublist) h

theorem lookup_filter_entry (p : Nat × α → Bool) (m : List (Nat × α)) (h : KeysNodup m) (k : Nat) :
    lookup (m.filter p) k = (lookup m k).filter (fun v => p (k, v)) := by
  apply Option.ext
  intro v
  rw [lookup_eq_some_iff (keysNodup_filter p m h), List.mem_filter, ← lookup_eq_some_iff h,
    Option.filter_eq_some_iff]

theorem lookup_filter (p : α → Bool) (m : List (Nat × α)) (h : KeysNodup m) (k : Nat) :
    lookup (m.filter (fun e => p e.2)) k = (lookup m k).filter p :=
  lookup_filter_entry (fun e => p e.2) m h k

/-- Without distinct keys one direction is left: a filter that keeps the value found under `k`
still finds it (what it drops in front of it had other keys). -/
theorem lookup_filter_keep {p : Nat × α → Bool} {m : List (Nat × α)} {k : Nat} {v : α}
    (h : lookup m k = some v) (hk : p (k, v) = true) : lookup (m.filter p) k = some v := by
  fun_induction lookup m k with
  | case1 => cases h  -- empty map
  | case2 => cases h; simp [hk, lookup]  -- key at the head
  | case3 k' v' _ _ hkk ih =>  -- other key at the head
    by_cases hv : p (k', v') = true
    · simp only [List.filter_cons, hv, if_true, lookup, hkk, if_false]
      exact ih h hk
    · simp only [List.filter_cons, hv, Bool.false_eq_true, if_false]
      exact ih h hk

/-- A `retain` that looks at the key only needs no distinct keys. -/
theorem lookup_filter_key (p : Nat → Bool) (m : List (Nat × α)) (j : Nat) :
    lookup (m.filter (fun e => p e.1)) j = if p j then lookup m j else none := by
  induction m with
  | nil => exact (ite_self _).symm
  | cons hd tl ih =>
    obtain ⟨k', v⟩ := hd
    rw [List.filter_cons]
    by_cases hj : j = k'
    · subst hj
      by_cases hp : p j = true <;> simp [hp, lookup, ih]
    · by_cases hp : p k' = true <;> simp [hp, lookup, hj, ih]

theorem foldl_lookup {β γ : Type} (step : β → Nat × α → β) (obs : β → γ) (upd : γ → α → γ) (j : Nat)
    (hstep : ∀ b e, obs (step b e) = if j = e.1 then upd (obs b) e.2 else obs b)
    (l : List (Nat × α)) (hl : KeysNodup l) (b : β) :
    obs (l.foldl step b) = match lookup l j with
                           | some v => upd (obs b) v
                           | none => obs b := by
  induction l generalizing b with
  | nil => rfl
  | cons hd tl ih =>
    obtain ⟨k, v⟩ := hd
    have hnd : k ∉ tl.map (·.1) ∧ KeysNodup tl := List.nodup_cons.1 hl
    rw [List.foldl_cons, ih hnd.2, hstep, lookup]
    by_cases hj : j = k
    · rw [hj, (lookup_eq_none_iff.2 hnd.1)]
      simp only [if_true]
    · simp only [hj, if_false]

theorem insertByKey_perm (e : Nat × α) (l : List (Nat × α)) : (insertByKey e l).Perm (e :: l) := by
  fun_induction insertByKey e l with
  | case1 => exact .refl _  -- empty list
  | case2 => exact .refl _  -- goes in front
  | case3 x _ _ ih => exact (ih.cons x).trans (List.Perm.swap _ _ _)  -- goes further down

theorem sortByKey_perm (m : List (Nat × α)) : (sortByKey m).Perm m := by
  induction m with
  | nil => exact .refl _
  | cons e tl ih => exact (insertByKey_perm e _).trans (ih.cons e)

theorem keysNodup_sortByKey {m : List (Nat × α)} (h : KeysNodup m) : KeysNodup (sortByKey m) :=
  ((sortByKey_perm m).map _).nodup_iff.2 h

theorem lookup_sortByKey {m : List (Nat × α)} (h : KeysNodup m) (k : Nat) :
    lookup (sortByKey m) k = lookup m k :=
  lookup_perm (sortByKey_perm m) (keysNodup_sortByKey h) k

theorem lookup_mergeOne (repl : α → α → Bool) (m : List (Nat × α)) (k : Nat) (v : α) (j : Nat) :
    lookup (mergeOne repl m k v) j =
      if j = k then pickOpt repl (lookup m k) (some v) else lookup m j := by
  fun_induction mergeOne repl m k v with
  | case1 k v => by_cases h : j = k <;> simp [lookup, h, pickOpt]  -- empty map
  | case2 v' tl k v => by_cases hj : j = k <;> simp [lookup, hj, pickOpt, pick]  -- key at the head
  | case3 k' v' tl k v hk ih =>  -- other key at the head
    by_cases hj : j = k
    · subst hj
      simpa [lookup, hk] using ih
    · by_cases hj' : j = k'
      · subst hj'
        simp [lookup, hj]
      · simp [lookup, hj, hj', ih]

theorem keys_mergeOne (repl : α → α → Bool) (m : List (Nat × α)) (k : Nat) (v : α) :
    (mergeOne repl m k v).map (·.1) =
      if k ∈ m.map (·.1) then m.map (·.1) else m.map (·.1) ++ [k] := by
  fun_induction mergeOne repl m k v with
  | case1 => rfl  -- empty map
  | case2 => simp only [List.map_cons, List.mem_cons, true_or, if_true]  -- key at the head
  | case3 k' v' tl k v hk ih =>  -- other key at the head
    by_cases hm : k ∈ tl.map (·.1)
    · simp only [List.map_cons, ih, hm, if_true, List.mem_cons, or_true]
    · simp only [List.map_cons, ih, hm, hk, if_false, List.mem_cons, or_false, List.cons_append]

theorem mem_keys_mergeOne (repl : α → α → Bool) (m : List (Nat × α)) (k : Nat) (v : α) (j : Nat) :
    j ∈ (mergeOne repl m k v).map (·.1) ↔ j ∈ m.map (·.1) ∨ j = k := by
  rw [keys_mergeOne]
  by_cases hm : k ∈ m.map (·.1)
  · simp only [hm, if_true]
    exact ⟨Or.inl, fun h => h.elim id (· ▸ hm)⟩
  · simp only [hm, if_false, List.mem_append, List.mem_singleton]

theorem mem_keys_coreMerge (repl : α → α → Bool) (a b : List (Nat × α)) (j : Nat) :
    j ∈ (coreMerge repl a b).map (·.1) ↔ j ∈ a.map (·.1) ∨ j ∈ b.map (·.1) := by
  unfold coreMerge
  induction b generalizing a with
  | nil => simp
  | cons hd tl ih =>
    simp only [List.foldl_cons, List.map_cons, List.mem_cons, ih, mem_keys_mergeOne, or_assoc]

theorem keysNodup_mergeOne (repl : α → α → Bool) (m : List (Nat × α)) (k : Nat) (v : α)
    (h : KeysNodup m) : KeysNodup (mergeOne repl m k v) := by
  unfold KeysNodup at *
  rw [keys_mergeOne]
  by_cases hm : k ∈ m.map (·.1)
  · simpa [hm] using h
  · simp only [hm, if_false]
    rw [List.nodup_append]
    refine ⟨h, by simp, ?_⟩
    intro a ha b hb
    simp only [List.mem_singleton] at hb
    subst hb
    intro hab; subst hab; exact hm ha

theorem length_mergeOne_le (repl : α → α → Bool) (m : List (Nat × α)) (k : Nat) (v : α) :
    (mergeOne repl m k v).length ≤ m.length + 1 := by
  fun_induction mergeOne repl m k v <;> simp only [List.length_cons, List.length_nil] <;> omega

theorem keysNodup_coreMerge (repl : α → α → Bool) (newer older : List (Nat × α))
    (h : KeysNodup newer) : KeysNodup (coreMerge repl newer older) :=
  older.foldlRecOn _ h (motive := KeysNodup) fun m hm e _ => keysNodup_mergeOne repl m e.1 e.2 hm

theorem length_coreMerge_le (repl : α → α → Bool) (newer older : List (Nat × α)) :
    (coreMerge repl newer older).length ≤ newer.length + older.length := by
  unfold coreMerge
  induction older generalizing newer with
  | nil => simp
  | cons hd tl ih =>
    have h1 := ih (mergeOne repl newer hd.1 hd.2)
    have h2 := length_mergeOne_le repl newer hd.1 hd.2
    simp only [List.foldl_cons, List.length_cons] at *
    omega

/-- Only the *older* map needs distinct keys. -/
theorem lookup_coreMerge (repl : α → α → Bool) (newer older : List (Nat × α))
    (ho : KeysNodup older) (j : Nat) :
    lookup (coreMerge repl newer older) j = pickOpt repl (lookup newer j) (lookup older j) := by
  unfold coreMerge
  rw [foldl_lookup _ (lookup · j) (fun x v => pickOpt repl x (some v)) j _ older ho]
  · cases lookup older j <;> simp
  · intro m e
    by_cases h : j = e.1 <;> simp [lookup_mergeOne, h]

/-- Under no key do the two maps hold distinct values that the replace test cannot tell apart. -/
def TieMaps (repl : α → α → Bool) (a b : List (Nat × α)) : Prop :=
  ∀ k, TieOpt repl (lookup a k) (lookup b k)

theorem TieMaps.symm {repl : α → α → Bool} {a b : List (Nat × α)} (t : TieMaps repl a b) :
    TieMaps repl b a := fun k => (t k).symm

theorem core_comm {repl : α → α → Bool} (h : StrictWeak repl) (a b : List (Nat × α))
    (ha : KeysNodup a) (hb : KeysNodup b) (t : TieMaps repl a b) :
    SEq (coreMerge repl a b) (coreMerge repl b a) := by
  intro k
  rw [lookup_coreMerge _ _ _ hb, lookup_coreMerge _ _ _ ha]
  exact pickOpt_comm h _ _ (t k)

theorem core_assoc {repl : α → α → Bool} (h : StrictWeak repl) (a b c : List (Nat × α))
    (hb : KeysNodup b) (hc : KeysNodup c) :
    SEq (coreMerge repl (coreMerge repl a b) c) (coreMerge repl a (coreMerge repl b c)) := by
  intro k
  rw [lookup_coreMerge _ _ _ hc, lookup_coreMerge _ _ _ hb,
    lookup_coreMerge _ _ _ (keysNodup_coreMerge _ _ _ hb), lookup_coreMerge _ _ _ hc]
  exact pickOpt_assoc h _ _ _

theorem core_idem {repl : α → α → Bool} (h : StrictWeak repl) (a : List (Nat × α))
    (ha : KeysNodup a) : SEq (coreMerge repl a a) a := by
  intro k
  rw [lookup_coreMerge _ _ _ ha]
  exact pickOpt_idem h _

/-- `repl_merge_valueset` = merge loop, then `retain(keep)`. -/
def filtMerge (repl : α → α → Bool) (keep : α → Bool) (n o : List (Nat × α)) : List (Nat × α) :=
  (coreMerge repl n o).filter (fun e => keep e.2)

theorem lookup_filtMerge (repl : α → α → Bool) (keep : α → Bool) (n o : List (Nat × α))
    (hn : KeysNodup n) (ho : KeysNodup o) (k : Nat) :
    lookup (filtMerge repl keep n o) k = (pickOpt repl (lookup n k) (lookup o k)).filter keep := by
  unfold filtMerge
  rw [lookup_filter keep _ (keysNodup_coreMerge _ _ _ hn), lookup_coreMerge _ _ _ ho]

theorem keysNodup_filtMerge (repl : α → α → Bool) (keep : α → Bool) (n o : List (Nat × α))
    (hn : KeysNodup n) : KeysNodup (filtMerge repl keep n o) :=
  keysNodup_filter _ _ (keysNodup_coreMerge _ _ _ hn)

theorem length_filtMerge_le (repl : α → α → Bool) (keep : α → Bool) (n o : List (Nat × α)) :
    (filtMerge repl keep n o).length ≤ n.length + o.length :=
  Nat.le_trans (List.length_filter_le _ _) (length_coreMerge_le _ _ _)

/-- Nothing in the map is past the trim window. -/
def AllKeep (keep : α → Bool) (m : List (Nat × α)) : Prop :=
  ∀ k v, lookup m k = some v → keep v = true

def KeepOpt (keep : α → Bool) (x : Option α) : Prop := ∀ v, x = some v → keep v = true

theorem keepOpt_pickOpt {repl : α → α → Bool} {keep : α → Bool} {x y : Option α}
    (hx : KeepOpt keep x) (hy : KeepOpt keep y) : KeepOpt keep (pickOpt repl x y) := by
  rcases pickOpt_mem repl x y with h | h <;> rw [h] <;> assumption

theorem filter_of_keepOpt {keep : α → Bool} {x : Option α} (hx : KeepOpt keep x) :
    x.filter keep = x := by
  cases x with
  | none => rfl
  | some v => simp [Option.filter, hx v rfl]

theorem keepOpt_filter (keep : α → Bool) (x : Option α) : KeepOpt keep (x.filter keep) :=
  fun _ hv => (Option.filter_eq_some_iff.1 hv).2

theorem tieOpt_filter_pickOpt {repl : α → α → Bool} {keep : α → Bool} {x y z : Option α}
    (txz : TieOpt repl x z) (tyz : TieOpt repl y z) :
    TieOpt repl ((pickOpt repl x y).filter keep) z := by
  intro a b ha hb
  have hmem := Option.eq_some_of_filter_eq_some ha
  rcases pickOpt_mem repl x y with h | h
  · exact txz a b (h ▸ hmem) hb
  · exact tyz a b (h ▸ hmem) hb

theorem keepSess_eq_false {tr : Nat → Nat → Bool} {t : Nat} {s : Sess} :
    keepSess tr t s = false ↔ ∃ c, s.state = .revokedAt c ∧ tr c t = true := by
  unfold keepSess
  cases s.state <;> simp

theorem keepSess_of_fresh {tr : Nat → Nat → Bool} (htr : ∀ c t, tr c t = true ↔ c < t) {t : Nat}
    {s : Sess} (h : ∀ c, s.state = .revokedAt c → ¬ c < t) : keepSess tr t s = true := by
  cases hk : keepSess tr t s with
  | true => rfl
  | false =>
    obtain ⟨c, hs, htc⟩ := keepSess_eq_false.1 hk
    exact absurd ((htr c t).1 htc) (h c hs)

theorem forceTrim_id (m : SMap) (h : m.length ≤ sessionMaximum) : forceTrim m = m := by
  unfold forceTrim
  simp [Nat.not_lt.mpr h]

theorem sessTrimAll_eq {t : Nat} {m : SMap} (h : m.length ≤ sessionMaximum) :
    sessTrimAll t m = trimRevoked sessTrim t m :=
  forceTrim_id _ (Nat.le_trans (List.length_filter_le _ _) h)

theorem mem_sessTrimAll {t : Nat} {m : SMap} {x : Nat × Sess} (h : x ∈ sessTrimAll t m) : x ∈ m := by
  unfold sessTrimAll forceTrim at h
  split at h
  · exact (List.mem_filter.mp (List.mem_filter.mp h).1).1
  · exact (List.mem_filter.mp h).1

/-- `f` is merge-then-trim on all inputs of total size ≤ `B` (for sessions `B = SESSION_MAXIMUM`,
below which the forced trim is the identity; for the others `B` is arbitrary). -/
def Agrees (repl : α → α → Bool) (keep : α → Bool)
    (f : List (Nat × α) → List (Nat × α) → Nat → List (Nat × α)) (t B : Nat) : Prop :=
  ∀ n o, n.length + o.length ≤ B → f n o t = filtMerge repl keep n o

theorem sessReplMerge_agrees (t : Nat) :
    Agrees sessRepl (keepSess sessTrim t) sessReplMerge t sessionMaximum :=
  fun _ _ h => sessTrimAll_eq (Nat.le_trans (length_coreMerge_le _ _ _) h)

theorem o2ReplMerge_agrees (t B : Nat) : Agrees o2Repl (keepSess o2Trim t) o2ReplMerge t B :=
  fun _ _ _ => rfl

theorem keyReplMerge_agrees (t B : Nat) : Agrees keyRepl (keepKey t) keyReplMerge t B :=
  fun _ _ _ => rfl

/-- `Revoked` has the highest rank: under a replace test that compares the rank of a key status
(the key merge of C11, both merges of C34) a revoked input leaves a revoked pick. -/
theorem pickOpt_revoked {st : α → KeyStatus} {repl : α → α → Bool}
    (hrepl : ∀ o n, repl o n = decide ((st o).rank > (st n).rank)) {x y : Option α}
    (h : (∃ r, x = some r ∧ st r = .revoked) ∨ (∃ r, y = some r ∧ st r = .revoked)) :
    ∃ r', pickOpt repl x y = some r' ∧ st r' = .revoked := by
  obtain ⟨r, hr, hrev⟩ : ∃ r, (x = some r ∨ y = some r) ∧ st r = .revoked := by
    rcases h with ⟨r, hr, hrev⟩ | ⟨r, hr, hrev⟩
    · exact ⟨r, Or.inl hr, hrev⟩
    · exact ⟨r, Or.inr hr, hrev⟩
  have sw : StrictWeak repl :=
    ⟨fun a b => by simp only [hrepl, decide_eq_true_eq, decide_eq_false_iff_not]; omega,
      fun a b c => by simp only [hrepl, decide_eq_false_iff_not]; omega⟩
  -- the pick is an input that the revoked one does not replace: its rank is no lower
  obtain ⟨p, hp, _, hmax⟩ := pickOpt_max sw hr
  rw [hrepl, hrev] at hmax
  exact ⟨p, hp, by cases hs : st p <;> simp [hs, KeyStatus.rank] at hmax ⊢⟩

theorem takeLeft_cases (a b : Nat) :
    (takeLeft a b = true → b ≤ a) ∧ (takeLeft a b = false → a ≤ b) := by
  unfold takeLeft
  constructor <;> intro h <;> simp at h <;> omega

section Attr
variable {repl : α → α → Bool} {keep : α → Bool}
variable {f : List (Nat × α) → List (Nat × α) → Nat → List (Nat × α)} {t B : Nat}

/-- The newer side becomes `self` of `f` and lends its cid. -/
theorem attr_cases {β : Type} (f : β → β → Nat → β) (t : Nat) (l r : Nat × β) :
    (attrMerge f t l r = (l.1, f l.2 r.2 t) ∧ r.1 ≤ l.1) ∨
      (attrMerge f t l r = (r.1, f r.2 l.2 t) ∧ l.1 ≤ r.1) := by
  unfold attrMerge
  cases h : takeLeft l.1 r.1
  · exact Or.inr ⟨if_neg Bool.false_ne_true, (takeLeft_cases l.1 r.1).2 h⟩
  · exact Or.inl ⟨if_pos rfl, (takeLeft_cases l.1 r.1).1 h⟩

theorem attr_fst (l r : Nat × List (Nat × α)) :
    (attrMerge f t l r).1 = max l.1 r.1 := by
  rcases attr_cases f t l r with ⟨e, h⟩ | ⟨e, h⟩ <;> rw [e] <;> simp only <;> omega

theorem attr_snd (hf : Agrees repl keep f t B) (l r : Nat × List (Nat × α))
    (hB : l.2.length + r.2.length ≤ B) :
    (attrMerge f t l r).2 = filtMerge repl keep l.2 r.2 ∨
      (attrMerge f t l r).2 = filtMerge repl keep r.2 l.2 := by
  rcases attr_cases f t l r with ⟨e, _⟩ | ⟨e, _⟩
  · exact Or.inl (e ▸ hf _ _ hB)
  · exact Or.inr (e ▸ hf _ _ (Nat.add_comm _ _ ▸ hB))

/-- Under ties the map does not depend on which side was newer: per key, pick then trim. -/
theorem lookup_attr (hs : StrictWeak repl) (hf : Agrees repl keep f t B)
    (l r : Nat × List (Nat × α)) (hl : KeysNodup l.2) (hr : KeysNodup r.2)
    (tie : TieMaps repl l.2 r.2) (hB : l.2.length + r.2.length ≤ B) (k : Nat) :
    lookup (attrMerge f t l r).2 k = (pickOpt repl (lookup l.2 k) (lookup r.2 k)).filter keep := by
  rcases attr_snd hf l r hB with e | e
  · rw [e, lookup_filtMerge _ _ _ _ hl hr]
  · rw [e, lookup_filtMerge _ _ _ _ hr hl, pickOpt_comm hs _ _ (tie.symm k)]

theorem attr_nodup (hf : Agrees repl keep f t B)
    (l r : Nat × List (Nat × α)) (hl : KeysNodup l.2) (hr : KeysNodup r.2)
    (hB : l.2.length + r.2.length ≤ B) : KeysNodup (attrMerge f t l r).2 := by
  rcases attr_snd hf l r hB with e | e <;> rw [e]
  · exact keysNodup_filtMerge _ _ _ _ hl
  · exact keysNodup_filtMerge _ _ _ _ hr

theorem attr_length (hf : Agrees repl keep f t B)
    (l r : Nat × List (Nat × α)) (hB : l.2.length + r.2.length ≤ B) :
    (attrMerge f t l r).2.length ≤ l.2.length + r.2.length := by
  rcases attr_snd hf l r hB with e | e <;> rw [e]
  · exact length_filtMerge_le _ _ _ _
  · exact Nat.add_comm _ _ ▸ length_filtMerge_le repl keep r.2 l.2

theorem attr_comm (hs : StrictWeak repl) (hf : Agrees repl keep f t B)
    (l r : Nat × List (Nat × α)) (hl : KeysNodup l.2) (hr : KeysNodup r.2)
    (tie : TieMaps repl l.2 r.2) (hB : l.2.length + r.2.length ≤ B) :
    (attrMerge f t l r).1 = (attrMerge f t r l).1 ∧
      SEq (attrMerge f t l r).2 (attrMerge f t r l).2 := by
  refine ⟨by rw [attr_fst, attr_fst, Nat.max_comm], fun k => ?_⟩
  rw [lookup_attr hs hf l r hl hr tie hB, pickOpt_comm hs _ _ (tie k),
    lookup_attr hs hf r l hr hl tie.symm (Nat.add_comm _ _ ▸ hB)]

theorem attr_idem (hs : StrictWeak repl) (hf : Agrees repl keep f t B)
    (l : Nat × List (Nat × α)) (hl : KeysNodup l.2) (hk : AllKeep keep l.2)
    (hB : l.2.length + l.2.length ≤ B) :
    (attrMerge f t l l).1 = l.1 ∧ SEq (attrMerge f t l l).2 l.2 := by
  refine ⟨by rw [attr_fst, Nat.max_self], fun k => ?_⟩
  have tie : TieMaps repl l.2 l.2 := fun k x y hx hy _ _ => Option.some.inj (hx ▸ hy)
  rw [lookup_attr hs hf l l hl hl tie hB, pickOpt_idem hs]
  exact filter_of_keepOpt (hk k)

theorem attr_assoc (hs : StrictWeak repl) (hf : Agrees repl keep f t B)
    (a b c : Nat × List (Nat × α))
    (ha : KeysNodup a.2) (hb : KeysNodup b.2) (hc : KeysNodup c.2)
    (ka : AllKeep keep a.2) (kb : AllKeep keep b.2) (kc : AllKeep keep c.2)
    (tab : TieMaps repl a.2 b.2) (tbc : TieMaps repl b.2 c.2) (tac : TieMaps repl a.2 c.2)
    (hB : a.2.length + b.2.length + c.2.length ≤ B) :
    (attrMerge f t (attrMerge f t a b) c).1 = (attrMerge f t a (attrMerge f t b c)).1 ∧
      SEq (attrMerge f t (attrMerge f t a b) c).2 (attrMerge f t a (attrMerge f t b c)).2 := by
  refine ⟨by simp only [attr_fst, Nat.max_assoc], fun k => ?_⟩
  have nab := attr_nodup hf a b ha hb (by omega)
  have nbc := attr_nodup hf b c hb hc (by omega)
  have lab := attr_length hf a b (by omega)
  have lbc := attr_length hf b c (by omega)
  have sab := lookup_attr hs hf a b ha hb tab (by omega)
  have sbc := lookup_attr hs hf b c hb hc tbc (by omega)
  -- the inner results still tie with the third map: they hold values of their inputs
  have t1 : TieMaps repl (attrMerge f t a b).2 c.2 := fun j => by
    rw [sab j]; exact tieOpt_filter_pickOpt (tac j) (tbc j)
  have t2 : TieMaps repl a.2 (attrMerge f t b c).2 := fun j => by
    rw [sbc j]; exact (tieOpt_filter_pickOpt (tab.symm j) (tac.symm j)).symm
  -- nothing is past the trim window, so every trim is the identity
  have kab := keepOpt_pickOpt (repl := repl) (ka k) (kb k)
  have kbc := keepOpt_pickOpt (repl := repl) (kb k) (kc k)
  rw [lookup_attr hs hf _ c nab hc t1 (by omega), sab k, filter_of_keepOpt kab,
    filter_of_keepOpt (keepOpt_pickOpt kab (kc k)),
    lookup_attr hs hf a _ ha nbc t2 (by omega), sbc k, filter_of_keepOpt kbc,
    filter_of_keepOpt (keepOpt_pickOpt (ka k) kbc), pickOpt_assoc hs]

end Attr

end Kanidm.SessionMerge
