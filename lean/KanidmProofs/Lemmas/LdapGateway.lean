import KanidmModel.LdapGateway
import KanidmProofs.Lemmas.Ite
import KanidmProofs.Lemmas.ListFold
import KanidmProofs.Lemmas.Keyed
/-!
For C40.  A request changes nothing because every transaction a handler opens is a read transaction
(`runHandler_id`).  A successful bind is one of the five rows of `Bound` (`doBind_ok`), each identity builder
grants what its `_ok` lemma says, and a search or compare answers with an identity (`Outcome.ident`) only
after `validateLdapSession` has produced it on the connection's token, or on the anonymous token of the
implicit bind (`readOn`, `handleRequest_ident`).  Facts about the generated tables are proved with the tables
unfolded, so an edit of the source that changes a table re-runs them on the new table.
-/

namespace Kanidm.Ldap
open Kanidm.Ldap.Gen

theorem handler_txns_read (h : Handler) (t : TxnCtor) (ht : t ∈ handlerTxns h) : txnQs t = .read := by
  cases h <;> simp [handlerTxns] at ht <;> subst ht <;> rfl

theorem commitTxn_read {DB Mod : Type} (apply : DB → Mod → DB) (db : DB) (mods : List Mod) :
    commitTxn apply db .read mods = db := rfl

theorem runHandler_id {DB Mod : Type} (apply : DB → Mod → DB) (beh : Behaviour DB Mod) (w : World)
    (m : Msg) (db : DB) (h : Handler) : runHandler apply beh w m db h = db := by
  unfold runHandler
  apply foldl_const
  intro a t ht
  rw [handler_txns_read h t ht]
  exact commitTxn_read apply a _

theorem step_session (c : Conn) (w : World) (m : Msg) :
    (c.step w m).1.session =
      (match (c.step w m).2.1.token with | some t => some t | none => c.session) := by
  unfold Conn.step
  generalize handleRequest w c.session m = r
  obtain ⟨o, d⟩ := r
  cases o <;> first | rfl | (rename_i i; cases i <;> rfl)

theorem step_closed (c : Conn) (w : World) (m : Msg) :
    (c.step w m).1.closed = (respEffect (c.step w m).2.1.kind).2 := by
  unfold Conn.step
  generalize handleRequest w c.session m = r
  obtain ⟨o, d⟩ := r
  rfl

theorem acct_uuid {w : World} {u : Nat} {a : Acct} (h : w.acct u = some a) : a.uuid = u :=
  (Keyed.find_some Acct.uuid h).2

@[simp] theorem mkSession_anonymous (w : World) (a : Nat) (t : Option TokenInfo) :
    mkSession .anonymous w a t = .unixBind w.anonymous := by
  simp [mkSession, bindSession, bindSessionIsAnonymousConst]
@[simp] theorem mkSession_unix (w : World) (a : Nat) (t : Option TokenInfo) :
    mkSession .unix w a t = .unixBind a := by
  simp [mkSession, bindSession, bindSessionIsAnonymousConst]
@[simp] theorem mkSession_application (w : World) (a : Nat) (t : Option TokenInfo) :
    mkSession .application w a t = .unixBind a := by
  simp [mkSession, bindSession, bindSessionIsAnonymousConst]
@[simp] theorem mkSession_uat (w : World) (x a s : Nat) (e : Option Nat) (pu : UatPurpose) :
    mkSession .tokenUat w x (some (.uat a s e pu)) = .userAuthToken a s e pu := by
  simp [mkSession, bindSession]
@[simp] theorem mkSession_apit (w : World) (x a t i : Nat) (e : Option Nat) (pu : ApiPurpose) :
    mkSession .tokenApi w x (some (.apit a t i e pu)) = .apiToken a t i e pu := by
  simp [mkSession, bindSession]

/-- The ways a bind hands out a token, by the target its DN names (`sl`: the soft lock's verdict): the
token, and the delayed actions `ds` queued with it.  One constructor per accepting arm of `auth_ldap`,
`application_auth_ldap` and `token_auth_ldap`. -/
inductive Bound (w : World) (pw : Nat) :
    BindTarget → Bool → Token → List (DelayedKind × Nat × Nat) → Prop
  | anonymous {a : Acct} {sl : Bool} {ds} (hacct : w.acct w.anonymous = some a)
      (hisAcct : a.isAccount = true) (hvalid : a.withinValidTime w.ct = true) (hds : ds = []) :
      Bound w pw (.account w.anonymous) sl ⟨w.anonymous, .unixBind w.anonymous⟩ ds
  | unix {u : Nat} {a : Acct} {ds} (hne : u ≠ w.anonymous) (hflag : w.allowUnixPwBind = true)
      (hacct : w.acct u = some a) (hisAcct : a.isAccount = true) (hvalid : a.withinValidTime w.ct = true)
      (hpw : a.unixPw = some pw)
      (hds : ds = (if a.unixNeedsUpgrade then [(.unixPwUpgrade, u, pw)] else [])) :
      Bound w pw (.account u) false ⟨u, .unixBind u⟩ ds
  | application {n : List Char} {u : Nat} {a : Acct} {app : App} {sl : Bool} {ds}
      (hacct : w.acct u = some a) (hisAcct : a.isAccount = true) (hne : u ≠ w.anonymous)
      (hvalid : a.withinValidTime w.ct = true) (happ : w.apps.find? (·.name == n) = some app)
      (hmember : app.linkedGroup ∈ a.memberOf) (hpw : (app.uuid, pw) ∈ a.appPws) (hds : ds = []) :
      Bound w pw (.application n u) sl ⟨u, .unixBind u⟩ ds
  | uat {a s : Nat} {e : Option Nat} {pu : UatPurpose} {id : Ident} {sl : Bool} {ds}
      (htoken : lookup pw w.tokens = some (.uat a s e pu)) (hlive : ∀ x, e = some x → w.ct < x)
      (hident : processUat w a s pu = .ok id) (hds : ds = []) :
      Bound w pw .apiToken sl ⟨a, .userAuthToken a s e pu⟩ ds
  | apit {a ti i : Nat} {e : Option Nat} {pu : ApiPurpose} {id : Ident} {sl : Bool} {ds}
      (htoken : lookup pw w.tokens = some (.apit a ti i e pu)) (hlive : ∀ x, e = some x → w.ct < x)
      (hexists : (w.acct a).isSome = true) (hident : processApit w a ti i pu = .ok id) (hds : ds = []) :
      Bound w pw .apiToken sl ⟨a, .apiToken a ti i e pu⟩ ds

theorem authWithUnixPass_some {w : World} {id pw : Nat} {sl : Bool} {a : Acct} {up : Bool}
    (h : authWithUnixPass w id pw sl = (.ok (some a), up)) :
    w.acct id = some a ∧ a.isAccount = true ∧ a.withinValidTime w.ct = true ∧ a.unixPw = some pw ∧
      sl = false ∧ up = a.unixNeedsUpgrade := by
  revert h
  fun_cases authWithUnixPass w id pw sl
  case case7 => rintro ⟨⟩; simp_all  -- the one arm that returns an account
  all_goals nofun

theorem authLdap_ok {w : World} {u pw : Nat} {sl : Bool} {t : Token}
    (h : (authLdap w u pw sl).res = .ok (some t)) :
    Bound w pw (.account u) sl t (authLdap w u pw sl).delayed := by
  revert h
  fun_cases authLdap w u pw sl
  case case4 hu a ha h2 h3 =>  -- the anonymous account, inside its window
    rintro ⟨⟩
    obtain rfl : u = w.anonymous := by simpa [anonymousTestIsUuidEq] using hu
    rw [acct_uuid ha, mkSession_anonymous]
    exact .anonymous ha (by simpa using h2) (by simpa using h3) rfl
  case case8 hu hf a up hp =>  -- `auth_with_unix_pass` returned the account
    rintro ⟨⟩
    obtain ⟨ha, h2, h3, h4, rfl, rfl⟩ := authWithUnixPass_some hp
    rw [acct_uuid ha, mkSession_unix]
    exact .unix (by simpa [anonymousTestIsUuidEq] using hu) (by simpa [unixFlagGuard] using hf) ha h2 h3 h4 rfl
  all_goals nofun

theorem authLdap_flag_off {w : World} {target pw : Nat} {sl : Bool}
    (hf : w.allowUnixPwBind = false) (ht : target ≠ w.anonymous) :
    (authLdap w target pw sl).res = .ok none ∧ (authLdap w target pw sl).delayed = [] := by
  have hne : (target == w.anonymous) = false := by simpa using ht
  simp [authLdap, anonymousTestIsUuidEq, hne, unixFlagGuard, hf]

theorem authLdap_delayed {w : World} {target pw : Nat} {sl : Bool} {d : DelayedKind × Nat × Nat}
    (hd : d ∈ (authLdap w target pw sl).delayed) : ∃ t, (authLdap w target pw sl).res = .ok (some t) := by
  revert hd
  fun_cases authLdap w target pw sl
  case case8 => exact fun _ => ⟨_, rfl⟩  -- `auth_with_unix_pass` returned the account: the one arm that queues
  all_goals nofun

theorem tokenGate_delayed (r : Except Err Ident) (t : Token) : (tokenGate r t).delayed = [] := by
  cases r <;> rfl

theorem tokenGate_ok {r : Except Err Ident} {t t' : Token} (h : (tokenGate r t).res = .ok (some t')) :
    t = t' ∧ ∃ id, r = .ok id := by
  cases r with
  | error e => cases h
  | ok id => cases h; exact ⟨rfl, id, rfl⟩

theorem uatExpired_eq_false {w : World} {e : Option Nat} :
    uatExpired w e = false ↔ ∀ x, e = some x → w.ct < x := by
  cases e <;> simp [uatExpired]

theorem apitExpired_eq_false {w : World} {e : Option Nat} :
    apitExpired w e = false ↔ ∀ x, e = some x → w.ct < x := by
  cases e <;> simp [apitExpired]

theorem tokenAuthLdap_delayed (w : World) (pw : Nat) : (tokenAuthLdap w pw).delayed = [] := by
  fun_cases tokenAuthLdap w pw
  all_goals first | rfl | exact tokenGate_delayed _ _

theorem applicationAuthLdap_delayed (w : World) (n : List Char) (u pw : Nat) :
    (applicationAuthLdap w n u pw).delayed = [] := by
  fun_cases applicationAuthLdap w n u pw <;> rfl

theorem tokenAuthLdap_ok {w : World} {pw : Nat} {t : Token} (sl : Bool)
    (h : (tokenAuthLdap w pw).res = .ok (some t)) :
    Bound w pw .apiToken sl t (tokenAuthLdap w pw).delayed := by
  revert h
  fun_cases tokenAuthLdap w pw
  case case3 a s e pu hl he =>  -- an unexpired UAT
    intro h
    obtain ⟨rfl, id, hid⟩ := tokenGate_ok h
    rw [mkSession_uat]
    exact .uat hl (uatExpired_eq_false.mp (by simpa using he)) (by simpa [tokenBindValidatesUat] using hid)
      (tokenGate_delayed ..)
  case case6 a ti i e pu hl he acc hacc =>  -- an unexpired api token of an existing account
    intro h
    obtain ⟨rfl, id, hid⟩ := tokenGate_ok h
    rw [mkSession_apit]
    exact .apit hl (apitExpired_eq_false.mp (by simpa using he)) (by rw [hacc]; rfl)
      (by simpa [tokenBindValidatesApit] using hid) (tokenGate_delayed ..)
  all_goals nofun

theorem runAppChecks_cons (w : World) (a : Acct) (n : List Char) (pw : Nat) (c : AppCheck)
    (rest : List AppCheck) :
    runAppChecks w a n pw (c :: rest) = (appCheck w a n pw c).getD (runAppChecks w a n pw rest) := by
  cases h : appCheck w a n pw c <;> simp [runAppChecks, h]

theorem getD_ite {α : Type} {c : Prop} [Decidable c] (o₁ o₂ : Option α) (y : α) :
    (if c then o₁ else o₂).getD y = if c then o₁.getD y else o₂.getD y := by
  split <;> rfl

theorem applicationAuthLdap_ok {w : World} {appName : List Char} {usr pw : Nat} {t : Token}
    (h : (applicationAuthLdap w appName usr pw).res = .ok (some t)) :
    ∃ a app, w.acct usr = some a ∧ a.isAccount = true ∧ usr ≠ w.anonymous ∧
      a.withinValidTime w.ct = true ∧ w.apps.find? (·.name == appName) = some app ∧
      a.memberOf.contains app.linkedGroup = true ∧
      a.appPws.any (fun p => p.1 == app.uuid && p.2 == pw) = true ∧
      t = ⟨usr, .unixBind usr⟩ := by
  revert h
  fun_cases applicationAuthLdap w appName usr pw
  case case3 a ha hacc =>  -- an existing account: the generated checks decide
    intro h
    replace h : runAppChecks w a appName pw appBindChecks = .ok (some t) := h
    have hu := acct_uuid ha
    cases happ : w.apps.find? (·.name == appName) with
    | none => simp [appBindChecks, runAppChecks_cons, appCheck, happ, getD_ite, ite_error_eq_ok] at h
    | some app =>
      -- the five checks, in order, become one chain of guards
      simp only [appBindChecks, runAppChecks_cons, appCheck, happ, appMemberOfReadsLinkedGroup,
        Bool.true_and, getD_ite, Option.getD_some, Option.getD_none, ite_error_eq_ok,
        Option.isNone_some, Bool.false_eq_true, if_false] at h
      obtain ⟨h1, h2, h⟩ := h
      obtain ⟨h3, h⟩ := of_ite_eq h (by simp)
      rcases ite_eq_cases h with ⟨h4, ht⟩ | ⟨_, ht⟩
      · cases ht
        exact ⟨a, app, ha, by simpa using hacc, by simpa [hu] using h1, by simpa using h2, rfl,
          by simpa using h3, h4, by rw [hu, mkSession_application]⟩
      · cases ht
  all_goals nofun

theorem applicationAuthLdap_bound {w : World} {n : List Char} {u pw : Nat} {t : Token} (sl : Bool)
    (h : (applicationAuthLdap w n u pw).res = .ok (some t)) :
    Bound w pw (.application n u) sl t (applicationAuthLdap w n u pw).delayed := by
  obtain ⟨a, app, h1, h2, h3, h4, h5, h6, h7, rfl⟩ := applicationAuthLdap_ok h
  refine .application h1 h2 h3 h4 h5 (by simpa using h6) ?_ (applicationAuthLdap_delayed ..)
  obtain ⟨⟨x, y⟩, hm, hxy⟩ := List.any_eq_true.mp h7
  simp only [Bool.and_eq_true, beq_iff_eq] at hxy
  exact hxy.1 ▸ hxy.2 ▸ hm

theorem doBind_account {w : World} {dn : List Char} {pw u : Nat} (sl : Bool)
    (hb : bindTarget w dn pw = .ok (.account u)) : doBind w dn pw sl = authLdap w u pw sl := by
  rw [doBind, hb]

theorem doBind_apiToken {w : World} {dn : List Char} {pw : Nat} (sl : Bool)
    (hb : bindTarget w dn pw = .ok .apiToken) : doBind w dn pw sl = tokenAuthLdap w pw := by
  rw [doBind, hb]

theorem doBind_application {w : World} {dn a : List Char} {pw u : Nat} (sl : Bool)
    (hb : bindTarget w dn pw = .ok (.application a u)) :
    doBind w dn pw sl = applicationAuthLdap w a u pw := by
  rw [doBind, hb]

theorem doBind_target {w : World} {dn : List Char} {pw : Nat} {sl : Bool} {t : Token}
    (h : (doBind w dn pw sl).res = .ok (some t)) : ∃ tgt, bindTarget w dn pw = .ok tgt := by
  cases hb : bindTarget w dn pw with
  | error e => rw [doBind, hb] at h; cases h
  | ok tgt => exact ⟨tgt, rfl⟩

theorem doBind_ok {w : World} {dn : List Char} {pw : Nat} {sl : Bool} {t : Token} {tgt : BindTarget}
    (hb : bindTarget w dn pw = .ok tgt) (h : (doBind w dn pw sl).res = .ok (some t)) :
    Bound w pw tgt sl t (doBind w dn pw sl).delayed := by
  cases tgt with
  | account u => rw [doBind_account sl hb] at h ⊢; exact authLdap_ok h
  | apiToken => rw [doBind_apiToken sl hb] at h ⊢; exact tokenAuthLdap_ok sl h
  | application n u => rw [doBind_application sl hb] at h ⊢; exact applicationAuthLdap_bound sl h

theorem doBind_delayed {w : World} {dn : List Char} {pw : Nat} {sl : Bool} {d : DelayedKind × Nat × Nat}
    (hd : d ∈ (doBind w dn pw sl).delayed) : ∃ t, (doBind w dn pw sl).res = .ok (some t) := by
  revert hd
  fun_cases doBind w dn pw sl
  case case1 => nofun  -- no target
  case case2 => exact authLdap_delayed  -- an account
  case case3 => rw [tokenAuthLdap_delayed]; nofun  -- a token
  case case4 => rw [applicationAuthLdap_delayed]; nofun  -- an application

theorem processLdapUuid_ok {w : World} {u : Nat} {id : Ident} (h : processLdapUuid w u = .ok id) :
    id = ⟨w.anonymous, .readOnly⟩ ∧ ∃ a, w.acct u = some a ∧ a.isAccount = true ∧
      a.withinValidTime w.ct = true := by
  revert h
  fun_cases processLdapUuid w u
  case case4 a ha h1 h2 _ hu =>  -- the bound account is the anonymous one
    rintro ⟨⟩
    exact ⟨by rw [beq_iff_eq.mp hu]; rfl, a, ha, by simpa using h1, by simpa [ldapUuidChecksValidity] using h2⟩
  case case6 a ha h1 h2 _ _ b _ =>  -- another account, and the anonymous entry exists
    rintro ⟨⟩
    exact ⟨rfl, a, ha, by simpa using h1, by simpa [ldapUuidChecksValidity] using h2⟩
  case case7 hn => exact absurd rfl hn  -- the arm for `ldapUuidEntryAnonymous = false`
  all_goals nofun

theorem validate_unixBind (w : World) (u : Nat) :
    validateLdapSession w (.unixBind u) = processLdapUuid w u := by
  simp [validateLdapSession, sessionIdent, Session.kind, Session.subject]

theorem validate_appPw (w : World) (x u : Nat) :
    validateLdapSession w (.applicationPasswordBind x u) = processLdapUuid w u := by
  simp [validateLdapSession, sessionIdent, Session.kind, Session.subject]

theorem validate_uat (w : World) (a s : Nat) (e : Option Nat) (pu : UatPurpose) :
    validateLdapSession w (.userAuthToken a s e pu) = processUat w a s pu := by
  simp [validateLdapSession, sessionIdent, Session.kind]

theorem validate_apit (w : World) (a t i : Nat) (e : Option Nat) (pu : ApiPurpose) :
    validateLdapSession w (.apiToken a t i e pu) = processApit w a t i pu := by
  simp [validateLdapSession, sessionIdent, Session.kind]

theorem processApit_ok {w : World} {a t i : Nat} {pu : ApiPurpose} {id : Ident}
    (h : processApit w a t i pu = .ok id) :
    id = ⟨a, apitScope pu⟩ ∧ ∃ acc, w.acct a = some acc ∧ acc.withinValidTime w.ct = true ∧
      (w.apiSessions.contains t = true ∨ w.ct < i + w.grace) := by
  revert h
  fun_cases processApit w a t i pu
  case case4 acc ha h1 h2 =>  -- inside the window, session stored or inside the grace window
    rintro ⟨⟩
    exact ⟨rfl, acc, ha, by simpa using h1, by simpa [Decidable.or_iff_not_imp_left] using h2⟩
  all_goals nofun

theorem processUat_ok {w : World} {a s : Nat} {pu : UatPurpose} {id : Ident}
    (h : processUat w a s pu = .ok id) :
    id.entry = a ∧ (id.scope = .readOnly ∨ (id.scope = .readWrite ∧ ∃ e, pu = .readWrite (some e) ∧ w.ct < e)) ∧
      ∃ acc, w.acct a = some acc ∧ acc.withinValidTime w.ct = true ∧ w.uatValid.contains s = true := by
  revert h
  fun_cases processUat w a s pu
  case case3 acc ha h1 scope =>  -- inside the window and the session valid
    rintro ⟨⟩
    refine ⟨rfl, ?_, acc, ha, by simpa using h1⟩
    rcases pu with _ | _ | e
    · exact .inl rfl
    · exact .inl rfl
    · by_cases he : w.ct < e
      · exact .inr ⟨if_pos he, e, rfl, he⟩
      · exact .inl (if_neg he)
  all_goals nofun

theorem implicit_bind_session {w : World} {lbt : Token}
    (h : (doBind w [] 0 false).res = .ok (some lbt)) : lbt.session = .unixBind w.anonymous := by
  cases doBind_ok (tgt := .account w.anonymous) rfl h with
  | anonymous => rfl
  | unix hne => exact absurd rfl hne

/-- The identity with which a search or compare reached the backend. -/
def Outcome.ident : Outcome → Option Ident
  | .query id _ _ | .compare id _ => some id
  | _ => none

theorem Outcome.ident_eq_some {o : Outcome} {id : Ident} :
    o.ident = some id ↔ (∃ ext imp, o = .query id ext imp) ∨ (∃ imp, o = .compare id imp) := by
  cases o <;> simp [Outcome.ident]

theorem doSearch_ident {w : World} {t : Token} {imp : Option Token} {base : List Char}
    {sc : SScope} {n : Nat} {late : Option Code} {id : Ident}
    (h : (doSearch w t imp base sc n late).ident = some id) :
    validateLdapSession w t.session = .ok id := by
  -- the one arm that answers with an identity has matched `validateLdapSession … = .ok id` just before
  unfold doSearch at h
  repeat' split at h
  all_goals simp_all [Outcome.ident, errRespond]

theorem doCompare_ident {w : World} {t : Token} {imp : Option Token} {entry : List Char}
    {late : Option Code} {id : Ident} (h : (doCompare w t imp entry late).ident = some id) :
    validateLdapSession w t.session = .ok id := by
  unfold doCompare at h
  repeat' split at h
  all_goals simp_all [Outcome.ident, errRespond]

/-- How `do_op` runs a read handler: on the connection's token when it is bound, otherwise on
the token of `do_bind(idms, "", "")`, which the answer then carries. -/
def readOn (w : World) (st : Option Token) (run : Token → Option Token → Outcome) :
    Outcome × List (DelayedKind × Nat × Nat) :=
  match st with
  | some t => (run t none, [])
  | none =>
    match (doBind w [] 0 false).res with
    | .ok (some lbt) => (run lbt (some lbt), (doBind w [] 0 false).delayed)
    | .ok none => (.respond .invalidCredentials none, (doBind w [] 0 false).delayed)
    | .error e => (errRespond e, (doBind w [] 0 false).delayed)

theorem handleRequest_search (w : World) (st : Option Token) (base : List Char) (sc : SScope)
    (n : Nat) (late : Option Code) :
    handleRequest w st (.search base sc n late) =
      readOn w st fun t imp => doSearch w t imp base sc n late := by
  cases st <;> rfl

theorem handleRequest_compare (w : World) (st : Option Token) (entry : List Char)
    (late : Option Code) :
    handleRequest w st (.compare entry late) =
      readOn w st fun t imp => doCompare w t imp entry late := by
  cases st <;> rfl

theorem handleRequest_bind (w : World) (st : Option Token) (dn : List Char) (pw : Nat) (sl : Bool) :
    handleRequest w st (.bind dn pw sl) =
      match (doBind w dn pw sl).res with
      | .ok (some t) => (.bound t, (doBind w dn pw sl).delayed)
      | .ok none => (.respond .invalidCredentials none, (doBind w dn pw sl).delayed)
      | .error e => (errRespond e, (doBind w dn pw sl).delayed) := by
  cases st <;> rfl

theorem readOn_ident {w : World} {st : Option Token} {run : Token → Option Token → Outcome}
    {id : Ident} (h : (readOn w st run).1.ident = some id)
    (hrun : ∀ t imp, (run t imp).ident = some id → validateLdapSession w t.session = .ok id) :
    (∃ t, st = some t ∧ validateLdapSession w t.session = .ok id) ∨
    (st = none ∧ validateLdapSession w (.unixBind w.anonymous) = .ok id) := by
  cases st with
  | some t => exact Or.inl ⟨t, rfl, hrun t none h⟩
  | none =>
    refine Or.inr ⟨rfl, ?_⟩
    unfold readOn at h
    cases hr : (doBind w [] 0 false).res with
    | error e => simp only [hr] at h; cases h
    | ok ot =>
      simp only [hr] at h
      cases ot with
      | none => cases h
      | some lbt => exact implicit_bind_session hr ▸ hrun lbt _ h

theorem handleRequest_ident {w : World} {st : Option Token} {m : Msg} {id : Ident}
    (h : (handleRequest w st m).1.ident = some id) :
    (∃ t, st = some t ∧ validateLdapSession w t.session = .ok id) ∨
    (st = none ∧ validateLdapSession w (.unixBind w.anonymous) = .ok id) := by
  cases m with
  | bind dn pw sl =>
    rw [handleRequest_bind] at h
    split at h <;> cases h
  | other op =>
    unfold handleRequest at h
    cases hd : wireDispatch op with
    | none => simp only [Msg.wireOp, hd] at h; cases h
    | some sop =>
      simp only [Msg.wireOp, hd] at h
      cases sop <;> cases st <;> cases h
  | search base sc n late =>
    rw [handleRequest_search] at h
    exact readOn_ident h fun _ _ => doSearch_ident
  | compare entry late =>
    rw [handleRequest_compare] at h
    exact readOn_ident h fun _ _ => doCompare_ident

end Kanidm.Ldap
