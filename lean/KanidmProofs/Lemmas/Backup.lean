import KanidmModel.Backup
import KanidmProofs.Lemmas.IndexMaint
import KanidmProofs.Lemmas.ListFold
/-!
Lemmas for C13: the model's loops over insertion-ordered maps (`extend`, the RUV's `restore` and `rebuild`, the `ruv`
table's insert) in closed form. `rangedOf`, `tsOf`, `idsOf` are used in C13's statements.
-/
namespace Kanidm.Backup
open Kanidm.Index (aget insertId mem_insertId aget_eq_find? aget_isSome_iff aget_none_of_not_mem)

/-- `BTreeMap::extend`, `INSERT OR REPLACE` and the RUV's insert-if-vacant, over keys that are new and distinct -/
theorem foldl_append_fresh {α β κ : Type} {f : List β → α → List β} {g : α → β} (key : β → κ)
    (h : ∀ acc a, key (g a) ∉ acc.map key → f acc a = acc ++ [g a]) (l : List α) (acc : List β)
    (hn : ((acc ++ l.map g).map key).Nodup) : l.foldl f acc = acc ++ l.map g := by
  induction l generalizing acc with
  | nil => simp
  | cons a r ih =>
    have hk : key (g a) ∉ acc.map key := by
      intro hm
      rw [List.map_append, List.nodup_append] at hn
      exact hn.2.2 _ hm _ (by simp) rfl
    rw [List.foldl_cons, h _ _ hk, ih _ (by simpa using hn)]
    simp

theorem filterMap_getElem? {α β : Type} (f : α → Option β) (l : List α) (h : ∀ a ∈ l, (f a).isSome) (k : Nat) :
    (l.filterMap f)[k]? = l[k]?.bind f := by
  induction l generalizing k with
  | nil => rfl
  | cons a r ih =>
    obtain ⟨b, hb⟩ := Option.isSome_iff_exists.1 (h a List.mem_cons_self)
    rw [List.filterMap_cons, hb]
    cases k with
    | zero => exact hb.symm
    | succ j => exact ih (fun x hx => h x (List.mem_cons_of_mem _ hx)) j

theorem mem_append_new {α : Type} [BEq α] [LawfulBEq α] (l : List α) (a x : α) :
    x ∈ (if l.contains a then l else l ++ [a]) ↔ x ∈ l ∨ a = x := by
  split
  · rename_i h
    exact ⟨Or.inl, fun h' => h'.elim id fun e => e ▸ List.contains_iff_mem.1 h⟩
  · rw [List.mem_append, List.mem_singleton, eq_comm]

theorem foldl_addCid (added l : List Cid) (h : (l ++ added).Nodup) : added.foldl addCid l = l ++ added := by
  have := foldl_append_fresh (f := addCid) (g := id) id
    (fun l c hc => if_neg fun hm => hc (by simpa using hm)) added l (by simpa using h)
  rw [List.map_id] at this
  exact this

theorem mem_foldl_addCid (added l : List Cid) (c : Cid) : c ∈ added.foldl addCid l ↔ c ∈ l ∨ c ∈ added := by
  rw [foldl_iff (f := addCid) (M := fun l => c ∈ l) (fun l a => mem_append_new l a c)]
  exact or_congr_right ⟨fun ⟨_, h, e⟩ => e ▸ h, fun h => ⟨c, h, rfl⟩⟩

section AMap
variable {κ ν : Type} [DecidableEq κ]

theorem aget_aput (m : List (κ × ν)) (k : κ) (v : ν) (k' : κ) :
    aget (aput m k v) k' = if k = k' then some v else aget m k' := by
  fun_induction aput m k v with
  | case1 => rfl -- empty
  | case2 => simp only [aget]; split <;> rfl -- key at the head
  | case3 pk pv r k v h ih => -- another key at the head
    simp only [aget, ih]
    split
    · rename_i h2; rw [if_neg (fun e => h (h2.trans e.symm))]
    · rfl

theorem aput_fresh (m : List (κ × ν)) (k : κ) (v : ν) (h : k ∉ m.map (·.1)) : aput m k v = m ++ [(k, v)] := by
  fun_induction aput m k v with
  | case1 => rfl -- empty
  | case2 => exact absurd List.mem_cons_self h -- key at the head
  | case3 pk pv r k v _ ih => -- another key at the head
    exact congrArg _ (ih fun hm => h (List.mem_cons_of_mem _ hm))

theorem aput_keys (m : List (κ × ν)) (k : κ) (v : ν) :
    (aput m k v).map (·.1) = if k ∈ m.map (·.1) then m.map (·.1) else m.map (·.1) ++ [k] := by
  fun_induction aput m k v with
  | case1 => rfl -- empty
  | case2 => simp -- key at the head
  | case3 pk pv r k v h ih => -- another key at the head
    have h' : ¬ k = pk := fun e => h e.symm
    simp only [List.map_cons, ih, List.mem_cons, h', false_or]
    split <;> rfl

theorem aput_keys_nodup (m : List (κ × ν)) (k : κ) (v : ν) (h : (m.map (·.1)).Nodup) :
    ((aput m k v).map (·.1)).Nodup := by
  rw [aput_keys]
  split
  · exact h
  · rename_i hk
    exact List.nodup_append.2 ⟨h, by simp, by
      intro a ha b hb
      simp only [List.mem_singleton] at hb
      subst hb
      intro e; subst e; exact hk ha⟩

theorem extend_append (n m : List (κ × ν)) (h : ((m ++ n).map (·.1)).Nodup) : extend m n = m ++ n := by
  have := foldl_append_fresh (g := id) (·.1) (fun m kv => aput_fresh m kv.1 kv.2) n m (by simpa using h)
  rw [List.map_id] at this
  exact this

theorem extend_nil (n : List (κ × ν)) (h : (n.map (·.1)).Nodup) : extend [] n = n := by
  simpa using extend_append n [] (by simpa using h)

end AMap

theorem number_eq {δ : Type} (l : List δ) (n : Nat) : number n l = (l.zipIdx n).map fun p => (p.2, p.1) := by
  induction l generalizing n with
  | nil => rfl
  | cons d r ih => rw [number, ih, List.zipIdx_cons]; rfl

theorem number_ids {δ : Type} (l : List δ) (n : Nat) : (number n l).map (·.1) = List.range' n l.length := by
  rw [number_eq, List.map_map]; exact List.zipIdx_map_snd n l

theorem number_payloads {δ : Type} (l : List δ) (n : Nat) : (number n l).map (·.2) = l := by
  rw [number_eq, List.map_map]; exact List.zipIdx_map_fst n l

theorem number_ids_nodup {δ : Type} (l : List δ) (n : Nat) : ((number n l).map (·.1)).Nodup := by
  rw [number_ids]; exact List.nodup_range'

theorem number_length {δ : Type} (l : List δ) (n : Nat) : (number n l).length = l.length := by
  rw [number_eq, List.length_map, List.length_zipIdx]

theorem number_map {δ ε : Type} (f : δ → ε) (l : List δ) (n : Nat) :
    (number n l).map (fun r => (r.1, f r.2)) = number n (l.map f) := by
  simp only [number_eq, List.zipIdx_map, List.map_map]; rfl

theorem number_getElem? {δ : Type} (l : List δ) (n k : Nat) :
    (number n l)[k]? = l[k]?.map (fun d => (n + k, d)) := by
  rw [number_eq, List.getElem?_map, List.getElem?_zipIdx, Option.map_map]; rfl

theorem mem_number_id {δ : Type} {l : List δ} {n : Nat} {r : Nat × δ} (h : r ∈ number n l) :
    n ≤ r.1 ∧ r.1 < n + l.length := by
  have : r.1 ∈ (number n l).map (·.1) := List.mem_map.2 ⟨r, h, rfl⟩
  rw [number_ids, List.mem_range'_1] at this
  exact this

theorem maxId_number {δ : Type} (l : List δ) : maxId (number firstId l) = l.length := by
  apply Nat.le_antisymm
  · refine (foldl_max_le _ _).2 ⟨Nat.zero_le _, fun x hx => ?_⟩
    rw [number_ids, List.mem_range'_1] at hx
    simp only [firstId] at hx
    omega
  · cases l with
    | nil => simp
    | cons d r =>
      refine ((foldl_max_le _ 0).1 (Nat.le_refl _)).2 _ ?_
      rw [number_ids, List.mem_range'_1]
      simp [firstId]

/-- what `ranged` becomes when the cids are inserted one by one -/
def rangedOf (cids : List Cid) : List (Nat × List Nat) := cids.foldl rangeAdd []

/-- the timestamps recorded for server `u` -/
def tsOf (r : List (Nat × List Nat)) (u : Nat) : List Nat := (aget r u).getD []

/-- the ids recorded under a cid -/
def idsOf (data : List (Cid × List Nat)) (c : Cid) : List Nat := (aget data c).getD []

theorem rangeAdd_eq (r : List (Nat × List Nat)) (c : Cid) :
    rangeAdd r c = aput r c.sid (if (tsOf r c.sid).contains c.ts then tsOf r c.sid else tsOf r c.sid ++ [c.ts]) := by
  unfold rangeAdd tsOf
  cases aget r c.sid <;> rfl

theorem mem_tsOf_rangeAdd (r : List (Nat × List Nat)) (c : Cid) (u t : Nat) :
    t ∈ tsOf (rangeAdd r c) u ↔ t ∈ tsOf r u ∨ (c.sid = u ∧ c.ts = t) := by
  rw [rangeAdd_eq, tsOf, aget_aput]
  by_cases hu : c.sid = u
  · subst hu
    simp only [if_true, Option.getD_some, mem_append_new, true_and]
  · simp only [hu, if_false, false_and, or_false, tsOf]

theorem mem_tsOf_foldl (cids : List Cid) (r : List (Nat × List Nat)) (u t : Nat) :
    t ∈ tsOf (cids.foldl rangeAdd r) u ↔ t ∈ tsOf r u ∨ (⟨t, u⟩ : Cid) ∈ cids := by
  rw [foldl_iff (M := fun r => t ∈ tsOf r u) (fun r c => mem_tsOf_rangeAdd r c u t)]
  exact or_congr_right ⟨fun ⟨⟨_, _⟩, hc, hs, ht⟩ => hs ▸ ht ▸ hc, fun h => ⟨_, h, rfl, rfl⟩⟩

theorem mem_rangedOf (cids : List Cid) (u t : Nat) : t ∈ tsOf (rangedOf cids) u ↔ (⟨t, u⟩ : Cid) ∈ cids := by
  have := mem_tsOf_foldl cids [] u t
  simpa [rangedOf, tsOf, aget] using this

theorem rangedOf_keys_nodup (cids : List Cid) : ((rangedOf cids).map (·.1)).Nodup :=
  List.foldlRecOn cids rangeAdd (motive := fun r => (r.map (·.1)).Nodup) List.nodup_nil fun r h c _ => by
    rw [rangeAdd_eq]; exact aput_keys_nodup _ _ _ h

theorem ruvRestore_cleared {δ : Type} (cids : List Cid) (s : Db δ) (hk : cids.Nodup) (h1 : s.ruv = [])
    (h2 : s.ranged = []) :
    ruvRestore cids s = { s with ruv := cids.map (fun c => (c, [])), ranged := rangedOf cids } := by
  have hknd : ((cids.map (fun c => (c, ([] : List Nat)))).map (·.1)).Nodup := by
    simpa [List.map_map, Function.comp_def] using hk
  -- the loop runs `data` and `ranged` side by side
  have hfst : (cids.foldl ruvRestoreStep ([], [])).1 = cids.map (fun c => (c, [])) := by
    rw [← List.foldl_hom Prod.fst (g₂ := fun d c => if (aget d c).isSome then d else d ++ [(c, [])]) fun _ _ => rfl]
    exact foldl_append_fresh (·.1) (fun d c h => by rw [aget_none_of_not_mem d c h]; rfl) cids [] hknd
  have hsnd : (cids.foldl ruvRestoreStep ([], [])).2 = rangedOf cids :=
    (List.foldl_hom Prod.snd fun _ _ => rfl).symm
  simp only [ruvRestore, h1, h2, hfst, hsnd, extend_nil _ hknd, extend_nil _ (rangedOf_keys_nodup _)]

theorem rebuildRow_eq (i : Nat) (data : List (Cid × List Nat)) (c : Cid) :
    rebuildRow i data c = if c ∈ data.map (·.1) then aput data c (insertId i (idsOf data c)) else data := by
  have := aget_isSome_iff data c
  unfold rebuildRow idsOf
  cases hg : aget data c with
  | none => rw [hg] at this; exact (if_neg fun h => by simpa using this.2 h).symm
  | some idl => rw [hg] at this; exact (if_pos (this.1 rfl)).symm

theorem rebuildRow_keys (i : Nat) (data : List (Cid × List Nat)) (c : Cid) :
    (rebuildRow i data c).map (·.1) = data.map (·.1) := by
  rw [rebuildRow_eq]
  split
  · rename_i h; rw [aput_keys, if_pos h]
  · rfl

theorem mem_idsOf_rebuildRow (i : Nat) (data : List (Cid × List Nat)) (c c' : Cid) (x : Nat) :
    x ∈ idsOf (rebuildRow i data c) c' ↔ x ∈ idsOf data c' ∨ (c = c' ∧ c' ∈ data.map (·.1) ∧ x = i) := by
  rw [rebuildRow_eq]
  by_cases hc : c ∈ data.map (·.1)
  · rw [if_pos hc, idsOf, aget_aput]
    by_cases h : c = c'
    · subst h; simp only [if_true, Option.getD_some, mem_insertId, hc, true_and, idsOf]; exact or_comm
    · simp only [h, if_false, false_and, or_false, idsOf]
  · rw [if_neg hc]
    exact ⟨Or.inl, fun h => h.elim id fun ⟨h1, h2, _⟩ => absurd (h1 ▸ h2) hc⟩

theorem ruvRebuild_eq {δ : Type} (cidsOf : δ → List Cid) (rows : List (Nat × δ)) (data : List (Cid × List Nat)) :
    ruvRebuild cidsOf rows data =
      (rows.flatMap fun r => (cidsOf r.2).map (Prod.mk r.1)).foldl (fun d p => rebuildRow p.1 d p.2) data := by
  simp only [ruvRebuild, List.foldl_flatMap, List.foldl_map]

theorem ruvRebuild_keys {δ : Type} (cidsOf : δ → List Cid) (rows : List (Nat × δ)) (data : List (Cid × List Nat)) :
    (ruvRebuild cidsOf rows data).map (·.1) = data.map (·.1) := by
  rw [ruvRebuild_eq]
  exact List.foldlRecOn _ _ (motive := fun d => d.map (·.1) = data.map (·.1)) rfl fun d h (p : Nat × Cid) _ =>
    (rebuildRow_keys p.1 d p.2).trans h

theorem mem_idsOf_ruvRebuild {δ : Type} (cidsOf : δ → List Cid) (rows : List (Nat × δ))
    (data : List (Cid × List Nat)) (c : Cid) (x : Nat) :
    x ∈ idsOf (ruvRebuild cidsOf rows data) c ↔
      x ∈ idsOf data c ∨ (c ∈ data.map (·.1) ∧ ∃ r ∈ rows, r.1 = x ∧ c ∈ cidsOf r.2) := by
  rw [ruvRebuild_eq, foldl_iff_of_inv (I := fun d => d.map (·.1) = data.map (·.1)) (M := fun d => x ∈ idsOf d c)
    (C := fun p => p.2 = c ∧ c ∈ data.map (·.1) ∧ x = p.1)
    (fun d p hd => ⟨(rebuildRow_keys p.1 d p.2).trans hd, hd ▸ mem_idsOf_rebuildRow p.1 d p.2 c x⟩) _ data rfl]
  refine or_congr_right ⟨fun ⟨p, hp, hc, hk, hx⟩ => ?_, fun ⟨hk, r, hr, hx, hc⟩ => ?_⟩
  · obtain ⟨r, hr, hq⟩ := List.mem_flatMap.1 hp
    obtain ⟨c0, hc0, rfl⟩ := List.mem_map.1 hq
    exact ⟨hk, r, hr, hx.symm, hc ▸ hc0⟩
  · exact ⟨(r.1, c), List.mem_flatMap.2 ⟨r, hr, List.mem_map.2 ⟨c, hc, rfl⟩⟩, rfl, hk, hx.symm⟩

theorem idsOf_map_nil (l : List Cid) (c : Cid) : idsOf (l.map (fun c => (c, ([] : List Nat)))) c = [] := by
  rw [idsOf, aget_eq_find?, List.find?_map]
  cases l.find? _ <;> rfl

/-! ### reopening: the caches are functions of the tables -/

section Reload
variable {δ : Type} (cidsOf : δ → List Cid) (w : Db δ) (hk : w.dbRuv.Nodup)
include hk

theorem reload_eq :
    reload cidsOf w = { w with
      ruv := ruvRebuild cidsOf w.rows (w.dbRuv.map fun c => (c, []))
      ranged := rangedOf w.dbRuv
      maxid := maxId w.rows } := by
  unfold reload
  rw [ruvRestore_cleared _ _ hk rfl rfl]

theorem reload_ruv_keys : (reload cidsOf w).ruv.map (·.1) = w.dbRuv := by
  rw [reload_eq cidsOf w hk, ruvRebuild_keys, List.map_map]
  exact List.map_id _

theorem mem_idsOf_reload (c : Cid) (x : Nat) :
    x ∈ idsOf (reload cidsOf w).ruv c ↔ c ∈ w.dbRuv ∧ ∃ r ∈ w.rows, r.1 = x ∧ c ∈ cidsOf r.2 := by
  rw [reload_eq cidsOf w hk, mem_idsOf_ruvRebuild, idsOf_map_nil, List.map_map]
  simp

theorem mem_tsOf_reload (u t : Nat) : t ∈ tsOf (reload cidsOf w).ranged u ↔ (⟨t, u⟩ : Cid) ∈ w.dbRuv := by
  rw [reload_eq cidsOf w hk, mem_rangedOf]

end Reload

end Kanidm.Backup
