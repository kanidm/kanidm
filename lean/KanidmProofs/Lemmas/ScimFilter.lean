import KanidmModel.ScimFilter
/-!
Lemmas for C42 (SCIM filter text) below the `precedence!{}` layer: the vocabulary of the statements,
lexical facts, JSON string escape/decode inverse, value round trip, what the leaf rules make of printed
leaves, and that every rule returns a rest no longer than its input (the `*_length` lemmas).
-/
namespace Kanidm.ScimFilter
open Kanidm.Gen.ScimFilter

/-! ### what the theorems of C42 speak about -/

def HeadNot (p : Char → Bool) (s : Str) : Prop := ∀ c r, s = c :: r → p c = false

/-- a run accepted by `separator()+`. -/
def IsSepRun (w : Str) : Prop := w ≠ [] ∧ w.all isSep = true

/-- `rule attrstring()` accepts exactly this. -/
def validName : Str → Bool
  | [] => false
  | c :: r => isAttrFirst c && r.all isAttrRest

/-- scalar values the round trip speaks about: a number is a JSON number token. -/
def wfVal : Val → Prop
  | .num tok => isJsonNumber tok = true
  | _ => True

def wfT {α : Type} (wfL : α → Prop) : Tree α → Prop
  | .or a b => wfT wfL a ∧ wfT wfL b
  | .and a b => wfT wfL a ∧ wfT wfL b
  | .not a => wfT wfL a
  | .leaf l => wfL l

/-- a `max_depth` argument of `parse_inner` that suffices for the printed tree (`atom_print`):
one level per parenthesis, two per `not (…)`. -/
def needT {α : Type} (needL : α → Nat) : Tree α → Nat
  | .or a b => max (needT needL a) (needT needL b) + 1
  | .and a b => max (needT needL a) (needT needL b) + 1
  | .not a => needT needL a + 2
  | .leaf l => needL l

def wfCLeaf : CLeaf → Prop
  | .pres s => validName s = true
  | .cmp _ s v => validName s = true ∧ wfVal v

def validPath (p : AttrPath) : Prop :=
  validName p.a = true ∧ match p.s with | some s => validName s = true | none => True

def wfFLeaf : FLeaf → Prop
  | .pres p => validPath p
  | .cmp _ p v => validPath p ∧ wfVal v
  | .complex a c => validName a = true ∧ wfT wfCLeaf c

def needF : FLeaf → Nat
  | .complex _ c => needT (fun _ => 1) c + 1
  | _ => 1

def leadingParens : Str → Nat
  | '(' :: r => leadingParens r + 1
  | _ => 0

theorem beq_toNat (c d : Char) : (c == d) = (c.toNat == d.toNat) := by
  rw [Bool.eq_iff_iff]
  simp only [beq_iff_eq]
  exact Char.toNat_inj.symm

theorem attrRest_not_sep {c : Char} (h : isAttrRest c = true) : isSep c = false := by
  simp [isAttrRest, isSep, beq_toNat] at *
  omega

theorem attrFirst_rest {c : Char} (h : isAttrFirst c = true) : isAttrRest c = true := by
  unfold isAttrFirst at h
  unfold isAttrRest
  rw [h]
  rfl

/-- a character that none of the lexical rules around a value treats specially. -/
structure Plain (c : Char) : Prop where
  notOp : isOpChar c = false
  notSep : isSep c = false
  notCR : isCR c = false
  notQuote : c ≠ '"'

theorem numChar_plain {c : Char} (h : isNumChar c = true) : Plain c := by
  have : isOpChar c = false ∧ isSep c = false ∧ isCR c = false ∧ c ≠ '"' := by
    simp [isNumChar, isDigit, isOpChar, isSep, isCR, beq_toNat, ← Char.toNat_inj] at *
    omega
  exact ⟨this.1, this.2.1, this.2.2.1, this.2.2.2⟩

theorem lit_eq_some_iff {k s r : Str} : lit k s = some r ↔ s = k ++ r := by
  fun_induction lit k s <;> simp_all [eq_comm]

theorem lit_append (k s : Str) : lit k (k ++ s) = some s := lit_eq_some_iff.mpr rfl

theorem lit_length {k s r : Str} (h : lit k s = some r) : r.length ≤ s.length := by
  rw [lit_eq_some_iff.mp h, List.length_append]; omega

theorem headNot_nil (p : Char → Bool) : HeadNot p [] := by intro c r h; cases h

theorem headNot_cons {p : Char → Bool} {c : Char} (r : Str) (h : p c = false) : HeadNot p (c :: r) := by
  intro c' r' e; cases e; exact h

theorem span_all_append {p : Char → Bool} (a s : Str) (ha : a.all p = true) (h : HeadNot p s) :
    (a ++ s).takeWhile p = a ∧ (a ++ s).dropWhile p = s := by
  have ha := List.all_eq_true.mp ha
  rw [List.takeWhile_append_of_pos ha, List.dropWhile_append_of_pos ha]
  cases s with
  | nil => simp
  | cons c r => simp [h c r rfl]

theorem seps1_run {w : Str} (hw : IsSepRun w) {y : Str} (hy : HeadNot isSep y) : seps1 (w ++ y) = some y := by
  obtain ⟨hne, hall⟩ := hw
  cases w with
  | nil => exact absurd rfl hne
  | cons c r =>
    simp only [List.all_cons, Bool.and_eq_true] at hall
    simp [seps1, hall.1, (span_all_append r y hall.2 hy).2]

theorem isSepRun_space : IsSepRun [' '] := ⟨by decide, by decide⟩

theorem seps1_length {s r : Str} : seps1 s = some r → r.length < s.length := by
  fun_cases seps1 s
  · simp  -- empty text
  · -- a separator: the rest is what `dropWhile` leaves of the tail
    intro h; cases h; exact Nat.lt_succ_of_le (List.dropWhile_sublist _).length_le
  · simp  -- another character

theorem seps1_space {s : Str} (h : HeadNot isSep s) : seps1 (' ' :: s) = some s :=
  seps1_run isSepRun_space h

theorem validName_cons {n : Str} (hn : validName n = true) :
    ∃ c r, n = c :: r ∧ isAttrFirst c = true ∧ r.all isAttrRest = true := by
  cases n with
  | nil => cases hn
  | cons c r => exact ⟨c, r, rfl, by simpa [validName] using hn⟩

theorem validName_all {n : Str} (hn : validName n = true) : n.all isAttrRest = true := by
  obtain ⟨c, r, rfl, hc, hr⟩ := validName_cons hn
  simp [attrFirst_rest hc, hr]

theorem lexAttr_name {n : Str} (hn : validName n = true) {s : Str} (h : HeadNot isAttrRest s) :
    lexAttr (n ++ s) = some (n, s) := by
  obtain ⟨c, r, rfl, hc, hr⟩ := validName_cons hn
  simp [lexAttr, hc, span_all_append r s hr h]

theorem lexAttr_length {s n r : Str} : lexAttr s = some (n, r) → r.length < s.length := by
  fun_cases lexAttr s
  · simp  -- empty text
  · -- a first-class character: the rest is what `dropWhile` leaves of the tail
    intro h; cases h; exact Nat.lt_succ_of_le (List.dropWhile_sublist _).length_le
  · simp  -- another character

/-! ### JSON strings: `decodeStr ∘ escapeStr = id`, and the peg scan finds the same end -/

theorem hexVal_hexDigit : ∀ n : Fin 16, hexVal (hexDigit n.val) = some n.val := by decide

theorem hexDigit_plain : ∀ n : Fin 16, hexDigit n.val ≠ '"' ∧ hexDigit n.val ≠ '\\' := by decide

theorem hex4_ctl (n : Nat) (h : n < 32) :
    hex4 '0' '0' (hexDigit (n / 16)) (hexDigit (n % 16)) = some n := by
  have h1 := hexVal_hexDigit ⟨n / 16, by omega⟩
  have h2 := hexVal_hexDigit ⟨n % 16, by omega⟩
  simp only at h1 h2
  have h0 : hexVal '0' = some 0 := by decide
  simp only [hex4, h0, h1, h2]
  congr 1
  omega

theorem escapeChar_cases (c : Char) :
    (∃ e, escapeChar c = ['\\', e] ∧ e ≠ 'u' ∧ simpleEscape e = some c) ∨
    (c.toNat < 32 ∧
      escapeChar c = ['\\', 'u', '0', '0', hexDigit (c.toNat / 16), hexDigit (c.toNat % 16)]) ∨
    (escapeChar c = [c] ∧ c ≠ '"' ∧ c ≠ '\\' ∧ ¬ c.toNat < 32) := by
  by_cases h1 : c = '"'; · subst h1; exact .inl ⟨'"', by decide +kernel⟩
  by_cases h2 : c = '\\'; · subst h2; exact .inl ⟨'\\', by decide +kernel⟩
  by_cases h3 : c = '\x08'; · subst h3; exact .inl ⟨'b', by decide +kernel⟩
  by_cases h4 : c = '\x0c'; · subst h4; exact .inl ⟨'f', by decide +kernel⟩
  by_cases h5 : c = '\n'; · subst h5; exact .inl ⟨'n', by decide +kernel⟩
  by_cases h6 : c = '\r'; · subst h6; exact .inl ⟨'r', by decide +kernel⟩
  by_cases h7 : c = '\t'; · subst h7; exact .inl ⟨'t', by decide +kernel⟩
  have h : escapeChar c = if c.toNat < 32 then
      ['\\', 'u', '0', '0', hexDigit (c.toNat / 16), hexDigit (c.toNat % 16)] else [c] := by
    rw [escapeChar, if_neg h1, if_neg h2, if_neg h3, if_neg h4, if_neg h5, if_neg h6, if_neg h7]
  by_cases h8 : c.toNat < 32
  · exact .inr (.inl ⟨h8, by rw [h, if_pos h8]⟩)
  · exact .inr (.inr ⟨by rw [h, if_neg h8], h1, h2, h8⟩)

theorem decodeStr_escape {e x : Char} (hu : e ≠ 'u') (h : simpleEscape e = some x) (r : Str) :
    decodeStr ('\\' :: e :: r) = consRes x (decodeStr r) := by
  rw [decodeStr.eq_def]
  dsimp only
  rw [if_neg (by decide), if_pos rfl, if_neg hu, h]

theorem decodeStr_plain {c : Char} (h1 : c ≠ '"') (h2 : c ≠ '\\') (h3 : ¬ c.toNat < 32) (r : Str) :
    decodeStr (c :: r) = consRes c (decodeStr r) := by
  rw [decodeStr.eq_def]
  dsimp only
  rw [if_neg h1, if_neg h2, if_neg h3]

theorem decodeStr_u {h1 h2 h3 h4 : Char} {n : Nat} (h : hex4 h1 h2 h3 h4 = some n) (hn : n < 0xD800)
    (r : Str) :
    decodeStr ('\\' :: 'u' :: h1 :: h2 :: h3 :: h4 :: r) = consRes (Char.ofNat n) (decodeStr r) := by
  rw [decodeStr.eq_def]
  dsimp only
  rw [if_neg (by decide), if_pos rfl, if_pos rfl, h]
  dsimp only
  rw [if_neg (by omega), if_neg (by omega)]

theorem decode_escapeChar (c : Char) (more : Str) :
    decodeStr (escapeChar c ++ more) = consRes c (decodeStr more) := by
  rcases escapeChar_cases c with ⟨e, he, hu, hs⟩ | ⟨h, he⟩ | ⟨he, h1, h2, h3⟩ <;> rw [he]
  · exact decodeStr_escape hu hs more
  · exact (decodeStr_u (hex4_ctl c.toNat h) (by omega) more).trans (by rw [Char.ofNat_toNat])
  · exact decodeStr_plain h1 h2 h3 more

theorem decode_escapeStr (s : Str) : decodeStr (escapeStr s ++ ['"']) = some (s, []) := by
  induction s with
  | nil => simp [escapeStr, decodeStr]
  | cons c r ih =>
    simp only [escapeStr, List.append_assoc]
    rw [decode_escapeChar, ih]
    rfl

theorem scan_plain {c : Char} (h1 : c ≠ '"') (h2 : c ≠ '\\') (more : Str) :
    scanQuoted (c :: more) = (scanQuoted more).map (Prod.map ([c] ++ ·) id) := by
  rw [scanQuoted.eq_def]
  simp only [h1, h2, if_false]
  cases scanQuoted more <;> rfl

theorem scan_pair (d : Char) (more : Str) :
    scanQuoted ('\\' :: d :: more) = (scanQuoted more).map (Prod.map (['\\', d] ++ ·) id) := by
  rw [scanQuoted.eq_def]
  simp only [if_true]
  cases scanQuoted more <;> rfl

theorem scan_escapeChar (c : Char) (more : Str) :
    scanQuoted (escapeChar c ++ more) = (scanQuoted more).map (Prod.map (escapeChar c ++ ·) id) := by
  rcases escapeChar_cases c with ⟨e, he, -, -⟩ | ⟨h, he⟩ | ⟨he, h1, h2, -⟩ <;> rw [he]
  · exact scan_pair e more
  · have ha := hexDigit_plain ⟨c.toNat / 16, by omega⟩
    have hb := hexDigit_plain ⟨c.toNat % 16, by omega⟩
    simp only [List.cons_append, List.nil_append]
    rw [scan_pair, scan_plain (by decide) (by decide), scan_plain (by decide) (by decide),
      scan_plain ha.1 ha.2, scan_plain hb.1 hb.2]
    cases scanQuoted more <;> rfl
  · exact scan_plain h1 h2 more

theorem scan_escapeStr (s rest : Str) :
    scanQuoted (escapeStr s ++ '"' :: rest) = some (escapeStr s, rest) := by
  induction s with
  | nil => rw [escapeStr, List.nil_append, scanQuoted.eq_def]; simp
  | cons c r ih =>
    simp only [escapeStr, List.append_assoc]
    rw [scan_escapeChar, ih]
    rfl

theorem scanQuoted_length {s b r : Str} (h : scanQuoted s = some (b, r)) : r.length ≤ s.length := by
  fun_induction scanQuoted s generalizing b r <;> grind

theorem rtrimCR_noCR {s : Str} (h : s.all (fun c => !isCR c) = true) : rtrimCR s = s := by
  induction s with
  | nil => rfl
  | cons c r ih =>
    simp only [List.all_cons, Bool.and_eq_true, Bool.not_eq_true'] at h
    simp [rtrimCR, ih (by simpa using h.2), h.1]

theorem rtrimCR_quote (x : Str) : rtrimCR (x ++ ['"']) = x ++ ['"'] := by
  induction x with
  | nil => simp [rtrimCR, isCR]
  | cons c r ih => simp [rtrimCR, ih]

theorem numInt_head {s : Str} : numInt s = true → ∃ c r, s = c :: r ∧ isDigit c = true := by
  fun_cases numInt s
  · simp  -- empty text
  · next c r h => exact fun _ => ⟨c, r, rfl, by rw [beq_iff_eq.mp h]; decide⟩  -- `0`
  · next c r _ h => exact fun _ => ⟨c, r, rfl, h⟩  -- a nonzero digit
  · simp  -- anything else

theorem jsonNumber_head {tok : Str} (h : isJsonNumber tok = true) :
    ∃ c r, tok = c :: r ∧ (c = '-' ∨ isDigit c = true) := by
  simp only [isJsonNumber, Bool.and_eq_true] at h
  have h2 := h.2
  split at h2
  · exact ⟨_, _, rfl, .inl rfl⟩
  · obtain ⟨c, r, e, hd⟩ := numInt_head h2
    exact ⟨c, r, e, .inr hd⟩

theorem jsonNumber_chars {tok : Str} (h : isJsonNumber tok = true) :
    ∀ x ∈ tok, isNumChar x = true := by
  simp only [isJsonNumber, Bool.and_eq_true] at h
  exact List.all_eq_true.mp h.1

theorem jsonScalar_num {tok : Str} (h : isJsonNumber tok = true) : jsonScalar tok = some (.num tok) := by
  obtain ⟨c, r, rfl, hc⟩ := jsonNumber_head h
  have hall := jsonNumber_chars h
  have hc1 := numChar_plain (hall c List.mem_cons_self)
  have hnocr : (c :: r).all (fun c => !isCR c) = true :=
    List.all_eq_true.mpr fun x hx => by simp [(numChar_plain (hall x hx)).notCR]
  have hq : c ≠ '"' := hc1.notQuote
  unfold jsonScalar
  simp only [List.dropWhile_cons, hc1.notCR, Bool.false_eq_true, if_false]
  rw [rtrimCR_noCR hnocr]
  simp [hq, hc, h]

theorem jsonScalar_str (s : Str) : jsonScalar ('"' :: escapeStr s ++ ['"']) = some (.str s) := by
  unfold jsonScalar
  have : isCR '"' = false := by decide
  simp only [List.cons_append, List.dropWhile_cons, this, Bool.false_eq_true, if_false]
  rw [show ('"' :: (escapeStr s ++ ['"'])) = ('"' :: escapeStr s) ++ ['"'] from rfl, rtrimCR_quote]
  simp [decode_escapeStr]

theorem parseVal_unquoted {tok : Str} {v : Val} (hq : '"' ∉ tok)
    (hop : tok.all (fun c => !isOpChar c) = true) (hj : jsonScalar tok = some v) (rest : Str) :
    parseVal (tok ++ ')' :: rest) = some (v, ')' :: rest) := by
  have hhead : HeadNot (fun c => !isOpChar c) (')' :: rest) := headNot_cons _ (by decide)
  have hquoted : quotedVal (tok ++ ')' :: rest) = none := by
    cases tok with
    | nil => simp [quotedVal]
    | cons c r =>
      have : c ≠ '"' := fun e => hq (e ▸ List.mem_cons_self)
      simp [quotedVal, this]
  simp only [parseVal, hquoted, unquotedVal, span_all_append _ _ hop hhead, hj]

theorem parseVal_print {v : Val} (hv : wfVal v) (rest : Str) :
    parseVal (printVal v ++ ')' :: rest) = some (v, ')' :: rest) := by
  cases v with
  | null => exact parseVal_unquoted (by decide) (by decide) (by decide) rest
  | bool b => cases b <;> exact parseVal_unquoted (by decide) (by decide) (by decide) rest
  | str s =>
    have hs := scan_escapeStr s (')' :: rest)
    have hj := jsonScalar_str s
    simp only [printVal, List.cons_append, List.append_assoc, List.nil_append] at hs hj ⊢
    simp only [parseVal, quotedVal, if_true, List.cons_append]
    rw [hs]
    simp only []
    rw [hj]
  | num tok =>
    have hall := jsonNumber_chars hv
    exact parseVal_unquoted (fun h => (numChar_plain (hall _ h)).notQuote rfl)
      (List.all_eq_true.mpr fun x hx => by simp [(numChar_plain (hall x hx)).notOp])
      (jsonScalar_num hv) rest

theorem parseVal_length {s r : Str} {v : Val} : parseVal s = some (v, r) → r.length ≤ s.length := by
  fun_cases parseVal s
  · next hq =>  -- `quotedvalue()`
    intro h; cases h
    revert hq
    fun_cases quotedVal s <;> intro h <;> cases h
    exact Nat.le_succ_of_le (scanQuoted_length ‹_›)
  · -- `unquotedvalue()`
    fun_cases unquotedVal s <;> intro h <;> cases h
    exact (List.dropWhile_sublist _).length_le

theorem printVal_head {v : Val} (hv : wfVal v) (s : Str) : HeadNot isSep (printVal v ++ s) := by
  cases v with
  | null => exact headNot_cons _ (by decide)
  | bool b => cases b <;> exact headNot_cons _ (by decide)
  | str x => exact headNot_cons _ (by decide)
  | num tok =>
    obtain ⟨c, r, rfl, -⟩ := jsonNumber_head hv
    exact headNot_cons _ (numChar_plain (jsonNumber_chars hv c List.mem_cons_self)).notSep

theorem tryOps_pres (rest : Str) : tryOps gramOps (dispPr ++ ')' :: rest) = some (none, ')' :: rest) := by
  simp [gramOps, dispPr, tryOps, lit]

theorem tryOps_cmp (op : Op) {v : Val} (hv : wfVal v) (rest : Str) :
    tryOps gramOps (dispKw op ++ ' ' :: printVal v ++ ')' :: rest) = some (some (op, v), ')' :: rest) := by
  have h1 : seps1 (' ' :: (printVal v ++ ')' :: rest)) = some (printVal v ++ ')' :: rest) :=
    seps1_space (printVal_head hv _)
  have h2 := parseVal_print hv rest
  cases op <;> simp [gramOps, dispKw, tryOps, lit, h1, h2]

theorem dispKw_head (op : Op) (s : Str) : HeadNot isSep (dispKw op ++ s) ∧ ∀ s1, dispKw op ++ s ≠ '(' :: s1 := by
  cases op <;> exact ⟨headNot_cons _ (by decide), by simp [dispKw]⟩

theorem tryOps_length {tbl : List (Str × Option Op)} {s r : Str} {o} :
    tryOps tbl s = some (o, r) → r.length ≤ s.length := by
  fun_induction tryOps tbl s
  · simp  -- no row left
  · intro h; cases h; exact lit_length ‹_›  -- a row without value (`pr`) whose keyword is there
  · assumption  -- … is not there: the rows that follow
  · next hv =>  -- a comparison row whose keyword, separators and value are there
    intro h; cases h
    simp only [Option.bind_eq_some_iff] at hv
    obtain ⟨s2, ⟨s1, h1, h2⟩, h3⟩ := hv
    have := lit_length h1
    have := seps1_length h2
    have := parseVal_length h3
    omega
  · assumption  -- … are not there: the rows that follow

/-- `ScimComplexFilter` has the operator table and the keywords of `ScimFilter`. -/
theorem gramOpsC_eq : gramOpsC = gramOps := rfl
theorem dispPrC_eq : dispPrC = dispPr := rfl
theorem dispKwC_eq (op : Op) : dispKwC op = dispKw op := by cases op <;> rfl

/-! ### the `not` atom does not fire on a name -/

theorem headNot_of_seps1 {r y : Str} (h : seps1 r = some y) : HeadNot isAttrRest r := by
  intro c t e
  subst e
  rw [seps1] at h
  by_cases hc : isAttrRest c = true
  · rw [attrRest_not_sep hc] at h; cases h
  · simpa using hc

/-- A name is not read as the keyword: in `n ++ x = kw ++ r` both `n` and `kw` are the maximal run of name
characters, so `x = r`. -/
theorem notGuard (kw : Str) (hk : kw.all isAttrRest = true) (n x : Str) (hn : n.all isAttrRest = true)
    (hx : HeadNot isAttrRest x) (hs : ∀ s1, seps1 x ≠ some ('(' :: s1)) (s1 : Str) :
    (lit kw (n ++ x)).bind seps1 ≠ some ('(' :: s1) := by
  intro h
  obtain ⟨r, hl, hr⟩ := Option.bind_eq_some_iff.mp h
  have e := congrArg (List.dropWhile isAttrRest) (lit_eq_some_iff.mp hl)
  rw [(span_all_append n x hn hx).2, (span_all_append kw r hk (headNot_of_seps1 hr)).2] at e
  exact hs s1 (e ▸ hr)

/-! ### leaf rules: `complex_attrexp` -/

theorem gramNotC_all : cKwG.not_.all isAttrRest = true := by decide
theorem gramNot_all : fKwG.not_.all isAttrRest = true := by decide

theorem seps1_space_ne_paren {y : Str} (h : HeadNot isSep y) (hy : ∀ s1, y ≠ '(' :: s1) :
    ∀ s1, seps1 (' ' :: y) ≠ some ('(' :: s1) := by
  intro s1
  rw [seps1_space h]
  intro e
  exact hy s1 (Option.some.inj e)

theorem cLeafP_paren (f m : Nat) (s : Str) : cLeafP f m ('(' :: s) = none := by
  simp [cLeafP, lexAttr, isAttrFirst]

theorem cLeafP_print {l : CLeaf} (hl : wfCLeaf l) (f m : Nat) (rest : Str) :
    cLeafP f m ((printCLeaf l).tail ++ rest) = some (l, ')' :: rest) := by
  cases l with
  | pres s =>
    have h1 := lexAttr_name hl (s := ' ' :: (dispPr ++ ')' :: rest)) (headNot_cons _ (by decide))
    have h2 : seps1 (' ' :: (dispPr ++ ')' :: rest)) = some (dispPr ++ ')' :: rest) :=
      seps1_space (headNot_cons _ (by decide))
    simp only [printCLeaf, dispPrC_eq, List.tail_cons, List.append_assoc, List.cons_append,
      List.nil_append, cLeafP, gramOpsC_eq, h1, h2, tryOps_pres]
  | cmp op s v =>
    have h1 := lexAttr_name hl.1 (s := ' ' :: (dispKw op ++ ' ' :: (printVal v ++ ')' :: rest)))
      (headNot_cons _ (by decide))
    have h2 := seps1_space (dispKw_head op (' ' :: (printVal v ++ ')' :: rest))).1
    have h3 := tryOps_cmp op hl.2 rest
    simp only [List.append_assoc, List.cons_append] at h3
    simp only [printCLeaf, dispKwC_eq, List.tail_cons, List.append_assoc, List.cons_append,
      List.nil_append, cLeafP, gramOpsC_eq, h1, h2, h3]

theorem cLeaf_guard {l : CLeaf} (hl : wfCLeaf l) (rest : Str) :
    ∀ s1, (lit cKwG.not_ ((printCLeaf l).tail ++ rest)).bind seps1 ≠ some ('(' :: s1) := by
  cases l with
  | pres s =>
    simp only [printCLeaf, List.tail_cons, List.append_assoc, List.cons_append, List.nil_append]
    exact notGuard _ gramNotC_all s _ (validName_all hl) (headNot_cons _ (by decide))
      (seps1_space_ne_paren (headNot_cons _ (by decide)) (by simp [dispPrC]))
  | cmp op s v =>
    simp only [printCLeaf, dispKwC_eq, List.tail_cons, List.append_assoc, List.cons_append,
      List.nil_append]
    exact notGuard _ gramNotC_all s _ (validName_all hl.1) (headNot_cons _ (by decide))
      (seps1_space_ne_paren (dispKw_head op _).1 (dispKw_head op _).2)

theorem cLeafP_length {f m : Nat} {s r : Str} {l : CLeaf} : cLeafP f m s = some (l, r) → r.length ≤ s.length := by
  fun_cases cLeafP f m s <;> intro h <;> cases h <;>
    (have := lexAttr_length ‹_›; have := seps1_length ‹_›; have := tryOps_length ‹_›; omega)

theorem printCLeaf_cons (l : CLeaf) : printCLeaf l = '(' :: (printCLeaf l).tail := by
  cases l <;> rfl

/-! ### leaf rules: `attrexp` -/

theorem lexPath_print {p : AttrPath} (hp : validPath p) (y : Str) :
    lexPath (printPath p ++ ' ' :: y) = some (p, ' ' :: y) := by
  obtain ⟨a, sub⟩ := p
  cases sub with
  | none =>
    have h1 : lexAttr (a ++ ' ' :: y) = some (a, ' ' :: y) := lexAttr_name hp.1 (headNot_cons _ (by decide))
    simp [lexPath, printPath, h1]
  | some sub =>
    have hs : validName sub = true := hp.2
    have h1 : lexAttr (a ++ '.' :: (sub ++ ' ' :: y)) = some (a, '.' :: (sub ++ ' ' :: y)) :=
      lexAttr_name hp.1 (headNot_cons _ (by decide))
    have h2 : lexAttr (sub ++ ' ' :: y) = some (sub, ' ' :: y) := lexAttr_name hs (headNot_cons _ (by decide))
    simp [lexPath, printPath, h1, h2]

theorem path_guard {p : AttrPath} (hp : validPath p) {y : Str} (hy : HeadNot isSep y) (hy2 : ∀ s1, y ≠ '(' :: s1) :
    ∀ s1, (lit fKwG.not_ (printPath p ++ ' ' :: y)).bind seps1 ≠ some ('(' :: s1) := by
  obtain ⟨a, sub⟩ := p
  cases sub with
  | none =>
    exact notGuard _ gramNot_all a _ (validName_all hp.1) (headNot_cons _ (by decide))
      (seps1_space_ne_paren hy hy2)
  | some sub =>
    simp only [printPath, List.append_assoc, List.cons_append]
    exact notGuard _ gramNot_all a _ (validName_all hp.1) (headNot_cons _ (by decide))
      (by simp [seps1, isSep])

theorem fLeafP_paren (f m : Nat) (s : Str) : fLeafP f m ('(' :: s) = none := by
  simp [fLeafP, attrexp, lexPath, lexAttr, isAttrFirst]

theorem fLeafP_attrexp {s : Str} {a s1 : Str} (f m : Nat) (h : lexAttr s = some (a, s1)) (hb : ∀ s2, s1 ≠ '[' :: s2) :
    fLeafP f m s = attrexp s := by
  unfold fLeafP
  simp only [h]
  split
  · next heq =>
    split at heq
    · next s2 h2 =>
      cases h2
      exact absurd rfl (hb _)
    · cases heq
  · rfl

theorem fLeafP_path {p : AttrPath} (hp : validPath p) (f m : Nat) (y : Str) :
    fLeafP f m (printPath p ++ ' ' :: y) = attrexp (printPath p ++ ' ' :: y) := by
  obtain ⟨a, sub⟩ := p
  cases sub with
  | none => exact fLeafP_attrexp f m (lexAttr_name hp.1 (headNot_cons _ (by decide))) (by simp)
  | some sub =>
    have := lexAttr_name (s := '.' :: (sub ++ ' ' :: y)) hp.1 (headNot_cons _ (by decide))
    exact fLeafP_attrexp f m (by simpa [printPath] using this) (by simp)

theorem fLeafP_pres {p : AttrPath} (hp : validPath p) (f m : Nat) (rest : Str) :
    fLeafP f m (printPath p ++ ' ' :: (dispPr ++ ')' :: rest)) = some (.pres p, ')' :: rest) := by
  have h2 : seps1 (' ' :: (dispPr ++ ')' :: rest)) = some (dispPr ++ ')' :: rest) :=
    seps1_space (headNot_cons _ (by decide))
  simp only [fLeafP_path hp, attrexp, lexPath_print hp, h2, tryOps_pres]

theorem fLeafP_cmp (op : Op) {p : AttrPath} (hp : validPath p) {v : Val} (hv : wfVal v) (f m : Nat)
    (rest : Str) :
    fLeafP f m (printPath p ++ ' ' :: (dispKw op ++ ' ' :: (printVal v ++ ')' :: rest)))
      = some (.cmp op p v, ')' :: rest) := by
  have h2 := seps1_space (dispKw_head op (' ' :: (printVal v ++ ')' :: rest))).1
  have h3 := tryOps_cmp op hv rest
  simp only [List.append_assoc, List.cons_append] at h3
  simp only [fLeafP_path hp, attrexp, lexPath_print hp, h2, h3]

theorem lexPath_length {s r : Str} {p : AttrPath} : lexPath s = some (p, r) → r.length < s.length := by
  fun_cases lexPath s <;> intro h <;> cases h <;> have := lexAttr_length ‹lexAttr s = _›
  · -- `a.sub`
    have := lexAttr_length ‹lexAttr _ = some (_, r)›; simp only [List.length_cons] at *; omega
  · assumption  -- `a.` without a name behind the dot: the dot is left
  · assumption  -- `a` alone

theorem attrexp_length {s r : Str} {l : FLeaf} : attrexp s = some (l, r) → r.length ≤ s.length := by
  fun_cases attrexp s <;> intro h <;> cases h <;>
    (have := lexPath_length ‹_›; have := seps1_length ‹_›; have := tryOps_length ‹_›; omega)

end Kanidm.ScimFilter
