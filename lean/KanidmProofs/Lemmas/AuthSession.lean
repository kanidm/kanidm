import KanidmModel.AuthSession
/-!
Specification vocabulary and lemmas for C27 (`KanidmProofs/C27.lean`).  What a step does to a session in
progress is a decidable specification (`stepSpec`), settled by evaluation over every handler state and every
step; the trace theorems follow by induction on the step list from the invariant that a session whose state
is `Success` has accepted exactly the factors of its handler.
-/
namespace Kanidm.AuthSession
open Kanidm.Gen.AuthSession

/-- Terminal states: `Success`, `Denied`, and "no session was stored". -/
def State.terminal : State → Bool
  | .noSession | .success | .denied _ => true
  | _ => false

/-- The factors a handler still requires (by `AuthCredential` variant, in order), or `none`
if it is in a state from which it can never succeed. -/
def remaining : Handler → Option (List CredKind)
  | .anonymous => some (acceptedCreds .anonymous)
  | .password _ => some (acceptedCreds .password)
  | .passwordTotp .init .init => some (acceptedCreds .passwordTotp)
  | .passwordTotp .success .init => some ((acceptedCreds .passwordTotp).drop 1)
  | .passwordBackupCode .init .init => some (acceptedCreds .passwordBackupCode)
  | .passwordBackupCode .success .init => some ((acceptedCreds .passwordBackupCode).drop 1)
  | .passwordSecurityKey .init .init => some (acceptedCreds .passwordSecurityKey)
  | .passwordSecurityKey .success .init => some ((acceptedCreds .passwordSecurityKey).drop 1)
  | .passkey .init => some (acceptedCreds .passkey)
  | .attestedPasskey .init => some (acceptedCreds .attestedPasskey)
  | .oAuth2Trust => some (acceptedCreds .oAuth2Trust)
  | _ => none

/-- A handler as `AuthSession::new` builds it: nothing verified yet. -/
def fresh (h : Handler) : Bool := remaining h == some (acceptedCreds h.kind)

/-- The verifier(s) the handler kind consults accepted this credential. -/
def verifiedFor (k : HKind) : Cred → Bool
  | .passkey ok idKnown attOk => ok && idKnown && (k != .attestedPasskey || attOk)
  | c => c.verified

/-- `get_credential_uuid` is `Some` for this handler kind: `auth` consults the soft lock. -/
def lockConsulted : HKind → Bool
  | .password | .passwordTotp | .passwordBackupCode => true
  | _ => false

theorem credUuid_inProgress (h : Handler) :
    credUuid (.inProgress h) = some (lockConsulted h.kind) := by
  cases h <;> rfl

theorem step_terminal (s : State) (hs : s.terminal = true) (st : Step) :
    (step s st).1 = s ∧ (step s st).2.isErr = true := by
  obtain ⟨act, locked⟩ := st
  cases s <;> simp [State.terminal] at hs <;> cases act <;>
    simp [step, authBegin, authCred, startSession, credUuid, Reply.isErr]

theorem step_init_cred (hs : List Handler) (c : Cred) (l : Bool) :
    step (.init hs) ⟨.cred c, l⟩ = (.init hs, .err .au0001InvalidState) := by
  simp [step, authCred, credUuid]

theorem step_init_begin (hs : List Handler) (m : Mech) (l : Bool) :
    step (.init hs) ⟨.begin m, l⟩ =
      match (hs.filter fun h => canProceed h.kind m).getLast? with
      | none => (.denied .badCredentials, .err .au0001InvalidState)
      | some h => if lockConsulted h.kind && l then (.denied .locked, .denied .locked)
                  else (.inProgress h, nextAuthState h) := by
  simp only [step, authBegin, startSession]
  cases hl : (hs.filter fun h => canProceed h.kind m).getLast? with
  | none => simp [credUuid]
  | some h => simp [credUuid_inProgress]

theorem step_init_begin_none (hs : List Handler) (m : Mech) (l : Bool)
    (hnone : ∀ h ∈ hs, canProceed h.kind m = false) :
    step (.init hs) ⟨.begin m, l⟩ = (.denied .badCredentials, .err .au0001InvalidState) := by
  have : (hs.filter fun h => canProceed h.kind m) = [] :=
    List.filter_eq_nil_iff.mpr fun h hh => by simp [hnone h hh]
  simp [step_init_begin, this]

theorem step_inProgress_begin (h : Handler) (m : Mech) (l : Bool) :
    step (.inProgress h) ⟨.begin m, l⟩ =
      if lockConsulted h.kind && l then (.denied .locked, .denied .locked)
      else (.inProgress h, .err .invalidAuthState) := by
  simp [step, authBegin, startSession, credUuid_inProgress]

theorem step_inProgress_cred (h : Handler) (c : Cred) (l : Bool) :
    step (.inProgress h) ⟨.cred c, l⟩ =
      if lockConsulted h.kind && l then (.denied .locked, .denied .locked)
      else validateCreds (.inProgress h) c := by
  simp [step, authCred, credUuid_inProgress]

theorem step_final (s : State) (st : Step) :
    (∀ t, (step s st).2 = .success t → (step s st).1 = .success) ∧
    (∀ r, (step s st).2 = .denied r → (step s st).1 = .denied r) := by
  cases ht : s.terminal with
  | true =>
    have := (step_terminal s ht st).2
    constructor <;> intro x hx <;> simp [hx, Reply.isErr] at this
  | false =>
    obtain ⟨act, l⟩ := st
    cases s with
    | init hs =>
      cases act with
      | cred c => simp [step_init_cred]
      | begin m =>
        rw [step_init_begin]
        split
        · simp
        next h _ =>
          split
          · simp
          · cases h <;> simp [nextAuthState]
    | inProgress h =>
      cases act with
      | begin m => rw [step_inProgress_begin]; split <;> simp
      | cred c =>
        rw [step_inProgress_cred]
        split
        · simp
        · simp only [validateCreds]
          split <;> simp
    | _ => cases ht

theorem runState_terminal (s : State) (hs : s.terminal = true) (steps : List Step) :
    runState s steps = s := by
  induction steps with
  | nil => rfl
  | cons st rest ih => simp [runState, (step_terminal s hs st).1, ih]

theorem runState_append (s : State) (pre post : List Step) :
    runState s (pre ++ post) = runState (runState s pre) post := by
  induction pre generalizing s with
  | nil => rfl
  | cons p pre ih => exact ih _

theorem run_terminal (s : State) (hs : s.terminal = true) (steps : List Step) :
    ∀ r ∈ run s steps, r.isErr = true := by
  induction steps with
  | nil => simp [run]
  | cons st rest ih =>
    intro r hr
    simp only [run, (step_terminal s hs st).1, List.mem_cons] at hr
    rcases hr with h | h
    · rw [h]; exact (step_terminal s hs st).2
    · exact ih r h

theorem accepted_terminal (s : State) (hs : s.terminal = true) (steps : List Step) :
    accepted s steps = [] := by
  induction steps with
  | nil => rfl
  | cons st rest ih =>
    simp [accepted, (step_terminal s hs st).1, (step_terminal s hs st).2, ih]

theorem accepted_cons_err {s s' : State} {r : Reply} (st : Step) (rest : List Step)
    (h : step s st = (s', r)) (hr : r.isErr = true) : accepted s (st :: rest) = accepted s' rest := by
  rw [accepted, h, if_pos hr]

theorem accepted_cons_ok {s s' : State} {r : Reply} (st : Step) (rest : List Step)
    (h : step s st = (s', r)) (hr : r.isErr = false) :
    accepted s (st :: rest) = st :: accepted s' rest := by
  rw [accepted, h, if_neg (by simp [hr])]

/-- What one step does to a session in progress (`h` not the OAuth2 handler), as a decidable check; read as a
proposition: `step_inProgress`. -/
def stepSpec (h : Handler) (st : Step) : Bool :=
  let r := step (.inProgress h) st
  match r.2 with
  | .err _ => r.1 == .inProgress h && (match st.act with | .begin _ => true | .cred _ => false)
  | .denied x => r.1 == .denied x
  | .success _ =>
    r.1 == .success &&
    (match st.act with
     | .cred c => remaining h == some [c.kind] && verifiedFor h.kind c &&
                  !(lockConsulted h.kind && st.locked)
     | .begin _ => false)
  | .continue_ _ =>
    (match st.act, r.1 with
     | .cred c, .inProgress h' =>
        h'.kind == h.kind && (remaining h').isSome &&
        remaining h == (remaining h').map (c.kind :: ·) && verifiedFor h.kind c &&
        !(lockConsulted h.kind && st.locked)
     | _, _ => false)
  | .external => false
  | .choose _ => false

/-! A statement about every value of one of the finite types of the model is decidable, so that a fact
about a generated table, or about every handler and every step, can be settled by evaluation
(`open Finite in decide +kernel`).  Scoped, so that no statement elaborates with them; low priority, so
that a bounded `∀ x ∈ l` keeps walking its list. -/
namespace Finite

scoped instance (priority := low) {p : VState → Prop} [DecidablePred p] : Decidable (∀ v, p v) :=
  decidable_of_iff (p .init ∧ p .success ∧ p .fail)
    ⟨fun h v => by cases v <;> simp [h], fun h => ⟨h _, h _, h _⟩⟩

scoped instance (priority := low) {p : ExtOutcome → Prop} [DecidablePred p] : Decidable (∀ o, p o) :=
  decidable_of_iff (p .success ∧ p .external ∧ p .denied)
    ⟨fun h o => by cases o <;> simp [h], fun h => ⟨h _, h _, h _⟩⟩

scoped instance (priority := low) {p : HKind → Prop} [DecidablePred p] : Decidable (∀ k, p k) :=
  decidable_of_iff (p .anonymous ∧ p .password ∧ p .passwordTotp ∧ p .passwordBackupCode ∧
      p .passwordSecurityKey ∧ p .passkey ∧ p .attestedPasskey ∧ p .oAuth2Trust)
    ⟨fun h k => by cases k <;> simp [h], fun h => ⟨h _, h _, h _, h _, h _, h _, h _, h _⟩⟩

scoped instance (priority := low) {p : Mech → Prop} [DecidablePred p] : Decidable (∀ m, p m) :=
  decidable_of_iff (p .anonymous ∧ p .password ∧ p .passwordBackupCode ∧ p .passwordTotp ∧
      p .passwordSecurityKey ∧ p .passkey ∧ p .oAuth2Trust)
    ⟨fun h m => by cases m <;> simp [h], fun h => ⟨h _, h _, h _, h _, h _, h _, h _⟩⟩

scoped instance (priority := low) {p : Handler → Prop} [DecidablePred p] : Decidable (∀ h, p h) :=
  decidable_of_iff (p .anonymous ∧ (∀ g, p (.password g)) ∧ (∀ m q, p (.passwordTotp m q)) ∧
      (∀ m q, p (.passwordBackupCode m q)) ∧ (∀ m q, p (.passwordSecurityKey m q)) ∧
      (∀ s, p (.passkey s)) ∧ (∀ s, p (.attestedPasskey s)) ∧ p .oAuth2Trust)
    ⟨fun h x => by cases x <;> simp [h],
     fun h => ⟨h _, fun _ => h _, fun _ _ => h _, fun _ _ => h _, fun _ _ => h _, fun _ => h _,
       fun _ => h _, h _⟩⟩

scoped instance (priority := low) {p : Cred → Prop} [DecidablePred p] : Decidable (∀ c, p c) :=
  decidable_of_iff (p .anonymous ∧ (∀ a b, p (.password a b)) ∧ (∀ a, p (.totp a)) ∧
      (∀ a, p (.securityKey a)) ∧ (∀ a, p (.backupCode a)) ∧ (∀ a b d, p (.passkey a b d)) ∧
      (∀ o, p (.oauth2 o)))
    ⟨fun h c => by cases c <;> simp [h],
     fun h => ⟨h _, fun _ _ => h _, fun _ => h _, fun _ => h _, fun _ => h _, fun _ _ _ => h _,
       fun _ => h _⟩⟩

scoped instance (priority := low) {p : Primary → Prop} [DecidablePred p] : Decidable (∀ x, p x) :=
  decidable_of_iff (p .password ∧ p .generatedPassword ∧ (∀ t s b, p (.passwordMfa t s b)) ∧ p .webauthn)
    ⟨fun h x => by cases x <;> simp [h], fun h => ⟨h _, h _, fun _ _ _ => h _, h _⟩⟩

scoped instance (priority := low) {p : Step → Prop} [DecidablePred p] : Decidable (∀ st, p st) :=
  decidable_of_iff (∀ l, (∀ m, p ⟨.begin m, l⟩) ∧ ∀ c, p ⟨.cred c, l⟩)
    ⟨fun h ⟨act, l⟩ => by cases act <;> simp [h], fun h l => ⟨fun _ => h _, fun _ => h _⟩⟩

end Finite

theorem stepSpec_all :
    ∀ (h : Handler), h.kind ≠ .oAuth2Trust → ∀ (st : Step), stepSpec h st = true := by
  open Finite in decide +kernel

theorem step_inProgress (h : Handler) (hne : h.kind ≠ .oAuth2Trust) (st : Step) :
    (∃ m e, st.act = .begin m ∧ step (.inProgress h) st = (.inProgress h, .err e)) ∨
    (∃ x, step (.inProgress h) st = (.denied x, .denied x)) ∨
    (∃ c, st.act = .cred c ∧ verifiedFor h.kind c = true ∧
      (lockConsulted h.kind && st.locked) = false ∧
      ((∃ t, step (.inProgress h) st = (.success, .success t) ∧ remaining h = some [c.kind]) ∨
       (∃ h' al ks, step (.inProgress h) st = (.inProgress h', .continue_ al) ∧
          h'.kind = h.kind ∧ remaining h' = some ks ∧ remaining h = some (c.kind :: ks)))) := by
  have sp := stepSpec_all h hne st
  unfold stepSpec at sp
  obtain ⟨act, l⟩ := st
  generalize step (.inProgress h) ⟨act, l⟩ = r at sp ⊢
  obtain ⟨s', rep⟩ := r
  cases rep with
  | err e =>
    cases act with
    | begin m => simp at sp; subst sp; exact Or.inl ⟨m, e, rfl, rfl⟩
    | cred c => simp at sp
  | denied x => simp at sp; subst sp; exact Or.inr (Or.inl ⟨x, rfl⟩)
  | success t =>
    cases act with
    | begin m => simp at sp
    | cred c =>
      simp only [Bool.and_eq_true, beq_iff_eq, Bool.not_eq_true'] at sp
      obtain ⟨rfl, ⟨hrem, hver⟩, hlock⟩ := sp
      exact Or.inr (Or.inr ⟨c, rfl, hver, hlock, Or.inl ⟨t, rfl, hrem⟩⟩)
  | continue_ al =>
    cases act with
    | begin m => simp at sp
    | cred c =>
      cases s' with
      | inProgress h' =>
        simp only [Bool.and_eq_true, beq_iff_eq, Bool.not_eq_true'] at sp
        obtain ⟨⟨⟨⟨hk, hsome⟩, hrem⟩, hver⟩, hlock⟩ := sp
        obtain ⟨ks, hks⟩ := Option.isSome_iff_exists.mp hsome
        exact Or.inr (Or.inr ⟨c, rfl, hver, hlock,
          Or.inr ⟨h', al, ks, rfl, hk, hks, by rw [hrem, hks]; rfl⟩⟩)
      | _ => simp at sp
  | external | choose _ => simp at sp

theorem inProgress_trace : ∀ (steps : List Step) (h : Handler), h.kind ≠ .oAuth2Trust →
    runState (.inProgress h) steps = .success →
    ∃ cs : List Cred,
      remaining h = some (cs.map Cred.kind) ∧
      (accepted (.inProgress h) steps).map (·.act) = cs.map Act.cred ∧
      (∀ c ∈ cs, verifiedFor h.kind c = true) ∧
      (lockConsulted h.kind = true → ∀ x ∈ accepted (.inProgress h) steps, x.locked = false)
  | [], h, _, hs => by cases hs
  | p :: rest, h, hne, hs => by
    rw [runState] at hs
    rcases step_inProgress h hne p with ⟨m, e, _, hp⟩ | ⟨x, hp⟩ |
      ⟨c, hact, hver, hlock, ⟨t, hp, hrem⟩ | ⟨h', al, ks, hp, hk, hks, hrem⟩⟩
    · rw [hp] at hs
      rw [accepted_cons_err p rest hp rfl]
      exact inProgress_trace rest h hne hs
    · rw [hp, runState_terminal _ rfl] at hs
      cases hs
    · rw [accepted_cons_ok p rest hp rfl, accepted_terminal .success rfl]
      exact ⟨[c], hrem, congrArg (· :: []) hact, by simpa using hver,
        fun hl => by simpa [hl] using hlock⟩
    · rw [hp] at hs
      obtain ⟨cs, hkinds, hacts, hvers, hunlocked⟩ := inProgress_trace rest h' (hk ▸ hne) hs
      rw [hk] at hvers hunlocked
      rw [hks] at hkinds
      rw [accepted_cons_ok p rest hp rfl]
      refine ⟨c :: cs, by rw [hrem, Option.some.inj hkinds]; rfl, ?_, ?_, ?_⟩
      · rw [List.map_cons, hacts, hact]
        rfl
      · exact List.forall_mem_cons.mpr ⟨hver, hvers⟩
      · intro hl
        exact List.forall_mem_cons.mpr ⟨by simpa [hl] using hlock, hunlocked hl⟩

theorem nextAuthState_not_err (h : Handler) : (nextAuthState h).isErr = false := by
  cases h <;> rfl

theorem init_trace : ∀ (steps : List Step) (hs : List Handler),
    (∀ h ∈ hs, h.kind ≠ .oAuth2Trust) → (∀ h ∈ hs, fresh h = true) →
    runState (.init hs) steps = .success →
    ∃ (m : Mech) (h : Handler) (cs : List Cred),
      h ∈ hs ∧ canProceed h.kind m = true ∧
      (accepted (.init hs) steps).map (·.act) = .begin m :: cs.map Act.cred ∧
      cs.map Cred.kind = acceptedCreds h.kind ∧
      (∀ c ∈ cs, verifiedFor h.kind c = true) ∧
      (lockConsulted h.kind = true → ∀ x ∈ accepted (.init hs) steps, x.locked = false)
  | [], _, _, _, hsucc => by cases hsucc
  | ⟨.cred c, l⟩ :: rest, hs, hne, hfresh, hsucc => by
    rw [runState, step_init_cred] at hsucc
    rw [accepted_cons_err _ rest (step_init_cred hs c l) rfl]
    exact init_trace rest hs hne hfresh hsucc
  | ⟨.begin m, l⟩ :: rest, hs, hne, hfresh, hsucc => by
    have hb := step_init_begin hs m l
    rw [runState] at hsucc
    cases hl : (hs.filter fun h => canProceed h.kind m).getLast? with
    | none =>
      rw [hl] at hb
      rw [hb, runState_terminal _ rfl] at hsucc
      cases hsucc
    | some h =>
      rw [hl] at hb
      obtain ⟨hmem, hcp⟩ := List.mem_filter.mp (List.mem_of_getLast? hl)
      cases hlk : (lockConsulted h.kind && l) with
      | true =>
        simp only [hlk, if_true] at hb
        rw [hb, runState_terminal _ rfl] at hsucc
        cases hsucc
      | false =>
        simp only [hlk, Bool.false_eq_true, if_false] at hb
        rw [hb] at hsucc
        obtain ⟨cs, hkinds, hacts, hvers, hunlocked⟩ := inProgress_trace rest h (hne h hmem) hsucc
        have hfr := hfresh h hmem
        simp only [fresh, beq_iff_eq] at hfr
        rw [hfr] at hkinds
        rw [accepted_cons_ok _ rest hb (nextAuthState_not_err h)]
        refine ⟨m, h, cs, hmem, hcp, ?_, (Option.some.inj hkinds).symm, hvers, ?_⟩
        · rw [List.map_cons, hacts]
        · intro hl'
          exact List.forall_mem_cons.mpr ⟨by simpa [hl'] using hlk, hunlocked hl'⟩

theorem mem_ite_snoc {α : Type} {c : Bool} {l : List α} {x h : α}
    (hm : h ∈ if c then l ++ [x] else l) : h ∈ l ∨ (c = true ∧ h = x) := by
  cases c with
  | false => exact Or.inl hm
  | true =>
    rcases List.mem_append.mp hm with hm | hm
    · exact Or.inl hm
    · exact Or.inr ⟨rfl, List.mem_singleton.mp hm⟩

theorem mem_accountHandlers {a : Acct} {h : Handler} (hm : h ∈ accountHandlers a) :
    (∃ p, a.primary = some p ∧ h ∈ primaryHandlers p builders []) ∨
      h = .attestedPasskey .init ∨ h = .passkey .init ∨ (a.oauth2 = true ∧ h = .oAuth2Trust) := by
  have prim : ∀ {h}, (h ∈ match a.primary with
        | some p => primaryHandlers p builders []
        | none => []) → ∃ p, a.primary = some p ∧ h ∈ primaryHandlers p builders [] := by
    intro h hm
    cases hp : a.primary with
    | none => rw [hp] at hm; cases hm
    | some p => rw [hp] at hm; exact ⟨p, rfl, hm⟩
  simp only [accountHandlers] at hm
  rcases mem_ite_snoc hm with hm | ho
  · split at hm
    · rcases mem_ite_snoc hm with hm | ⟨_, rfl⟩
      · exact Or.inl (prim hm)
      · exact Or.inr (Or.inl rfl)
    · rcases mem_ite_snoc hm with hm | ⟨_, rfl⟩
      · exact Or.inl (prim hm)
      · exact Or.inr (Or.inr (Or.inl rfl))
  · exact Or.inr (Or.inr (Or.inr ho))

theorem primaryHandlers_spec (p : Primary) : ∀ h ∈ primaryHandlers p builders [],
    fresh h = true ∧ h.kind ≠ .oAuth2Trust ∧
      (h.kind = .password → p = .password ∨ p = .generatedPassword) := by
  revert p
  open Finite in decide +kernel

theorem newHandlers_ok {a : Acct} {ct : Nat} {hs : List Handler}
    (hnew : newHandlers a ct = .ok hs) : hs = [.anonymous] ∨ hs = accountHandlers a := by
  revert hnew
  fun_cases newHandlers a ct
  case case1 => rintro ⟨⟩; exact .inl rfl  -- the anonymous account
  case case3 => rintro ⟨⟩; exact .inr rfl  -- another account, with at least one handler
  all_goals nofun

/-- What holds of a handler `AuthSession::new` builds for account `a`. -/
structure Built (a : Acct) (h : Handler) : Prop where
  fresh : fresh h = true
  oauth2 : a.oauth2 = false → h.kind ≠ .oAuth2Trust
  passwordOnly : h.kind = .password → a.primary = some .password ∨ a.primary = some .generatedPassword

theorem newHandlers_spec {a : Acct} {ct : Nat} {hs : List Handler}
    (hnew : newHandlers a ct = .ok hs) : ∀ h ∈ hs, Built a h := by
  intro h hm
  rcases newHandlers_ok hnew with rfl | rfl
  · rw [List.mem_singleton.mp hm]
    exact ⟨rfl, fun _ => by decide, nofun⟩
  · rcases mem_accountHandlers hm with ⟨p, hp, hmem⟩ | rfl | rfl | ⟨ho, rfl⟩
    · obtain ⟨h1, h2, h3⟩ := primaryHandlers_spec p h hmem
      exact ⟨h1, fun _ => h2, fun hk => hp ▸ (h3 hk).imp (congrArg some) (congrArg some)⟩
    · exact ⟨rfl, fun _ => by decide, nofun⟩
    · exact ⟨rfl, fun _ => by decide, nofun⟩
    · exact ⟨rfl, fun hno => absurd (ho.symm.trans hno) nofun, nofun⟩

end Kanidm.AuthSession
