/-! Lists of records keyed by a `Nat` field (`key`): the stored entries of the server models by uuid or id, and
any other table read by a key.  The lookup is spelt `l.find? (fun e => key e == x)`, which is what each model's own
`find` unfolds to, so `Keyed.find_some Entry.id h` applies to `h : find es x = some e` as it stands (pass the
projection constant as `key`).  Distinct keys are `(l.map key).Nodup`.
At the end, outside the namespace `Keyed` (`Kanidm.lookup_mem`, `Kanidm.lookup_of_mem_nodup`, `Kanidm.lookup_filter_ne`),
facts about association lists read with core's `List.lookup` that core does not state. -/
namespace Kanidm.Keyed
variable {α : Type} (key : α → Nat)

theorem find_some {l : List α} {x : Nat} {e : α} (h : l.find? (fun e => key e == x) = some e) :
    e ∈ l ∧ key e = x :=
  ⟨List.mem_of_find?_eq_some h, by simpa using List.find?_some h⟩

theorem find_none_iff {l : List α} {x : Nat} :
    l.find? (fun e => key e == x) = none ↔ ∀ e ∈ l, key e ≠ x := by
  simp [List.find?_eq_none]

theorem filter_of_mem {l : List α} (hnd : (l.map key).Nodup) {e : α} (he : e ∈ l) :
    l.filter (fun a => key a == key e) = [e] := by
  induction l with
  | nil => cases he
  | cons a l ih =>
    rw [List.map_cons, List.nodup_cons] at hnd
    rcases List.mem_cons.mp he with rfl | hl
    · rw [List.filter_cons, if_pos (beq_self_eq_true _), List.filter_eq_nil_iff.mpr]
      exact fun b hb hk => hnd.1 (eq_of_beq hk ▸ List.mem_map_of_mem hb)
    · rw [List.filter_cons,
        if_neg (Bool.eq_false_iff.mp (beq_false_of_ne fun hk : key a = key e =>
          hnd.1 (hk ▸ List.mem_map_of_mem hl)))]
      exact ih hnd.2 hl

theorem filter_of_find {l : List α} (hnd : (l.map key).Nodup) {x : Nat} {e : α}
    (h : l.find? (fun e => key e == x) = some e) : l.filter (fun e => key e == x) = [e] := by
  obtain ⟨he, rfl⟩ := find_some key h
  exact filter_of_mem key hnd he

theorem find_of_mem {l : List α} (hnd : (l.map key).Nodup) {e : α} (he : e ∈ l) :
    l.find? (fun a => key a == key e) = some e := by
  rw [← List.head?_filter, filter_of_mem key hnd he]; rfl

theorem eq_of_key_eq {l : List α} (hnd : (l.map key).Nodup) {a b : α} (ha : a ∈ l) (hb : b ∈ l)
    (h : key a = key b) : a = b :=
  Option.some.inj ((find_of_mem key hnd ha).symm.trans (h ▸ find_of_mem key hnd hb))

theorem map_key_map {l : List α} {f : α → α} (hf : ∀ e ∈ l, key (f e) = key e) :
    (l.map f).map key = l.map key := by
  rw [List.map_map]
  exact List.map_congr_left hf

theorem nodup_map {l : List α} {f : α → α} (hf : ∀ e ∈ l, key (f e) = key e) (h : (l.map key).Nodup) :
    ((l.map f).map key).Nodup :=
  (map_key_map key hf).symm ▸ h

theorem nodup_append {a b : List α} (ha : (a.map key).Nodup) (hb : (b.map key).Nodup)
    (h : ∀ x ∈ a, ∀ y ∈ b, key x ≠ key y) : ((a ++ b).map key).Nodup := by
  rw [List.map_append]
  refine List.nodup_append.mpr ⟨ha, hb, fun k hk k' hk' hkk => ?_⟩
  obtain ⟨x, hx, rfl⟩ := List.mem_map.mp hk
  obtain ⟨y, hy, rfl⟩ := List.mem_map.mp hk'
  exact h x hx y hy hkk

theorem find_map {l : List α} {f : α → α} (hf : ∀ e ∈ l, key (f e) = key e) (x : Nat) :
    (l.map f).find? (fun e => key e == x) = (l.find? (fun e => key e == x)).map f := by
  induction l with
  | nil => rfl
  | cons a l ih =>
    rw [List.map_cons, List.find?_cons, List.find?_cons, hf a List.mem_cons_self]
    split
    · rfl
    · exact ih fun e he => hf e (List.mem_cons_of_mem a he)

theorem find_filter {l : List α} (hnd : (l.map key).Nodup) (p : α → Bool) {x : Nat} {e : α}
    (h : l.find? (fun e => key e == x) = some e) :
    (l.filter p).find? (fun e => key e == x) = if p e then some e else none := by
  obtain ⟨he, rfl⟩ := find_some key h
  split
  · rename_i hp
    exact find_of_mem key ((List.filter_sublist.map key).nodup hnd) (List.mem_filter.mpr ⟨he, hp⟩)
  · rename_i hp
    refine (find_none_iff key).mpr fun a ha hk => hp ?_
    rw [← eq_of_key_eq key hnd (List.mem_filter.mp ha).1 he hk]
    exact (List.mem_filter.mp ha).2

theorem find_filter_key (p : Nat → Bool) (l : List α) (x : Nat) :
    (l.filter (fun e => p (key e))).find? (fun e => key e == x) =
      if p x then l.find? (fun e => key e == x) else none := by
  rw [List.find?_filter]
  cases hp : p x
  · exact List.find?_eq_none.mpr fun e _ h => by
      rw [decide_eq_true_eq] at h
      rw [eq_of_beq h.2, hp] at h
      exact Bool.false_ne_true h.1
  · -- on entries with key `x` the filter's test is `p x`, on the others the lookup's test fails anyway
    refine congrArg (List.find? · l) (funext fun a => ?_)
    cases hk : key a == x
    · simp
    · simp [eq_of_beq hk, hp]

theorem find_filter_ne (l : List α) {u x : Nat} (h : x ≠ u) :
    (l.filter (fun e => !(key e == u))).find? (fun e => key e == x) = l.find? (fun e => key e == x) :=
  (find_filter_key key (fun k => !(k == u)) l x).trans (if_pos (by simp [h]))

end Kanidm.Keyed

namespace Kanidm

theorem lookup_mem {α β : Type} [BEq α] [LawfulBEq α] {l : List (α × β)} {k : α} {v : β}
    (h : l.lookup k = some v) : (k, v) ∈ l := by
  obtain ⟨l₁, l₂, rfl, -⟩ := List.lookup_eq_some_iff.mp h
  exact List.mem_append_right _ List.mem_cons_self

theorem lookup_of_mem_nodup {α β : Type} [BEq α] [LawfulBEq α] {l : List (α × β)} {k : α} {v : β}
    (hn : (l.map (·.1)).Nodup) (h : (k, v) ∈ l) : l.lookup k = some v := by
  obtain ⟨s, t, rfl⟩ := List.append_of_mem h
  rw [List.map_append, List.nodup_append] at hn
  exact List.lookup_eq_some_iff.2 ⟨s, t, rfl, fun p hp =>
    bne_iff_ne.2 fun hkp => hn.2.2 _ (List.mem_map_of_mem hp) _ List.mem_cons_self hkp.symm⟩

theorem lookup_filter_ne {α β : Type} [BEq α] [LawfulBEq α] (l : List (α × β)) {b k : α} (h : k ≠ b) :
    (l.filter (fun p => !(p.1 == b))).lookup k = l.lookup k := by
  induction l with
  | nil => rfl
  | cons p rest ih =>
    obtain ⟨a, v⟩ := p
    rw [List.filter_cons]
    split
    · rw [List.lookup_cons, List.lookup_cons, ih]
    · next ha =>
      have : a = b := by simpa using ha
      rw [ih, List.lookup_cons, this, beq_false_of_ne h]

end Kanidm
