/-!
The validity-window test as the models write it: a lower and an upper bound, each optional, compared
with the current time by `≤` (`Account::check_within_valid_time`) or by `<`
(`RadiusAccount::is_within_valid_time`).
-/
namespace Kanidm

/-- Give `(R := (· ≤ ·))` where the goal does not show the relation. -/
theorem optBounds_iff {R : Nat → Nat → Prop} [DecidableRel R] (vf ex : Option Nat) (ct : Nat) :
    ((match vf with | some v => decide (R v ct) | none => true) &&
      (match ex with | some e => decide (R ct e) | none => true)) = true ↔
      (∀ v, vf = some v → R v ct) ∧ (∀ e, ex = some e → R ct e) := by
  cases vf <;> cases ex <;> simp

end Kanidm
