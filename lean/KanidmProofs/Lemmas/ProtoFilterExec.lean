import KanidmProofs.Lemmas.ProtoFilter
import KanidmProofs.C01
import KanidmModel.ProtoFilterExec
/-!
Lemmas for C41: the executed search (C02's `resolveIdx`/`optimise`, C01's `search`)
returns the standard answer whenever the translated filter means the standard meaning on every
entry and the finally resolved filter is safe.
-/
namespace Kanidm.ProtoFilter
open Kanidm.Filter

theorem lowerByte_eq : lowerByte = lowerNat := rfl

theorem ignoreHidden_matches (S : ValSem) (self : Val) (uuidA : Nat) (e : Entry) (classA : Nat)
    (tomb recy : Val) (fc : FC) :
    (ignoreHidden classA tomb recy fc).matches S self uuidA e =
      (visible classA tomb recy e && fc.matches S self uuidA e) := by
  simp [ignoreHidden, FC.matches, FC.matchesAll, FC.matchesAny, visible]

theorem exec_exact (S : ValSem) (hS : SubSem S) (w : World) (idx : Idx) (rep : Rep)
    (hI : IdxSound w idx) (lim : Limits) (c : AttrConsts) (self : Val) (m : Nat → IType → Option Nat)
    (sa sd : List F → List F) (hp : IsPerm sa) (hq : IsPerm sd) (classA : Nat) (tomb recy : Val)
    (fc : FC) (sem : Entry → Bool) (hsem : ∀ e, fc.matches S self c.uuidA e = sem e)
    (g : F) (hg : (ignoreHidden classA tomb recy fc).resolveIdx c self m = some g)
    (hsafe : (g.optimise sa sd).safe = true) :
    execSearch S lim w idx rep c self m sa sd classA tomb recy fc = some resLimit ∨
    execSearch S lim w idx rep c self m sa sd classA tomb recy fc =
      some (.ok (stdAnswer w classA tomb recy sem)) := by
  have := search_resolved_exact S hS w idx rep hI lim c self m sa sd hp hq hg hsafe
  simp only [ignoreHidden_matches, hsem] at this
  unfold execSearch
  rw [hg]
  exact this.imp (congrArg some) (congrArg some)

end Kanidm.ProtoFilter
