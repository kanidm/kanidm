import KanidmModel.OfflineCache
/-!
C44 — vocabulary (written from the property, not from the code) and lemmas for `KanidmProofs/C44.lean`. `Tracks` says that a list of events explains a change of
the held credentials (`credOf`). Every resolver function has one specification, which takes the function's
defining equation as hypothesis and speaks of the cache's own answer `(getCached st id).2`; a login attempt is
`Fresh` (what `authInit` promises of the session it opens), then `Verdict` (what the answer means on each path).
A sequential history `Tracks` from the fresh host (`reachable_tracks`); `Agree` ties the expected credential to the
last verified password.
-/
namespace Kanidm.OfflineCache
open Kanidm.Gen.HostAuthz (TokState RefreshAction refreshAction offlineState DirReply replyState replyNet)
open Kanidm.Gen.PwFormat (KdfTag fromDb)
open Kanidm.Gen.OfflineCache

/-- the credential this machine's provider makes from a password: HMAC-bound Argon2id under
this machine's key -/
def sealed (hostKey pw : Nat) : Blob := .kdf .TPM_ARGON2ID pw hostKey

/-- a value that was not sealed by this machine: nothing, junk, another kind of hash, or an
HMAC-bound credential under another key -/
def NotSealedHere (hostKey : Nat) (b : Option Blob) : Prop :=
  ∀ p, b ≠ some (sealed hostKey p)

/-- the most recent password the directory verified for `id` on this machine -/
def lastVerifiedStep (id : Nat) (acc : Option Nat) : Ev → Option Nat
  | .auth i p true => if i = id then some p else acc
  | _ => acc

def lastVerified (id : Nat) (evs : List Ev) : Option Nat :=
  evs.foldl (lastVerifiedStep id) none

/-- what the cached credential of `id` should be after the events so far -/
def expStep (hostKey id : Nat) (acc : Option Blob) : Ev → Option Blob
  | .auth i p true => if i = id then some (sealed hostKey p) else acc
  | .kdfFailed i => if i = id then none else acc
  | .purged i => if i = id then none else acc
  | .cleared => none
  | .planted i b => if i = id then b else acc
  | _ => acc

def expected (hostKey id : Nat) (evs : List Ev) : Option Blob :=
  evs.foldl (expStep hostKey id) none

/-- login attempts are not interleaved with anything -/
def Op.sequential : Op → Bool
  | .init _ _ => false
  | .stepS _ _ => false
  | _ => true

/-- the credential the host holds for an account -/
def credOf (st : St) (id : Nat) : Option Blob :=
  match st.cache id with
  | some r => r.tok.cred
  | none => none

/-- `e` explains how the held credentials changed between `st` and `st'` -/
def Tracks (hostKey : Nat) (st : St) (e : List Ev) (st' : St) : Prop :=
  ∀ j, credOf st' j = e.foldl (expStep hostKey j) (credOf st j)

/-- states reached by sequential histories from a fresh host, with the events so far -/
def Reachable (hostKey : Nat) (w : World) (st : St) (evs : List Ev) : Prop :=
  ∃ ops : List Op, (∀ op ∈ ops, op.sequential = true) ∧ exec hostKey ops = (w, st, evs)

theorem assoc_fromDb (t : KdfTag) : assoc t fromDb = some t := by
  cases t <;> decide

theorem assoc_ctxTable (t : KdfTag) :
    assoc t ctxTable = some (if t = .TPM_ARGON2ID then .hmac else .ignore) := by
  cases t <;> decide

theorem ctx_other (t : KdfTag) (h : t ≠ .TPM_ARGON2ID) : assoc t ctxTable = some .ignore := by
  rw [assoc_ctxTable, if_neg h]

theorem checkCached_tpm (hostKey pw key cred : Nat) :
    checkCached hostKey (some (.kdf .TPM_ARGON2ID pw key)) cred = (pw == cred && key == hostKey) := by
  simp [checkCached, chkSealedTags, assoc_fromDb, verifyCtx, assoc_ctxTable, chkFinal]

/-- A credential that is not HMAC-bound (plain Argon2id, PBKDF2, …) is refused for every password. -/
theorem unsealed_rejected (hostKey pw key cred : Nat) (t : KdfTag) (h : t ≠ .TPM_ARGON2ID) :
    checkCached hostKey (some (.kdf t pw key)) cred = false := by
  simp [checkCached, chkSealedTags, chkNotSealed, h]

/-- Without a cached credential nothing is accepted. -/
theorem no_cache_no_offline (hostKey cred : Nat) : checkCached hostKey none cred = false := by
  simp [checkCached, chkMissing]

theorem checkCached_junk (hostKey cred : Nat) : checkCached hostKey (some .junk) cred = false := by
  simp [checkCached, chkBadJson]

/-- A cached credential accepts a password iff it is the HMAC-bound Argon2id credential of
exactly that password under exactly this machine's key — for every stored value (none, junk, any
hash kind, any key). -/
theorem check_accepts_iff_sealed_here (hostKey cred : Nat) (b : Option Blob) :
    checkCached hostKey b cred = true ↔ b = some (sealed hostKey cred) := by
  match b with
  | none => simp [no_cache_no_offline]
  | some .junk => simp [checkCached_junk, sealed]
  | some (.kdf tag pw key) =>
    by_cases ht : tag = .TPM_ARGON2ID
    · subst ht
      rw [checkCached_tpm]
      simp [sealed]
    · rw [unsealed_rejected _ _ _ _ _ ht]
      simp [sealed, ht]

theorem updateCached_ok (hostKey cred : Nat) (old : Option Blob) :
    updateCached hostKey true cred old = some (sealed hostKey cred) := by
  simp [updateCached, updOnOk, updTag, updSealsWithHmacKey, sealed]

/-- KDF / TPM failure while storing clears the cached credential. -/
theorem kdf_failure_clears (hostKey p : Nat) (old : Option Blob) :
    updateCached hostKey false p old = none := by
  simp [updateCached, updOnKdfErr]

theorem Tracks.refl (hostKey : Nat) (st : St) : Tracks hostKey st [] st := fun _ => rfl

theorem Tracks.trans {hostKey : Nat} {a b c : St} {e f : List Ev}
    (h1 : Tracks hostKey a e b) (h2 : Tracks hostKey b f c) : Tracks hostKey a (e ++ f) c := by
  intro j
  rw [h2 j, h1 j, List.foldl_append]

/-- a state change that leaves every held credential alone is explained by events without effect -/
def Quiet (hostKey : Nat) (e : List Ev) : Prop :=
  ∀ j acc, e.foldl (expStep hostKey j) acc = acc

theorem Quiet.append {hostKey : Nat} {a b : List Ev} (ha : Quiet hostKey a) (hb : Quiet hostKey b) :
    Quiet hostKey (a ++ b) := by
  intro j acc
  rw [List.foldl_append, ha, hb]

theorem tracks_of_quiet {hostKey : Nat} {st st' : St} {e : List Ev}
    (hq : Quiet hostKey e) (hc : ∀ j, credOf st' j = credOf st j) : Tracks hostKey st e st' := by
  intro j
  rw [hq, hc]

@[simp] theorem credOf_net (st : St) (n : Net) (j : Nat) : credOf { st with net := n } j = credOf st j := rfl

theorem credOf_putRow (st : St) (id : Nat) (t : Tok) (j : Nat) :
    credOf (putRow st id t) j = if j = id then t.cred else credOf st j := by
  unfold credOf putRow upd
  by_cases h : j = id <;> simp [h]

theorem getCached_some {st : St} {id : Nat} {t : Tok} (h : (getCached st id).2 = some t) :
    st.nx id = false ∧ ∃ r, st.cache id = some r ∧ r.tok = t := by
  unfold getCached at h
  cases hnx : st.nx id <;> rw [hnx] at h
  · cases hc : st.cache id <;> rw [hc] at h <;> cases h
    exact ⟨rfl, _, rfl, rfl⟩
  · cases h

theorem carry_getCached {st : St} {id : Nat} (hnx : st.nx id = false) :
    carry (getCached st id).2 = credOf st id := by
  cases hc : st.cache id <;> simp [getCached, hnx, hc, carry, credOf]

theorem credOf_of_getCached {st : St} {id : Nat} {t : Tok} (h : (getCached st id).2 = some t) :
    credOf st id = t.cred := by
  rw [← carry_getCached (getCached_some h).1, h]; rfl

theorem attemptOnline_quiet (hostKey : Nat) {w : World} {n : Net} {on : Bool} {e : List Ev}
    (h : attemptOnline w = (n, on, e)) : Quiet hostKey e := by
  revert h
  fun_cases attemptOnline w <;> intro h <;> cases h <;> exact fun _ _ => rfl

theorem checkOnline_quiet (hostKey : Nat) {w : World} {n n' : Net} {on : Bool} {e : List Ev}
    (h : checkOnline w n = (n', on, e)) : Quiet hostKey e := by
  cases n with
  | check => exact attemptOnline_quiet hostKey h
  | _ => cases h; exact fun _ _ => rfl

theorem checkOnlineNow_quiet (hostKey : Nat) {w : World} {n n' : Net} {on : Bool} {e : List Ev}
    (h : checkOnlineNow w n = (n', on, e)) : Quiet hostKey e := by
  cases n with
  | check | later => exact attemptOnline_quiet hostKey h
  | _ => cases h; exact fun _ _ => rfl

theorem unixUserGet_spec (hostKey : Nat) {w : World} {net net' : Net} {id : Nat} {prev fresh : Option Tok}
    {r : TokState} {evs : List Ev} (h : unixUserGet w net id prev = (net', r, fresh, evs)) :
    Quiet hostKey evs ∧ ∀ t, fresh = some t → t.cred = carry prev := by
  revert h
  fun_cases unixUserGet w net id prev <;> intro h <;> cases h <;>
    have hq := checkOnline_quiet hostKey ‹checkOnline w net = _›
  · -- not online: nothing asked
    exact ⟨hq, fun _ ht => nomatch ht⟩
  · -- a token: it carries the previous credential
    exact ⟨hq.append fun _ _ => rfl, fun _ ht => by cases ht; rfl⟩
  · -- any other reply
    exact ⟨hq.append fun _ _ => rfl, fun _ ht => nomatch ht⟩

/-- what `get_usertoken` guarantees: the events explain the change, and the answer is the cache's -/
def GetOk (hostKey : Nat) (st : St) (id : Nat) (res : St × Option Tok × List Ev) : Prop :=
  Tracks hostKey st res.2.2 res.1 ∧ res.2.1 = (getCached res.1 id).2

theorem getCached_putRow (st : St) (id : Nat) (t : Tok) (hnx : st.nx id = false) :
    (getCached (putRow st id t) id).2 = some t := by
  simp [getCached, putRow, upd, hnx]

theorem getCached_nx (st : St) (id : Nat) (hnx : st.nx id = true) : (getCached st id).2 = none := by
  simp [getCached, hnx]

theorem tracks_purged (hostKey : Nat) (st : St) (id : Nat) (n : Net) (nx : Nat → Bool) :
    Tracks hostKey st [.purged id] { st with net := n, cache := upd st.cache id none, nx := nx } := by
  intro j
  by_cases hj : j = id
  · subst hj; simp [credOf, upd, expStep]
  · simp [credOf, upd, expStep, hj, Ne.symm hj]

theorem refresh_spec (hostKey : Nat) (w : World) (st : St) (id : Nat) (hnx : st.nx id = false) :
    GetOk hostKey st id (refreshUsertoken w st id) := by
  fun_cases refreshUsertoken w st id <;>
    obtain ⟨hq, hfresh⟩ := unixUserGet_spec hostKey ‹unixUserGet w st.net id _ = _›
  · -- a fresh token is stored: the row is rewritten with the credential it had
    refine ⟨tracks_of_quiet hq fun j => ?_, (getCached_putRow _ id _ hnx).symm⟩
    rw [credOf_putRow, credOf_net]
    split
    · next hj => rw [hj, hfresh _ rfl, carry_getCached hnx]
    · rfl
  · -- `update` without a token: the cached answer stands
    exact ⟨tracks_of_quiet hq fun _ => rfl, rfl⟩
  · -- gone, and there was a row: purged
    exact ⟨(tracks_of_quiet hq fun _ => rfl).trans (tracks_purged hostKey { st with net := _ } id _ _),
      (getCached_nx _ id (by simp [upd])).symm⟩
  · -- gone, and there was no row: only remembered as non-existent
    exact ⟨tracks_of_quiet hq fun _ => rfl, (getCached_nx _ id (by simp [upd])).symm⟩
  · -- the cached answer stands
    exact ⟨tracks_of_quiet hq fun _ => rfl, rfl⟩

theorem getCached_expired {st : St} {id : Nat} {o : Option Tok} (h : getCached st id = (.expired, o)) :
    st.nx id = false := by
  unfold getCached at h
  cases hnx : st.nx id
  · rfl
  · rw [hnx] at h; cases h

theorem getUsertoken_spec (hostKey : Nat) {w : World} {st st' : St} {id : Nat} {tok : Option Tok} {e : List Ev}
    (h : getUsertoken w st id = (st', tok, e)) : GetOk hostKey st id (st', tok, e) := by
  revert h
  fun_cases getUsertoken w st id <;> intro h
  · next hg =>  -- expired or missing: refreshed
    have := refresh_spec hostKey w st id (getCached_expired hg)
    rwa [h] at this
  · next hg => cases h; exact ⟨Tracks.refl _ _, (congrArg Prod.snd hg).symm⟩

/-- what `authInit` guarantees of the session it opens for `id`, in the state it leaves -/
def Fresh (st : St) (id : Nat) : Option Session → Prop
  | some (.online i) => i = id
  | some (.offline i snap) =>
    i = id ∧ st.net ≠ .online ∧ snap.cred.isSome = true ∧ (getCached st id).2 = some snap
  | _ => True

theorem initProbe_spec (hostKey : Nat) {w : World} {n net2 : Net} {c on : Bool} {e2 : List Ev}
    (h : (match initProbe c with
          | .isOnline => (n, decide (n = .online), [])
          | .attemptOnline => checkOnlineNow w n) = (net2, on, e2)) :
    Quiet hostKey e2 ∧ (c = true → on = false → net2 ≠ .online) := by
  cases c
  · exact ⟨checkOnlineNow_quiet hostKey h, fun hc => nomatch hc⟩
  · cases h; exact ⟨fun _ _ => rfl, fun _ h => of_decide_eq_false h⟩

theorem authInit_spec (hostKey : Nat) {w : World} {st st' : St} {id : Nat} {s : Option Session} {r : InitRes}
    {e : List Ev} (h : authInit w st id = (st', s, r, e)) : Tracks hostKey st e st' ∧ Fresh st' id s := by
  revert h
  fun_cases authInit w st id <;> intro h <;> obtain ⟨rfl, rfl, rfl, rfl⟩ := Prod.mk.injEq .. ▸ h <;>
    obtain ⟨htr, htok⟩ := getUsertoken_spec hostKey ‹getUsertoken w st id = _›
  · -- online session
    obtain ⟨hq, _⟩ := initProbe_spec hostKey ‹_ = (_, _, _)›
    exact ⟨htr.trans (tracks_of_quiet hq fun _ => rfl), rfl⟩
  · -- offline session: the token holds a credential, so the probe only asked `is_online`
    rename_i hoff hcred
    obtain ⟨hq, hne⟩ := initProbe_spec hostKey ‹_ = (_, _, _)›
    simp only [offlineInitNeedsCreds, hasOffline, Bool.not_true, Bool.false_or] at hcred
    exact ⟨htr.trans (tracks_of_quiet hq fun _ => rfl), rfl,
      hne hcred (by simpa [initGoesOnline] using hoff), hcred, htok.symm⟩
  · -- offline without a credential: no session
    obtain ⟨hq, _⟩ := initProbe_spec hostKey ‹_ = (_, _, _)›
    exact ⟨htr.trans (tracks_of_quiet hq fun _ => rfl), trivial⟩
  · -- no token: unknown account
    exact ⟨htr.trans (tracks_of_quiet (checkOnlineNow_quiet hostKey ‹_›) fun _ => rfl), trivial⟩

/-- `Fresh` speaks of no key. -/
theorem authInit_fresh {w : World} {st st' : St} {id : Nat} {s : Option Session} {r : InitRes} {e : List Ev}
    (h : authInit w st id = (st', s, r, e)) : Fresh st' id s :=
  (authInit_spec 0 h).2

theorem onlineStep_spec (hostKey : Nat) (w : World) (st : St) (id cred : Nat) :
    match onlineStep hostKey w st id cred with
    | (st', r, e) =>
      Tracks hostKey st e st' ∧ (r = .success → Ev.auth id cred true ∈ e) := by
  unfold onlineStep
  rcases w.auth id cred with ⟨cls, v⟩
  cases cls with
  | token =>
    -- the row of `id` is rewritten with the sealed credential, or with none when the KDF failed
    refine ⟨fun j => ?_, fun _ => List.mem_cons_self ..⟩
    show credOf (putRow st id _) j = _
    rw [credOf_putRow]
    cases w.kdfOk <;>
      simp [authUpdatesPw, updateCached_ok, kdf_failure_clears, expStep, eq_comm (a := id)] <;>
      split <;> rfl
  | _ => exact ⟨fun _ => rfl, fun h => (nomatch h)⟩

theorem offlineStep_spec (hostKey : Nat) (st : St) (id : Nat) (snap : Tok) (cred : Nat)
    (hrow : (getCached st id).2 = some snap) :
    match offlineStep hostKey st id snap cred with
    | (st', r) =>
      Tracks hostKey st [] st' ∧ st'.net = st.net ∧
        (r = .success ↔ checkCached hostKey (credOf st id) cred = true) := by
  have hcred := credOf_of_getCached hrow
  unfold offlineStep
  rw [hrow, hcred]
  cases hchk : checkCached hostKey snap.cred cred <;>
    simp [finish, offlineOnMatch, offlineOnMiss, pamOf, successWrites, offlineWritesCurrentElseSession,
      Tracks.refl]
  exact ⟨fun j => by rw [credOf_putRow]; split <;> simp [*], rfl⟩

/-- what the answer `r` to the password `cred` for account `id` says on each path, in the state and with the
events the attempt leaves -/
def Verdict (hostKey id cred : Nat) (st' : St) (e : List Ev) : Path → PamOut → Prop
  | .offline, r => st'.net ≠ .online ∧ (r = .success ↔ checkCached hostKey (credOf st' id) cred = true)
  | .online, r => r = .success → Ev.auth id cred true ∈ e
  | .none, r => r ≠ .success

theorem authStep_spec (hostKey : Nat) (w : World) (st : St) (id cred : Nat) {s : Option Session}
    (hs : Fresh st id s) :
    match authStep hostKey w st s cred with
    | (st', r, e) => Tracks hostKey st e st' ∧ Verdict hostKey id cred st' e (Session.path s) r := by
  match s, hs with
  | none, _ | some .closed, _ => exact ⟨Tracks.refl _ _, fun h => nomatch h⟩
  | some (.online _), rfl =>
    have ho := onlineStep_spec hostKey w st id cred
    exact ⟨ho.1, ho.2⟩
  | some (.offline _ snap), ⟨rfl, hnet, _, hrow⟩ =>
    obtain ⟨htr, hn, hiff⟩ := offlineStep_spec hostKey st _ snap cred hrow
    exact ⟨htr, hn ▸ hnet, (htr _).symm ▸ hiff⟩

theorem Verdict.append {hostKey id cred : Nat} {st' : St} {e : List Ev} {p : Path} {r : PamOut} (e1 : List Ev)
    (h : Verdict hostKey id cred st' e p r) : Verdict hostKey id cred st' (e1 ++ e) p r := by
  cases p
  · exact h
  · exact fun hr => List.mem_append_right _ (h hr)
  · exact h

theorem auth_spec (hostKey : Nat) (w : World) (st : St) (id cred : Nat)
    {w' : World} {st' : St} {r : Reply} {e : List Ev}
    (h : step hostKey w st (.auth id cred) = (w', st', r, e)) :
    Tracks hostKey st e st' ∧
      ∀ i p res, r = .auth i p (some res) → Verdict hostKey id cred st' e p res := by
  simp only [step] at h
  split at h
  · next st1 s e1 hi =>
    obtain ⟨htr, hs⟩ := authInit_spec hostKey hi
    have ha := authStep_spec hostKey w st1 id cred hs
    rcases authStep hostKey w st1 s cred with ⟨st2, r2, e2⟩
    cases h
    exact ⟨htr.trans ha.1, fun _ _ _ hr => by cases hr; exact ha.2.append e1⟩
  · next st1 s i e1 _ hi =>
    cases h
    exact ⟨(authInit_spec hostKey hi).1, fun _ _ _ hr => by cases hr⟩

theorem step_tracks (hostKey : Nat) (w : World) (st : St) (op : Op) (hseq : op.sequential = true) :
    Tracks hostKey st (step hostKey w st op).2.2.2 (step hostKey w st op).2.1 := by
  cases op with
  | auth id cred =>
    rcases hs : step hostKey w st (.auth id cred) with ⟨w', st', r, e⟩
    exact (auth_spec hostKey w st id cred hs).1
  | init _ _ => cases hseq
  | stepS _ _ => cases hseq
  | lookup id =>
    rcases hg : getUsertoken w st id with ⟨st', t, e⟩
    simp only [step, hg]
    exact (getUsertoken_spec hostKey hg).1
  | plant id b =>
    simp only [step]
    cases hc : st.cache id with
    | none => exact Tracks.refl _ _
    | some row =>
      intro j
      by_cases hj : j = id
      · subst hj; simp [credOf, upd, expStep, List.foldl]
      · simp [credOf, upd, expStep, List.foldl, hj, Ne.symm hj]
  | clearCache =>
    intro j
    simp [step, credOf, clearCache, expStep, List.foldl]
  | invalidate =>
    intro j
    simp only [step, credOf, invalidate, List.foldl]
    cases st.cache j <;> rfl
  | _ => exact fun _ => rfl

theorem execFrom_tracks (hostKey : Nat) (ops : List Op) (w : World) (st0 st : St) (evs : List Ev)
    (hseq : ∀ op ∈ ops, op.sequential = true) (h : Tracks hostKey st0 evs st) :
    Tracks hostKey st0 (execFrom hostKey w st evs ops).2.2 (execFrom hostKey w st evs ops).2.1 := by
  induction ops generalizing w st evs with
  | nil => exact h
  | cons op rest ih =>
    exact ih _ _ _ (fun o ho => hseq o (List.mem_cons_of_mem _ ho))
      (h.trans (step_tracks hostKey w st op (hseq op List.mem_cons_self)))

theorem reachable_tracks {hostKey : Nat} {w : World} {st : St} {evs : List Ev}
    (h : Reachable hostKey w st evs) : Tracks hostKey St.init evs st := by
  obtain ⟨ops, hseq, hex⟩ := h
  have := execFrom_tracks hostKey ops World.init St.init St.init [] hseq (Tracks.refl _ _)
  unfold exec at hex
  rw [hex] at this
  exact this

theorem tracks_history {hostKey : Nat} {w : World} {st st' : St} {evs e : List Ev}
    (hr : Reachable hostKey w st evs) (ht : Tracks hostKey st e st') (id : Nat) :
    credOf st' id = expected hostKey id (evs ++ e) :=
  -- a fresh host holds nothing (`credOf St.init id` is `none`), so `Tracks` from it unfolds to `expected`
  (reachable_tracks hr).trans ht id

/-- the expected credential, when sealed here, is sealed from the most recently verified password -/
def Agree (hostKey : Nat) (accE : Option Blob) (accL : Option Nat) : Prop :=
  ∀ p, accE = some (sealed hostKey p) → accL = some p

theorem sealed_inj {hostKey p q : Nat} (h : sealed hostKey p = sealed hostKey q) : p = q := by
  simpa [sealed] using h

theorem Agree.none {hostKey : Nat} {accL : Option Nat} : Agree hostKey none accL := fun _ h => nomatch h

theorem Agree.sealed {hostKey p : Nat} : Agree hostKey (some (sealed hostKey p)) (some p) :=
  fun _ h => congrArg some (sealed_inj (Option.some.inj h))

theorem Agree.unsealed {hostKey : Nat} {b : Option Blob} {accL : Option Nat} (h : NotSealedHere hostKey b) :
    Agree hostKey b accL :=
  fun p hp => absurd hp (h p)

theorem agree_step (hostKey id : Nat) (accE : Option Blob) (accL : Option Nat) (e : Ev)
    (ha : Agree hostKey accE accL) (hp : ∀ i b, e = .planted i b → NotSealedHere hostKey b) :
    Agree hostKey (expStep hostKey id accE e) (lastVerifiedStep id accL e) := by
  -- an event about another account, or without effect on credentials, leaves both sides as they are (`ha`)
  cases e with
  | auth i q ok =>
    cases ok
    · exact ha
    · dsimp only [expStep, lastVerifiedStep]
      split
      · exact .sealed
      · exact ha
  | kdfFailed i | purged i =>
    dsimp only [expStep, lastVerifiedStep]
    split
    · exact .none
    · exact ha
  | cleared => exact .none
  | planted i b =>
    dsimp only [expStep, lastVerifiedStep]
    split
    · exact .unsealed (hp i b rfl)
    · exact ha
  | probe | tokReq _ => exact ha

theorem expected_sealed_is_last {hostKey id p : Nat} {evs : List Ev}
    (hp : ∀ i b, Ev.planted i b ∈ evs → NotSealedHere hostKey b)
    (h : expected hostKey id evs = some (sealed hostKey p)) : lastVerified id evs = some p :=
  List.foldl_rel (r := Agree hostKey) (by intro _ h; cases h)
    (fun e he accE accL ha => agree_step hostKey id accE accL e ha fun i b hb => hp i b (hb ▸ he)) p h
end Kanidm.OfflineCache
