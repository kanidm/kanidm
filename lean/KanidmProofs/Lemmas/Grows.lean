/-!
For a modelled store that is a list whose positions stand for the stored objects: an operation
rewrites elements in place and appends new ones, and never removes or moves one. `Grows R N l l'`
says this of one operation or of a whole history: `R` is what may happen to an element, `N` what is
known of an added one. It is reflexive and transitive with `R`.
-/
namespace Kanidm

structure Grows {α β : Type} (R : α → β → Prop) (N : β → Prop) (l : List α) (l' : List β) : Prop where
  kept : ∀ (i : Nat) (a : α), l[i]? = some a → ∃ b, l'[i]? = some b ∧ R a b
  added : ∀ (i : Nat) (b : β), l.length ≤ i → l'[i]? = some b → N b

namespace Grows
variable {α β γ : Type} {R : α → β → Prop} {N : β → Prop} {l : List α} {l' : List β}

theorem map_append (f : α → β) {news : List β} (hf : ∀ a, a ∈ l → R a (f a))
    (hn : ∀ x, x ∈ news → N x) : Grows R N l (l.map f ++ news) where
  kept i a h := by
    have hi : i < (l.map f).length := by rw [List.length_map]; exact (List.getElem?_eq_some_iff.mp h).1
    exact ⟨f a, by rw [List.getElem?_append_left hi, List.getElem?_map, h]; rfl,
      hf a (List.mem_of_getElem? h)⟩
  added i b hi h := by
    rw [List.getElem?_append_right (by rw [List.length_map]; exact hi)] at h
    exact hn b (List.mem_of_getElem? h)

theorem map (f : α → β) (hf : ∀ a, a ∈ l → R a (f a)) : Grows R N l (l.map f) := by
  rw [← List.append_nil (l.map f)]
  exact map_append f hf fun _ h => nomatch h

theorem append {R : α → α → Prop} {N : α → Prop} {l news : List α} (hr : ∀ a, R a a)
    (hn : ∀ x, x ∈ news → N x) : Grows R N l (l ++ news) := by
  have g : Grows R N l (l.map id ++ news) := map_append id (fun a _ => hr a) hn
  rwa [List.map_id] at g

theorem cons {a : α} {b : β} (r : R a b) (g : Grows R N l l') : Grows R N (a :: l) (b :: l') where
  kept
    | 0, _, h => ⟨b, rfl, Option.some.inj h ▸ r⟩
    | i + 1, x, h => g.kept i x h
  added
    | 0, _, hi, _ => nomatch hi
    | i + 1, x, hi, h => g.added i x (Nat.le_of_succ_le_succ hi) h

theorem refl {R : α → α → Prop} {N : α → Prop} (h : ∀ a, R a a) (l : List α) : Grows R N l l :=
  ⟨fun _ a ha => ⟨a, ha, h a⟩, fun _ _ hi hb => nomatch (List.getElem?_eq_none hi).symm.trans hb⟩

theorem mono {S : α → β → Prop} {M : β → Prop} (hR : ∀ a b, R a b → S a b) (hN : ∀ x, N x → M x)
    (g : Grows R N l l') : Grows S M l l' :=
  ⟨fun i a h => (g.kept i a h).imp fun b hb => ⟨hb.1, hR a b hb.2⟩, fun i b hi h => hN b (g.added i b hi h)⟩

theorem length_le (g : Grows R N l l') : l.length ≤ l'.length :=
  Nat.le_of_not_lt fun hlt => by
    obtain ⟨b, hb, -⟩ := g.kept _ _ (List.getElem?_eq_getElem hlt)
    exact Nat.lt_irrefl _ (List.getElem?_eq_some_iff.mp hb).1

theorem origin (g : Grows R N l l') {i : Nat} {b : β} (hb : l'[i]? = some b) :
    (∃ a, l[i]? = some a ∧ R a b) ∨ (l.length ≤ i ∧ N b) := by
  cases Nat.lt_or_ge i l.length with
  | inr hge => exact .inr ⟨hge, g.added i b hge hb⟩
  | inl hlt =>
    obtain ⟨b', hb', r⟩ := g.kept i _ (List.getElem?_eq_getElem hlt)
    cases hb.symm.trans hb'
    exact .inl ⟨_, List.getElem?_eq_getElem hlt, r⟩

/-- `hN`: an element the first step added has been rewritten by the second since, and is still to
count as added. -/
theorem trans {S : β → γ → Prop} {T : α → γ → Prop} {M K : γ → Prop} {l'' : List γ}
    (g : Grows R N l l') (g' : Grows S M l' l'') (hT : ∀ a b c, R a b → S b c → T a c)
    (hN : ∀ b c, N b → S b c → K c) (hM : ∀ c, M c → K c) : Grows T K l l'' := by
  refine ⟨fun i a ha => ?_, fun i c hi hc => ?_⟩
  · obtain ⟨b, hb, r⟩ := g.kept i a ha
    obtain ⟨c, hc, s⟩ := g'.kept i b hb
    exact ⟨c, hc, hT a b c r s⟩
  · rcases g'.origin hc with ⟨b, hb, s⟩ | ⟨hi', m⟩
    · exact hN b c (g.added i b hi hb) s
    · exact hM c m

theorem get (g : Grows R N l l') (i : Nat) (h : i < l.length) :
    ∃ h' : i < l'.length, R l[i] l'[i] := by
  obtain ⟨b, hb, r⟩ := g.kept i _ (List.getElem?_eq_getElem h)
  obtain ⟨h', rfl⟩ := List.getElem?_eq_some_iff.mp hb
  exact ⟨h', r⟩

theorem get_new (g : Grows R N l l') (i : Nat) (h' : i < l'.length) (hge : l.length ≤ i) :
    N l'[i] :=
  g.added i _ hge (List.getElem?_eq_getElem h')

theorem mem (g : Grows R N l l') {b : β} (hb : b ∈ l') : (∃ a, a ∈ l ∧ R a b) ∨ N b := by
  obtain ⟨i, hi⟩ := List.getElem?_of_mem hb
  exact (g.origin hi).imp (fun ⟨a, ha, r⟩ => ⟨a, List.mem_of_getElem? ha, r⟩) (·.2)

theorem mem_left (g : Grows R N l l') {a : α} (ha : a ∈ l) : ∃ b, b ∈ l' ∧ R a b := by
  obtain ⟨i, hi⟩ := List.getElem?_of_mem ha
  obtain ⟨b, hb, r⟩ := g.kept i a hi
  exact ⟨b, List.mem_of_getElem? hb, r⟩

end Grows

/-! ### read as a pointwise relation

`Rel2` is the pointwise relation in which C50 states its theorems, whence its namespace; it mentions
nothing of C50. -/

namespace SyncScope

inductive Rel2 {α β : Type} (R : α → β → Prop) : List α → List β → Prop
  | nil : Rel2 R [] []
  | cons {a : α} {b : β} {l : List α} {l' : List β} : R a b → Rel2 R l l' → Rel2 R (a :: l) (b :: l')

namespace Rel2
variable {α β : Type}

theorem append {R : α → β → Prop} {l1 l2 : List α} {l1' l2' : List β} (r1 : Rel2 R l1 l1')
    (r2 : Rel2 R l2 l2') : Rel2 R (l1 ++ l2) (l1' ++ l2') := by
  induction r1 with
  | nil => exact r2
  | cons hab _ ih => exact .cons hab ih

end Rel2

theorem Rel2.of_grows {α β : Type} {R : α → β → Prop} {N : β → Prop} {l : List α} {l' : List β}
    (g : Grows R N l l') : Rel2 R l (l'.take l.length) := by
  induction l generalizing l' with
  | nil => exact .nil
  | cons a l ih =>
    obtain ⟨b, hb, r⟩ := g.kept 0 a rfl
    cases l' with
    | nil => cases hb
    | cons _ l' =>
      cases hb
      exact .cons r (ih ⟨fun i => g.kept (i + 1), fun i x hi => g.added (i + 1) x (Nat.succ_le_succ hi)⟩)

end SyncScope

open SyncScope in
theorem Grows.rel2 {α β : Type} {R : α → β → Prop} {N : β → Prop} {l : List α}
    {l' : List β} (g : Grows R N l l') :
    ∃ pre' news, l' = pre' ++ news ∧ Rel2 R l pre' ∧ ∀ x, x ∈ news → N x :=
  ⟨l'.take l.length, l'.drop l.length, (List.take_append_drop _ _).symm, .of_grows g, fun x hx => by
    obtain ⟨i, hi⟩ := List.getElem?_of_mem hx
    rw [List.getElem?_drop] at hi
    exact g.added _ x (Nat.le_add_right _ _) hi⟩

open SyncScope in
theorem Grows.same {α β : Type} {R : α → β → Prop} {l : List α} {l' : List β}
    (g : Grows R (fun _ => False) l l') : Rel2 R l l' := by
  obtain ⟨pre', news, rfl, r, hn⟩ := g.rel2
  rwa [List.eq_nil_iff_forall_not_mem.mpr hn, List.append_nil]

end Kanidm
