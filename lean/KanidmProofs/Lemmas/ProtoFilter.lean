import KanidmModel.ProtoFilter
/-!
Lemmas for C41. Each translation is turned into a relation once (`LdapTr`, `ScimTr`: an accepted
filter and its translation, without budget and refusals); whatever is said of accepted filters is an
induction over the relation, resting on one lemma per leaf arm. Before that: the greedy substring
matcher decides the declarative specification.
-/
namespace Kanidm.ProtoFilter
open Kanidm.Filter

section
variable {P : LF → Prop}
  (hand : ∀ l, (∀ f ∈ l, P f) → P (.and l))
  (hor : ∀ l, (∀ f ∈ l, P f) → P (.or l))
  (hnot : ∀ f, P f → P (.not f))
  (heq : ∀ a v, P (.equality a v))
  (hsub : ∀ a i any f, P (.substring a i any f))
  (hge : ∀ a v, P (.greaterOrEqual a v))
  (hle : ∀ a v, P (.lessOrEqual a v))
  (hpres : ∀ a, P (.present a))
  (happrox : ∀ a v, P (.approx a v))
  (hext : P .extensible)
include hand hor hnot heq hsub hge hle hpres happrox hext

/-- the recursor of the nested type, with `∀ f ∈ l, P f` as the motive on lists -/
theorem LF.ind : ∀ f, P f :=
  LF.rec (motive_1 := P) (motive_2 := fun l => ∀ f ∈ l, P f) hand hor hnot heq hsub hge hle hpres
    happrox hext (fun _ h => nomatch h)
    (fun _ _ ihx ihxs _ h => match h with
      | .head _ => ihx
      | .tail _ h' => ihxs _ h')
theorem LF.indList : ∀ (l : List LF), ∀ f ∈ l, P f :=
  fun _ f _ => LF.ind hand hor hnot heq hsub hge hle hpres happrox hext f
end

theorem lowerByte_idem (c : Nat) : lowerByte (lowerByte c) = lowerByte c := by
  unfold lowerByte
  by_cases h : 65 ≤ c ∧ c ≤ 90
  · have h2 : ¬ (65 ≤ c + 32 ∧ c + 32 ≤ 90) := by omega
    rw [if_pos h, if_neg h2]
  · rw [if_neg h, if_neg h]

theorem enter_ok {d n nd ne : Nat} (h : enter d n = .ok (nd, ne)) : d = nd + 1 ∧ n = ne + 1 := by
  cases d with
  | zero => cases h
  | succ d' =>
    cases n with
    | zero => cases h
    | succ n' => cases h; exact ⟨rfl, rfl⟩

theorem isInfix_nil_left : ∀ (x : List Nat), isInfix [] x = true
  | [] => rfl
  | _ :: _ => rfl

theorem afterFirst_isSome (p x : List Nat) : (afterFirst p x).isSome = isInfix p x := by
  induction x with
  | nil => cases p <;> rfl
  | cons y ys ih =>
    unfold afterFirst isInfix
    cases p.isPrefixOf (y :: ys) with
    | true => rfl
    | false => exact ih

/-- The arms of `afterFirst`, here and below: the text is empty and so is the pattern; the text is
empty, the pattern is not; the pattern is a prefix of `y :: ys`; it is not, and the search goes on in
`ys`. -/
theorem afterFirst_some (p x r : List Nat) (h : afterFirst p x = some r) : ∃ g, x = g ++ p ++ r := by
  fun_induction afterFirst p x with
  | case1 hp => cases h; exact ⟨[], by rw [List.isEmpty_iff.mp hp]; rfl⟩
  | case2 => cases h
  | case3 y ys hp =>
    cases h
    exact ⟨[], (List.prefix_iff_eq_append.mp (List.isPrefixOf_iff_prefix.mp hp)).symm⟩
  | case4 y ys _ ih =>
    obtain ⟨g, hg⟩ := ih h
    exact ⟨y :: g, by rw [hg]; rfl⟩

/-- leftmost: `afterFirst` leaves at least as much as any other occurrence does -/
theorem afterFirst_of_occ (p x g r' : List Nat) (hx : x = g ++ p ++ r') :
    ∃ r0 h, afterFirst p x = some r0 ∧ r0 = h ++ r' := by
  fun_induction afterFirst p x generalizing g with
  | case1 =>
    obtain ⟨-, rfl⟩ := List.append_eq_nil_iff.mp hx.symm
    exact ⟨[], [], rfl, rfl⟩
  | case2 hp =>
    obtain ⟨hgp, -⟩ := List.append_eq_nil_iff.mp hx.symm
    exact absurd (List.isEmpty_iff.mpr (List.append_eq_nil_iff.mp hgp).2) hp
  | case3 y ys =>
    refine ⟨_, (g ++ p).drop p.length, rfl, ?_⟩
    rw [hx, List.drop_append_of_le_length (by simp)]
  | case4 y ys hp ih =>
    cases g with
    | nil => exact absurd (List.isPrefixOf_iff_prefix.mpr ⟨r', hx.symm⟩) hp
    | cons y' g' => exact ih g' (List.cons.inj hx).2

theorem anySpec_mono (as : List (List Nat)) (fin : Option (List Nat)) (h r' : List Nat)
    (hs : anySpec as fin r') : anySpec as fin (h ++ r') := by
  cases as with
  | nil =>
    cases fin with
    | none => trivial
    | some f =>
      obtain ⟨g, hg⟩ := hs
      exact ⟨h ++ g, by rw [hg, List.append_assoc]⟩
  | cons a as =>
    obtain ⟨g, r'', hg, hs⟩ := hs
    exact ⟨h ++ g, r'', by rw [hg]; simp only [List.append_assoc], hs⟩

/-- without an initial component: the `any` components leftmost-first, then the final one. The
cases are `matchAny`'s: no component left, the next one does not occur, it occurs and `t` is what
its leftmost occurrence leaves. -/
theorem subMatchStr_none_iff (as : List (List Nat)) (fin : Option (List Nat)) (r : List Nat) :
    subMatchStr none as fin r = true ↔ anySpec as fin r := by
  simp only [subMatchStr]
  fun_induction matchAny as r with
  | case1 x =>
    cases fin with
    | none => exact iff_of_true rfl trivial
    | some f =>
      exact List.isSuffixOf_iff_suffix.trans ⟨fun ⟨t, ht⟩ => ⟨t, ht.symm⟩, fun ⟨g, hg⟩ => ⟨g, hg.symm⟩⟩
  | case2 p ps x hn =>
    refine iff_of_false Bool.false_ne_true fun ⟨g, r', hg, _⟩ => ?_
    obtain ⟨r0, _, ha, -⟩ := afterFirst_of_occ p x g r' hg
    cases hn.symm.trans ha
  | case3 p ps x t ht ih =>
    rw [ih]
    constructor
    · intro h
      obtain ⟨g, hg⟩ := afterFirst_some p x t ht
      exact ⟨g, t, hg, h⟩
    · rintro ⟨g, r', hg, hs⟩
      obtain ⟨r0, h, ha, rfl⟩ := afterFirst_of_occ p x g r' hg
      cases ht.symm.trans ha
      exact anySpec_mono ps fin h r' hs

theorem subMatchStr_some (i : List Nat) (any : List (List Nat)) (fin : Option (List Nat)) (x : List Nat) :
    subMatchStr (some i) any fin x = (i.isPrefixOf x && subMatchStr none any fin (x.drop i.length)) := by
  cases hp : i.isPrefixOf x <;> simp only [subMatchStr, hp, if_true, Bool.false_eq_true, if_false,
    Bool.true_and, Bool.false_and]

theorem subMatch_ini (i x : List Nat) : subMatchStr (some i) [] none x = i.isPrefixOf x :=
  (subMatchStr_some i [] none x).trans (Bool.and_true _)

theorem subMatch_any (p x : List Nat) : subMatchStr none [p] none x = isInfix p x := by
  unfold subMatchStr
  simp only [matchAny]
  rw [← afterFirst_isSome]
  cases afterFirst p x <;> simp

theorem subMatch_fin (f x : List Nat) : subMatchStr none [] (some f) x = f.isSuffixOf x := rfl

theorem foldSem_str (fold : Nat → Nat) (s t : List Nat) :
    (foldSem fold).sub (.str s) (.str t) = isInfix (t.map fold) (s.map fold) ∧
      (foldSem fold).stw (.str s) (.str t) = (t.map fold).isPrefixOf (s.map fold) ∧
      (foldSem fold).enw (.str s) (.str t) = (t.map fold).isSuffixOf (s.map fold) := ⟨rfl, rfl, rfl⟩

theorem foldSem_num_needle (fold : Nat → Nat) (x : Val) (n : Nat) :
    (foldSem fold).sub x (.num n) = false ∧ (foldSem fold).stw x (.num n) = false ∧
      (foldSem fold).enw x (.num n) = false := by
  cases x <;> exact ⟨rfl, rfl, rfl⟩

theorem foldSem_num_value (fold : Nat → Nat) (k : Nat) (v : Val) :
    (foldSem fold).sub (.num k) v = false ∧ (foldSem fold).stw (.num k) v = false ∧
      (foldSem fold).enw (.num k) v = false := ⟨rfl, rfl, rfl⟩

/-- one fact for each place the single component of a substring assertion can stand in -/
structure PerComponent (ini any fin : Prop) : Prop where
  ini : ini
  any : any
  fin : fin

theorem compText_ok {env : Env} {a : Nat} {r : List Nat} {v : Val} (h : env.ldapVal a r = .ok v) :
    compText env a r = strOf v := by simp only [compText, h]

/-- a substring assertion with one component is a prefix, infix or suffix test of every value
(a component whose value is not text matches nothing on either side) -/
theorem ldapSubSem_one (fold : Nat → Nat) {env : Env} (e : Entry) {a : Nat} {r : List Nat} {v : Val}
    (h : env.ldapVal a r = .ok v) : PerComponent
      (ldapSubSem fold env e a (some r) [] none = (e a).any fun x => (foldSem fold).stw x v)
      (ldapSubSem fold env e a none [r] none = (e a).any fun x => (foldSem fold).sub x v)
      (ldapSubSem fold env e a none [] (some r) = (e a).any fun x => (foldSem fold).enw x v) := by
  simp only [ldapSubSem, compTextOpt, compTextList, compText_ok h]
  cases v with
  | num n =>
    refine ⟨?_, ?_, ?_⟩ <;> refine (List.any_eq_false.mpr fun x _ => ?_).symm <;> cases x <;>
      exact Bool.false_ne_true
  | str t =>
    -- value by value: text against the folded component by the matcher on that shape, a number is no match
    refine ⟨?_, ?_, ?_⟩ <;> refine congrArg (e a).any (funext fun x => ?_) <;> cases x
    · exact subMatch_ini _ _
    · rfl
    · exact subMatch_any _ _
    · rfl
    · exact subMatch_fin _ _
    · rfl

theorem subTerms_one {env : Env} {a : Nat} {r : List Nat} {ts : List FC} : PerComponent
    (subTerms env .stw .cnt .enw a (some r) [] none = .ok ts →
      ∃ v, env.ldapVal a r = .ok v ∧ ts = [.stw a v])
    (subTerms env .stw .cnt .enw a none [r] none = .ok ts →
      ∃ v, env.ldapVal a r = .ok v ∧ ts = [.cnt a v])
    (subTerms env .stw .cnt .enw a none [] (some r) = .ok ts →
      ∃ v, env.ldapVal a r = .ok v ∧ ts = [.enw a v]) := by
  simp only [subTerms, subOptTerm, subAnyTerms]
  cases env.ldapVal a r with
  | error err => exact ⟨nofun, nofun, nofun⟩
  | ok v => exact ⟨fun h => ⟨v, rfl, by cases h; rfl⟩, fun h => ⟨v, rfl, by cases h; rfl⟩,
      fun h => ⟨v, rfl, by cases h; rfl⟩⟩

/-- a substring assertion with exactly one component: the independent terms of the translation
and the ordered match of the standard coincide -/
theorem subTerms_single (fold : Nat → Nat) {env : Env} (self : Val) (uuidA : Nat) (e : Entry) {a : Nat}
    {ini : Option (List Nat)} {any : List (List Nat)} {fin : Option (List Nat)} {ts : List FC}
    (h1 : (optCount ini + any.length + optCount fin == 1) = true)
    (ht : subTerms env .stw .cnt .enw a ini any fin = .ok ts) :
    FC.matchesAll (foldSem fold) self uuidA e ts = ldapSubSem fold env e a ini any fin := by
  cases any with
  | nil =>
    cases ini with
    | none =>
      cases fin with
      | none => cases h1
      | some f =>
        obtain ⟨v, hv, rfl⟩ := subTerms_one.fin ht
        rw [(ldapSubSem_one fold e hv).fin]
        exact Bool.and_true _
    | some i =>
      cases fin with
      | some f => cases h1
      | none =>
        obtain ⟨v, hv, rfl⟩ := subTerms_one.ini ht
        rw [(ldapSubSem_one fold e hv).ini]
        exact Bool.and_true _
  | cons p ps =>
    cases ps with
    | cons q qs => simp only [List.length_cons, beq_iff_eq] at h1; omega
    | nil =>
      cases ini with
      | some i => cases fin <;> cases h1
      | none =>
        cases fin with
        | some f => cases h1
        | none =>
          obtain ⟨v, hv, rfl⟩ := subTerms_one.any ht
          rw [(ldapSubSem_one fold e hv).any]
          exact Bool.and_true _

theorem avTr_meaning (fold : Nat → Nat) {env : Env} (self : Val) (uuidA : Nat) (e : Entry)
    {a v : List Nat} {g : FC} (h : avTr env (.eq true) a v = .ok g) :
    g.matches (foldSem fold) self uuidA e = ldapSem fold env e (.equality a v) := by
  unfold ldapSem
  unfold avTr at h
  simp only at h
  split at h
  · cases h; rfl -- the value parses: `Eq`
  · split at h
    · cases h; rfl -- it does not, the attribute is `spn`: `Invalid`, which matches nothing
    · cases h -- it does not: the error

theorem avTr_reject (env : Env) (a v : List Nat) : avTr env .reject a v = .error .filterGeneration := rfl

mutual
/-- `from_ldap_ro` as a relation: the filters it accepts and what it returns for them, the budget and
the refusals left out. One constructor per accepting arm of the generated table. -/
inductive LdapTr (env : Env) : LF → FC → Prop
  | and {l fs} : LdapTrs env l fs → LdapTr env (.and l) (.and fs)
  | or {l fs} : LdapTrs env l fs → LdapTr env (.or l) (.or fs)
  | not {f g} : LdapTr env f g → LdapTr env (.not f) (.andnot g)
  | eq {a v g} : avTr env (.eq true) a v = .ok g → LdapTr env (.equality a v) g
  | sub {a i any f ts} : subTerms env .stw .cnt .enw (ldapAttrMap env a) i any f = .ok ts →
      LdapTr env (.substring a i any f) (.and ts)
  | pres {a} : LdapTr env (.present a) (.pres (ldapAttrMap env a))
inductive LdapTrs (env : Env) : List LF → List FC → Prop
  | nil : LdapTrs env [] []
  | cons {f g l gs} : LdapTr env f g → LdapTrs env l gs → LdapTrs env (f :: l) (g :: gs)
end

theorem ldapTr_ok (env : Env) :
    (∀ d n lf fc n', ldapTr env d n lf = .ok (fc, n') → LdapTr env lf fc) ∧
    (∀ d n l fs n', ldapTrList env d n l = .ok (fs, n') → LdapTrs env l fs) := by
  apply ldapTr.mutual_induct_unfolding env
    (motive_1 := fun _ _ lf r => ∀ fc n', r = .ok (fc, n') → LdapTr env lf fc)
    (motive_2 := fun _ _ l r => ∀ fs n', r = .ok (fs, n') → LdapTrs env l fs)
  all_goals (intros; rename_i h; cases h)
  -- `And`, `Or`, `Not`
  · next hk _ _ hl ih => cases hk; exact .and (ih _ _ hl)
  · next hk _ _ hl ih => cases hk; exact .or (ih _ _ hl)
  · next hf ih => exact .not (ih _ _ hf)
  -- `Equality`, `Substring`
  · next hg => exact .eq hg
  · next hk _ hts => cases hk; exact .sub hts
  -- `GreaterOrEqual`, `LessOrEqual`: `avTr` with the arm `.reject` has returned no `g`
  · next hg => cases hg
  · next hg => cases hg
  -- `Present`
  · exact .pres
  -- `Approx`: `.reject` again
  · next hg => cases hg
  -- `ldapTrList`: `[]`, `f :: fs`
  · exact .nil
  · next hf _ _ hl ihf ihl => exact .cons (ihf _ _ hf) (ihl _ _ hl)

theorem LdapTr.of_top {env : Env} {maxElems : Nat} {lf : LF} {fc : FC}
    (h : ldapTrTop env maxElems lf = .ok fc) : LdapTr env lf fc := by
  unfold ldapTrTop at h
  split at h
  · cases h
  · cases h; exact (ldapTr_ok env).1 _ _ _ _ _ ‹_›

theorem LdapTr.meaning (fold : Nat → Nat) {env : Env} (self : Val) (uuidA : Nat) (e : Entry)
    {lf : LF} {fc : FC} (h : LdapTr env lf fc) (hs : lf.subSingle = true) :
    fc.matches (foldSem fold) self uuidA e = ldapSem fold env e lf := by
  induction h using LdapTr.rec (motive_2 := fun l fs _ => LF.subSingleAll l = true →
    FC.matchesAll (foldSem fold) self uuidA e fs = ldapSemAll fold env e l ∧
    FC.matchesAny (foldSem fold) self uuidA e fs = ldapSemAny fold env e l) with
  | and _ ih => exact (ih hs).1
  | or _ ih => exact (ih hs).2
  | not _ ih => exact congrArg (!·) (ih hs)
  | eq hg => exact avTr_meaning fold self uuidA e hg
  | sub hts => exact subTerms_single fold self uuidA e hs hts
  | pres => rfl
  | nil => exact ⟨rfl, rfl⟩
  | cons _ _ ihf ihl =>
    rename_i hs
    simp only [LF.subSingleAll, Bool.and_eq_true] at hs
    simp only [FC.matchesAll, FC.matchesAny, ldapSemAll, ldapSemAny, ihf hs.1, ihl hs.2, and_self]

theorem LdapTr.supported {env : Env} {lf : LF} {fc : FC} (h : LdapTr env lf fc) :
    lf.hasUnsupported = false := by
  induction h using LdapTr.rec (motive_2 := fun l _ _ => LF.hasUnsupportedAny l = false) with
  | and _ ih | or _ ih | not _ ih => exact ih
  | eq | sub | pres | nil => rfl
  | cons _ _ ihf ihl => simp only [LF.hasUnsupportedAny, ihf, ihl, Bool.or_false]

/-- entries and comparison values are typed by the schema as far as ordering is concerned:
a single-valued attribute of an orderable syntax holds at most one value, and the values of an
orderable syntax (stored or parsed from a filter) are numbers -/
structure OrdTyped (env : Env) (e : Entry) : Prop where
  single : ∀ a s, env.syn a = some (s, false) → orderableSyn.contains s = true → (e a).length ≤ 1
  numE : ∀ a s m, env.syn a = some (s, m) → orderableSyn.contains s = true → ∀ x ∈ e a, ∃ n, x = .num n
  numV : ∀ a s m j pv, env.syn a = some (s, m) → orderableSyn.contains s = true →
    env.scimVal a j = .ok pv → ∃ n, pv = .num n

theorem OrdTyped.value_cases {env : Env} {e : Entry} (ht : OrdTyped env e) {a s : Nat}
    (hs : env.syn a = some (s, false)) (hc : orderableSyn.contains s = true) :
    e a = [] ∨ ∃ k, e a = [.num k] := by
  have hlen := ht.single a s hs hc
  have hnum := ht.numE a s false hs hc
  cases hl : e a with
  | nil => exact .inl rfl
  | cons x xs =>
    rw [hl] at hlen hnum
    cases xs with
    | cons y ys => simp only [List.length_cons] at hlen; omega
    | nil =>
      obtain ⟨k, rfl⟩ := hnum x (List.mem_cons_self ..)
      exact .inr ⟨k, rfl⟩

theorem orderingSupported_ok {env : Env} {a : Nat} (h : orderingSupported env a = .ok ()) :
    ∃ s, env.syn a = some (s, false) ∧ orderableSyn.contains s = true := by
  unfold orderingSupported at h
  split at h
  · cases h -- no such attribute
  · rename_i s m hs
    split at h
    · rename_i hc -- the condition holds
      simp only [scimOrderingCond, Bool.and_eq_true, Bool.not_eq_true'] at hc
      exact ⟨s, by rw [hs, hc.2], hc.1⟩
    · cases h -- it does not

theorem scimCmp_tr_ok {env : Env} {g r : Bool} {t : Tmpl} {a : Nat} {v : J} {fc : FC}
    (h : scimCmp env (.tr g r t) a v = .ok fc) :
    (g = true → orderingSupported env a = .ok ()) ∧
      ∃ pv, fc = t.inst a pv ∧ (r = true → env.scimVal a v = .ok pv) := by
  unfold scimCmp at h
  simp only at h
  split at h
  · cases h -- the guard refuses
  · rename_i u hg
    refine ⟨fun hgt => by rw [if_pos hgt] at hg; exact hg, ?_⟩
    split at h
    · split at h -- the arm resolves the value
      · cases h -- which fails
      · cases h; exact ⟨_, rfl, fun _ => ‹_›⟩
    · cases h; exact ⟨_, rfl, fun hr => absurd hr ‹_›⟩ -- it does not: the template at `.str []`

theorem scimArm_ordering {op : SOp} (h : op.isOrdering = true) : ∃ t, scimArm op = .tr true true t := by
  cases op with
  | gt | lt | ge | le => exact ⟨_, rfl⟩
  | _ => cases h

theorem cmp_num (k n : Nat) : Val.cmp (.num k) (.num n) =
    if k < n then .lt else if n < k then .gt else .eq := rfl

/-- presence `p`, `LessThan` `l` and equality `q` against at most one number: what the four
rewrites of the ordering operators compute is `>`, `<`, `≥`, `≤` -/
theorem ord_values (fold : Nat → Nat) (n : Nat) {vs : List Val} (hl : vs = [] ∨ ∃ k, vs = [.num k]) :
    let p := !vs.isEmpty
    let l := vs.any fun x => (foldSem fold).lt x (.num n)
    let q := vs.contains (.num n)
    (p && (!(l || (q || false)) && true)) = vs.any (fun x => scimOpVal fold .gt x (.num n)) ∧
    l = vs.any (fun x => scimOpVal fold .lt x (.num n)) ∧
    (p && (!l && true)) = vs.any (fun x => scimOpVal fold .ge x (.num n)) ∧
    (l || (q || false)) = vs.any (fun x => scimOpVal fold .le x (.num n)) := by
  rcases hl with rfl | ⟨k, rfl⟩
  · exact ⟨rfl, rfl, rfl, rfl⟩
  · have hlt : (foldSem fold).lt (.num k) (.num n) = decide (k < n) := rfl
    have hq : [Val.num k].contains (.num n) = decide (n = k) := by simp
    simp only [List.any_cons, List.any_nil, List.isEmpty_cons, scimOpVal, cmp_num, hlt, hq]
    rcases Nat.lt_trichotomy k n with h | rfl | h
    · simp only [h, Nat.ne_of_gt h, decide_true, decide_false, if_true]
      exact ⟨rfl, rfl, rfl, rfl⟩
    · simp only [Nat.lt_irrefl, decide_true, decide_false, if_false]
      exact ⟨rfl, rfl, rfl, rfl⟩
    · simp only [h, Nat.lt_asymm h, Nat.ne_of_lt h, decide_false, if_true, if_false]
      exact ⟨rfl, rfl, rfl, rfl⟩

theorem ord_template (fold : Nat → Nat) (self : Val) (uuidA : Nat) (e : Entry) (a n : Nat)
    {op : SOp} {t : Tmpl} (harm : scimArm op = .tr true true t)
    (hl : e a = [] ∨ ∃ k, e a = [.num k]) :
    (t.inst a (.num n)).matches (foldSem fold) self uuidA e =
      (e a).any fun x => scimOpVal fold op x (.num n) := by
  obtain ⟨hgt, hlt, hge, hle⟩ := ord_values fold n hl
  cases op with
  | gt => cases harm; exact hgt
  | lt => cases harm; exact hlt
  | ge => cases harm; exact hge
  | le => cases harm; exact hle
  | _ => cases harm

theorem scimSem_cmp (fold : Nat → Nat) {env : Env} (e : Entry) {op : SOp} {a : Nat} {v : J} {pv : Val}
    (hop : op ≠ .pr) (hv : env.scimVal a v = .ok pv) :
    scimSem fold env e (.cmp op a false v) = (e a).any fun x => scimOpVal fold op x pv := by
  unfold scimSem
  rw [hv, if_neg Bool.false_ne_true]
  split
  · exact absurd rfl hop
  · rfl

theorem scimCmp_ordering_ok {env : Env} {op : SOp} {a : Nat} {v : J} {g : FC}
    (hop : op.isOrdering = true) (h : scimCmp env (scimArm op) a v = .ok g) :
    ∃ t s pv, scimArm op = .tr true true t ∧ env.syn a = some (s, false) ∧
      orderableSyn.contains s = true ∧ env.scimVal a v = .ok pv ∧ g = t.inst a pv := by
  obtain ⟨t, ht⟩ := scimArm_ordering hop
  rw [ht] at h
  obtain ⟨hg, pv, rfl, hv⟩ := scimCmp_tr_ok h
  obtain ⟨s, hs, hc⟩ := orderingSupported_ok (hg rfl)
  exact ⟨t, s, pv, ht, hs, hc, hv rfl, rfl⟩

theorem scimCmp_meaning (fold : Nat → Nat) {env : Env} (self : Val) (uuidA : Nat) {e : Entry}
    (ht : OrdTyped env e) {op : SOp} {a : Nat} {v : J} {g : FC}
    (h : scimCmp env (scimArm op) a v = .ok g) :
    g.matches (foldSem fold) self uuidA e = scimSem fold env e (.cmp op a false v) := by
  have ord (hop : op.isOrdering = true) :
      g.matches (foldSem fold) self uuidA e = scimSem fold env e (.cmp op a false v) := by
    obtain ⟨t, s, pv, harm, hs, hc, hv, rfl⟩ := scimCmp_ordering_ok hop h
    obtain ⟨n, rfl⟩ := ht.numV a s false v pv hs hc hv
    rw [scimSem_cmp fold e (by rintro rfl; cases hop) hv]
    exact ord_template fold self uuidA e a n harm (ht.value_cases hs hc)
  cases op with
  | pr => cases h; rfl
  | ne => cases h
  | eq =>
    obtain ⟨-, pv, rfl, hv⟩ := scimCmp_tr_ok h
    refine .trans ?_ (scimSem_cmp fold e ?_ (hv rfl)).symm
    · exact (List.contains_eq_any_beq ..).trans (congrArg _ (funext fun x => BEq.comm))
    · nofun
  | co | sw | ew =>
    obtain ⟨-, pv, rfl, hv⟩ := scimCmp_tr_ok h
    refine .trans ?_ (scimSem_cmp fold e ?_ (hv rfl)).symm
    · rfl
    · nofun
  | gt | lt | ge | le => exact ord rfl

/-- `from_scim_ro` as a relation: the filters it accepts and what it returns for them, the budget and
the refusals left out -/
inductive ScimTr (env : Env) : SF → FC → Prop
  | cmp {op a v g} : scimCmp env (scimArm op) a v = .ok g → ScimTr env (.cmp op a false v) g
  | not {f g} : ScimTr env f g → ScimTr env (.not f) (.andnot g)
  | or {l r gl gr} : ScimTr env l gl → ScimTr env r gr → ScimTr env (.or l r) (.or [gl, gr])
  | and {l r gl gr} : ScimTr env l gl → ScimTr env r gr → ScimTr env (.and l r) (.and [gl, gr])

theorem ScimTr.of_ok {env : Env} {sf : SF} {d n : Nat} {fc : FC} {n' : Nat}
    (h : scimTr env d n sf = .ok (fc, n')) : ScimTr env sf fc := by
  -- every branch of the definition that returns an error goes; the four accepting ones are left
  fun_induction scimTr env d n sf generalizing fc n' <;> cases h
  · next hs _ hc => rw [Bool.eq_false_iff.mpr hs]; exact .cmp hc
  · next hf ih => exact .not (ih hf)
  · next hl _ _ hr ihl ihr => exact .or (ihl hl) (ihr hr)
  · next hl _ _ hr ihl ihr => exact .and (ihl hl) (ihr hr)

theorem ScimTr.of_top {env : Env} {maxElems : Nat} {sf : SF} {fc : FC}
    (h : scimTrTop env maxElems sf = .ok fc) : ScimTr env sf fc := by
  unfold scimTrTop at h
  split at h
  · cases h
  · cases h; exact .of_ok ‹_›

theorem ScimTr.meaning (fold : Nat → Nat) {env : Env} (self : Val) (uuidA : Nat) {e : Entry}
    (ht : OrdTyped env e) {sf : SF} {fc : FC} (h : ScimTr env sf fc) :
    fc.matches (foldSem fold) self uuidA e = scimSem fold env e sf := by
  induction h with
  | cmp hc => exact scimCmp_meaning fold self uuidA ht hc
  | not _ ih => exact congrArg (!·) ih
  | or _ _ ihl ihr => simp only [FC.matches, FC.matchesAny, scimSem, ihl, ihr, Bool.or_false]
  | and _ _ ihl ihr => simp only [FC.matches, FC.matchesAll, scimSem, ihl, ihr, Bool.and_true]

theorem ScimTr.supported {env : Env} {sf : SF} {fc : FC} (h : ScimTr env sf fc) :
    sf.hasUnsupported = false := by
  induction h with
  | @cmp op _ _ _ hc =>
    cases op with
    | ne => cases hc
    | _ => rfl
  | not _ ih => exact ih
  | or _ _ ihl ihr | and _ _ ihl ihr => simp only [SF.hasUnsupported, ihl, ihr, Bool.or_false]

theorem ScimTr.ordering_guarded {env : Env} {sf : SF} {fc : FC} (h : ScimTr env sf fc) :
    ∀ a ∈ sf.orderingAttrs, ∃ s, env.syn a = some (s, false) ∧ orderableSyn.contains s = true := by
  induction h with
  | @cmp op _ _ _ hc =>
    intro a' ha'
    cases hop : op.isOrdering with
    | false => simp only [SF.orderingAttrs, hop, Bool.false_eq_true, if_false, List.not_mem_nil] at ha'
    | true =>
      simp only [SF.orderingAttrs, hop, if_true, List.mem_singleton] at ha'
      obtain ⟨_, s, _, -, hs, hcn, -⟩ := scimCmp_ordering_ok hop hc
      exact ha' ▸ ⟨s, hs, hcn⟩
  | not _ ih => exact ih
  | or _ _ ihl ihr | and _ _ ihl ihr => exact fun a ha => (List.mem_append.mp ha).elim (ihl a) (ihr a)

theorem orderable_not_resolvable (s : Nat) (h : orderableSyn.contains s = true) :
    scimResolvableSyn.contains s = false :=
  (by decide : ∀ s ∈ orderableSyn, scimResolvableSyn.contains s = false) s (List.contains_iff_mem.mp h)

theorem ScimTr.no_ordering {env : Env}
    (hres : ∀ a s m j, env.syn a = some (s, m) → scimResolvableSyn.contains s = false →
      (env.scimVal a j).toBool = false) {sf : SF} {fc : FC} (h : ScimTr env sf fc) :
    sf.hasOrdering = false := by
  induction h with
  | @cmp op a v _ hc =>
    cases hop : op.isOrdering with
    | false => exact hop
    | true =>
      -- past the guard the attribute is orderable, so its value does not resolve
      obtain ⟨_, s, pv, -, hs, hcn, hv, -⟩ := scimCmp_ordering_ok hop hc
      have := hres a s false v hs (orderable_not_resolvable s hcn)
      rw [hv] at this
      cases this
  | not _ ih => exact ih
  | or _ _ ihl ihr | and _ _ ihl ihr => simp only [SF.hasOrdering, ihl, ihr, Bool.or_false]

end Kanidm.ProtoFilter
