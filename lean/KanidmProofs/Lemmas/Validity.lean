import KanidmModel.Validity
import KanidmProofs.Lemmas.Window
/-!
For C49: the vocabulary of its statements (`InWindow`, `StrictlyInWindow`) and what the two gates accept in
those terms; a gated row of the generated table lets nothing through outside the window (`passes_sound`);
and `passes` as a walk over the two gates' verdicts (`walk`), on which every statement about what `attempt`
answers becomes a question about two Booleans.
-/
namespace Kanidm.Validity
open Kanidm.Gen.Validity

/-- The property's reading of "inside the window": valid-from has arrived and expiry has not passed. -/
def InWindow (w : Window) (ct : Nat) : Prop :=
  (∀ v, w.vf = some v → v ≤ ct) ∧ (∀ e, w.ex = some e → ct ≤ e)

def StrictlyInWindow (w : Window) (ct : Nat) : Prop :=
  (∀ v, w.vf = some v → v < ct) ∧ (∀ e, w.ex = some e → ct < e)

theorem strict_imp (w : Window) (ct : Nat) (h : StrictlyInWindow w ct) : InWindow w ct :=
  ⟨fun v hv => Nat.le_of_lt (h.1 v hv), fun e he => Nat.le_of_lt (h.2 e he)⟩

-- `0 + ct` below is the generated `acctCot`/`radCot`, the source's `EPOCH + ct`
theorem accountGate_iff (w : Window) (ct : Nat) : accountGate w ct = true ↔ InWindow w ct :=
  optBounds_iff w.vf w.ex (0 + ct) |>.trans (by rw [Nat.zero_add]; rfl)

instance (w : Window) (ct : Nat) : Decidable (InWindow w ct) :=
  decidable_of_iff (accountGate w ct = true) (accountGate_iff w ct)

theorem radiusGate_iff (w : Window) (ct : Nat) : radiusGate w ct = true ↔ StrictlyInWindow w ct :=
  optBounds_iff w.vf w.ex (0 + ct) |>.trans (by rw [Nat.zero_add]; rfl)

theorem gateOf_inWindow (g : GateKind) (w : Window) (ct : Nat) (h : gateOf g w ct = true) :
    InWindow w ct := by
  cases g with
  | account => exact (accountGate_iff w ct).mp h
  | radius => exact strict_imp w ct ((radiusGate_iff w ct).mp h)

theorem not_inWindow_of_outside {w : Window} {ct : Nat}
    (hout : (∃ v, w.vf = some v ∧ ct < v) ∨ (∃ e, w.ex = some e ∧ e < ct)) : ¬ InWindow w ct := by
  rintro ⟨h1, h2⟩
  rcases hout with ⟨v, hv, hlt⟩ | ⟨e, he, hlt⟩
  · exact Nat.not_le_of_lt hlt (h1 v hv)
  · exact Nat.not_le_of_lt hlt (h2 e he)

theorem passes_sound : ∀ (fuel : Nat) (s : Sid), gated fuel s = true →
    ∀ (fuel' : Nat) (a : Acl) (w : Window) (ct : Nat), passes fuel' s a w ct = true → InWindow w ct := by
  intro fuel s
  fun_induction gated fuel s with
  | case1 | case2 => nofun  -- no fuel, or no such row: not gated
  | case3 fuel s r hr g hg =>
    -- the row holds a gate, on the stored entry: `passes` applies it
    intro hv fuel' a w ct
    fun_cases passes fuel' s a w ct
    case case3 m r' hr' own sub =>  -- fuel left and the row exists
      obtain rfl : r = r' := Option.some.inj (hr.symm.trans hr')
      simp only [own, hg, beq_iff_eq.mp hv, viewOf, Bool.and_eq_true]
      exact fun h => gateOf_inWindow g w ct h.1
    all_goals nofun
  | case4 fuel s r hr hg ih =>
    -- no gate of its own: a call is made (the one `any` finds, or any one under `all`), and it is gated
    intro hall fuel' a w ct
    simp only [Bool.and_eq_true, Bool.not_eq_true', List.all_eq_true] at hall
    fun_cases passes fuel' s a w ct
    case case3 m r' hr' own sub =>  -- fuel left and the row exists
      obtain rfl : r = r' := Option.some.inj (hr.symm.trans hr')
      simp only [own, sub, hg, hall.1, Bool.true_and, Bool.false_eq_true, if_false]
      split
      · simp only [List.any_eq_true]
        rintro ⟨c, hc, hpc⟩
        exact ih c (hall.2 c hc) m _ _ _ hpc
      · simp only [List.all_eq_true]
        intro hp
        obtain ⟨c, hc⟩ := List.exists_mem_of_ne_nil _ (by simpa using hall.1)
        exact ih c (hall.2 c hc) m _ _ _ (hp c hc)
    all_goals nofun

theorem rowOf_mem (s : Sid) (r : Row) (h : rowOf s = some r) : r ∈ rows := by
  unfold rowOf at h
  exact List.mem_of_find?_eq_some h

/-- The table walk of `passes` with the verdicts `ga`, `gr` of the two gates given. -/
def walk (ga gr : Bool) : Nat → Sid → Bool
  | 0, _ => false
  | fuel + 1, s =>
    match rowOf s with
    | none => false
    | some r =>
      (match r.gate with
        | some .account => ga
        | some .radius => gr
        | none => true) &&
      (if r.calls.isEmpty then true
       else if r.anyCall then r.calls.any (walk ga gr fuel) else r.calls.all (walk ga gr fuel))

/-- `hall` is `gate_sees_stored_validity` of `C49.lean`: a gate on the access-reduced entry would depend on `a`. -/
theorem passes_eq_walk (hall : ∀ r ∈ rows, r.gate.isSome = true → r.view = .stored)
    (a : Acl) (w : Window) (ct : Nat) :
    ∀ (fuel : Nat) (s : Sid),
      passes fuel s a w ct = walk (accountGate w ct) (radiusGate w ct) fuel s := by
  intro fuel
  induction fuel with
  | zero => intro s; rfl
  | succ n ih =>
    intro s
    unfold passes walk
    cases hr : rowOf s with
    | none => rfl
    | some r =>
      have hfun : (fun c => passes n c a w ct) = walk (accountGate w ct) (radiusGate w ct) n :=
        funext ih
      cases hgate : r.gate with
      | none => simp only [hgate, hfun]
      | some g =>
        have hv := hall r (rowOf_mem s r hr) (by rw [hgate]; rfl)
        cases g <;> simp only [hgate, hfun, hv, viewOf, gateOf]

end Kanidm.Validity
