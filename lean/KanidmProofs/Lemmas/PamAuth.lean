import KanidmModel.PamAuth
/-!
Helper lemmas for C43 (`KanidmProofs/C43.lean`). The generated reply table yields `PAM_SUCCESS` for the `Success`
reply only (`stepAction_sound`); an interaction with a sane handler returns no `PAM_SUCCESS` and leaves a sane
conversation (`nextPrompt_sane`, then one lemma per interaction); `connLoop_spec` follows the request / reply loop.
-/
namespace Kanidm.Pam
open Kanidm.Gen.Pam

theorem stepAction_sound (k : StepKind) :
    match stepAction k with
    | .ret c => (c = .success ↔ k = .success)
    | .retIf a b => a ≠ .success ∧ b ≠ .success ∧ k ≠ .success
    | .cont _ _ _ => k ≠ .success := by
  cases k <;> dsimp only [stepAction] <;> decide

theorem stepAction_ret (k : StepKind) (c : PamCode) (h : stepAction k = .ret c) :
    c = .success ↔ k = .success := by
  have := stepAction_sound k
  rwa [h] at this

theorem stepAction_retIf (k : StepKind) (a b : PamCode) (h : stepAction k = .retIf a b) :
    a ≠ .success ∧ b ≠ .success ∧ k ≠ .success := by
  have := stepAction_sound k
  rwa [h] at this

theorem stepAction_cont (k : StepKind) (i : Interact) (u : Bool) (q : ReqKind)
    (h : stepAction k = .cont i u q) : k ≠ .success := by
  have := stepAction_sound k
  rwa [h] at this

theorem otherCode_ne_success (k : OtherKind) : otherCode k ≠ .success := by
  cases k <;> decide

theorem callErrCode_ne_success : callErrCode ≠ .success := by decide
theorem noneCode_ne_success : noneCode ≠ .success := by decide
theorem exhaustedCode_ne_success : exhaustedCode ≠ .success := by decide

theorem unknownCode_ne_success (b : Bool) :
    (if b then unknownIfIgnore else unknownOtherwise) ≠ .success := by
  cases b <;> decide

theorem PRes.Sane.err {r : PRes} {e : PamCode} (hs : r.Sane) (h : r = .err e) : e ≠ .success := by
  subst h; exact hs

def AllSane (ps : List PRes) : Prop := ∀ p ∈ ps, p.Sane

theorem Handler.Sane.serviceInfo {h : Handler} (hs : h.Sane) : h.serviceInfo ≠ some .success := hs.1

theorem Handler.Sane.accountId {h : Handler} (hs : h.Sane) : h.accountId.Sane := hs.2.1

theorem Handler.Sane.authtok {h : Handler} (hs : h.Sane) : h.authtok.Sane := hs.2.2.1

theorem Handler.Sane.prompts {h : Handler} (hs : h.Sane) : AllSane h.prompts := hs.2.2.2

theorem AllSane.tail {p : PRes} {ps : List PRes} (h : AllSane (p :: ps)) : AllSane ps :=
  fun q hq => h q (List.mem_cons_of_mem _ hq)

theorem AllSane.head {c : PamCode} {ps : List PRes} (h : AllSane (.err c :: ps)) : c ≠ .success :=
  h (.err c) (List.mem_cons_self ..)

theorem allSane_nil : AllSane [] := fun _ hq => nomatch hq

/-- What a handler interaction hands on: the answers left are sane, and a code returned in place of a value is not
`PAM_SUCCESS`. -/
def SaneOut {α : Type} (r : PamCode ⊕ α) (rest : List PRes) : Prop :=
  AllSane rest ∧ ∀ c, r = .inl c → c ≠ .success

theorem SaneOut.inl {α : Type} {c : PamCode} {ps : List PRes} (hps : AllSane ps) (hc : c ≠ .success) :
    SaneOut (.inl c : PamCode ⊕ α) ps :=
  ⟨hps, fun _ h => Sum.inl.inj h ▸ hc⟩

theorem SaneOut.inr {α : Type} {v : α} {ps : List PRes} (hps : AllSane ps) : SaneOut (.inr v : PamCode ⊕ α) ps :=
  ⟨hps, fun _ h => nomatch h⟩

def IRes.Sane (r : IRes) : Prop := SaneOut r.1 r.2.2.2

theorem nextPrompt_sane {ps rest : List PRes} {r : PRes} (h : AllSane ps) (he : nextPrompt ps = (r, rest)) :
    r.Sane ∧ AllSane rest := by
  cases ps with
  | nil => cases he; exact ⟨exhaustedCode_ne_success, allSane_nil⟩
  | cons p ps => cases he; exact ⟨h _ (List.mem_cons_self ..), h.tail⟩

theorem setupPinLoop_sane (ps : List PRes) (hs : AllSane ps) :
    SaneOut (setupPinLoop ps).1 (setupPinLoop ps).2.2 := by
  fun_induction setupPinLoop ps
  · exact .inl allSane_nil exhaustedCode_ne_success           -- pin: conversation exhausted
  · exact .inl hs.tail hs.head                                 -- pin: error
  · exact .inl hs.tail noneCode_ne_success                     -- pin: no answer
  · exact .inl allSane_nil exhaustedCode_ne_success           -- confirm: conversation exhausted
  · exact .inl hs.tail.tail hs.tail.head                       -- confirm: error
  · exact .inl hs.tail.tail noneCode_ne_success                -- confirm: no answer
  · exact .inr hs.tail.tail                                    -- the two agree
  · exact .inl allSane_nil exhaustedCode_ne_success           -- they differ; message: exhausted
  · exact .inl hs.tail.tail.tail hs.tail.tail.head             -- they differ; message: error
  · next hx ih => rw [hx] at ih; exact ih hs.tail.tail.tail    -- they differ; message shown: once more

theorem askOne_sane (c : Call) (st : Option Nat) (ps : List PRes) (h : AllSane ps) :
    (askOne c st ps).Sane := by
  fun_cases askOne c st ps <;> obtain ⟨h1, h2⟩ := nextPrompt_sane h ‹_›
  · exact .inr h2                        -- a value
  · exact .inl h2 noneCode_ne_success    -- no answer
  · exact .inl h2 h1                     -- error

theorem showMsg_sane (c : Call) (st : Option Nat) (ps : List PRes) (h : AllSane ps) :
    (showMsg c st ps).Sane := by
  fun_cases showMsg c st ps <;> obtain ⟨h1, h2⟩ := nextPrompt_sane h ‹_›
  · exact .inr h2       -- shown
  · exact .inl h2 h1    -- error

theorem askCred_sane (c : Call) (u : Bool) (st : Option Nat) (ps : List PRes) (h : AllSane ps) :
    (askCred c u st ps).Sane := by
  fun_cases askCred c u st ps
  · exact .inr h                      -- the stacked token is used
  · exact askOne_sane c none ps h     -- none stacked: prompt
  · exact askOne_sane c st ps h       -- stacked token not wanted: prompt

theorem askSetupPin_sane (st : Option Nat) (ps : List PRes) (h : AllSane ps) :
    (askSetupPin st ps).Sane := by
  fun_cases askSetupPin st ps <;> obtain ⟨h1, h2⟩ := nextPrompt_sane h ‹nextPrompt ps = _›
  · exact .inl h2 h1                  -- message: error
  all_goals
    obtain ⟨h3, h4⟩ := setupPinLoop_sane _ h2
    rw [‹setupPinLoop _ = _›] at h3 h4
  · exact .inl h3 (h4 _ rfl)          -- the pin loop returns a code
  · exact .inr h3                     -- a pin

theorem interact_sane (i : Interact) (u : Bool) (st : Option Nat) (ps : List PRes) (h : AllSane ps) :
    (interact i u st ps).Sane := by
  cases i with
  | none => exact .inr h
  | message | deviceGrant => exact showMsg_sane _ st ps h
  | password | mfaCode | pin => exact askCred_sane _ u st ps h
  | setupPin => exact askSetupPin_sane st ps h

/-- The last daemon event consumed is an explicit `Success` reply. -/
def EndsInSuccess (consumed : List DEvent) : Prop :=
  ∃ sid, consumed.getLast? = some (.reply (.step .success sid))

theorem endsInSuccess_step (k : StepKind) (sid : Nat) :
    EndsInSuccess [.reply (.step k sid)] ↔ k = .success := by
  simp [EndsInSuccess]

theorem not_endsInSuccess_nil : ¬ EndsInSuccess [] := fun ⟨_, h⟩ => nomatch h

theorem endsInSuccess_cons {ev : DEvent} (h : ¬ EndsInSuccess [ev]) (l : List DEvent) :
    EndsInSuccess (ev :: l) ↔ EndsInSuccess l := by
  cases l with
  | nil => exact iff_of_false h not_endsInSuccess_nil
  | cons a l => unfold EndsInSuccess; rw [List.getLast?_cons_cons]

theorem connLoop_spec (opts : Opts) (script : List DEvent) (stacked : Option Nat) (ps : List PRes)
    (req : Req) (hs : AllSane ps) :
    ((connLoop opts script stacked ps req).code = .success ↔
        EndsInSuccess (connLoop opts script stacked ps req).consumed) ∧
     (connLoop opts script stacked ps req).consumed <+: script := by
  -- an arm that answers at once has consumed exactly the event it answers to
  have once : ∀ {c : PamCode} {ev : DEvent} {rest : List DEvent}, (c = .success ↔ EndsInSuccess [ev]) →
      (c = .success ↔ EndsInSuccess [ev]) ∧ [ev] <+: ev :: rest := fun h => ⟨h, _, rfl⟩
  have nostep : ∀ {k : StepKind} {sid : Nat}, k ≠ .success → ¬ EndsInSuccess [.reply (.step k sid)] :=
    fun hk => mt (endsInSuccess_step _ _).mp hk
  fun_induction connLoop opts script stacked ps req <;> dsimp +zetaDelta only
  · -- the script is exhausted: the call fails
    exact ⟨iff_of_false callErrCode_ne_success not_endsInSuccess_nil, List.prefix_refl _⟩
  · -- the call fails
    exact once (iff_of_false callErrCode_ne_success (by simp [EndsInSuccess]))
  · -- a `PamStatus` reply
    exact once (iff_of_false (otherCode_ne_success _) (by simp [EndsInSuccess]))
  · -- any other reply that is not a step reply
    exact once (iff_of_false (otherCode_ne_success _) (by simp [EndsInSuccess]))
  · -- a step reply answered at once
    exact once ((stepAction_ret _ _ ‹_›).trans (endsInSuccess_step _ _).symm)
  · -- `Unknown`: one of two codes
    obtain ⟨ha, hb, hk⟩ := stepAction_retIf _ _ _ ‹_›
    exact once (iff_of_false (by split <;> assumption) (nostep hk))
  · -- the handler interaction returns a code
    obtain ⟨_, hne⟩ : IRes.Sane _ := ‹interact _ _ _ _ = _› ▸ interact_sane _ _ _ _ hs
    exact once (iff_of_false (hne _ rfl) (nostep (stepAction_cont _ _ _ _ ‹_›)))
  · next ih =>  -- the interaction yields the next request: the loop goes on
    obtain ⟨hs', _⟩ : IRes.Sane _ := ‹interact _ _ _ _ = _› ▸ interact_sane _ _ _ _ hs
    obtain ⟨h1, t, ht⟩ := ih hs'
    exact ⟨h1.trans (endsInSuccess_cons (nostep (stepAction_cont _ _ _ _ ‹_›)) _).symm,
      t, by rw [List.cons_append, ht]⟩

theorem parseCryptWith_ne_default (t : List (List Char × HashKind)) (s : List Char)
    (h : parseCryptWith t s ≠ noPrefixKind) : ∃ p k, (p, k) ∈ t ∧ p <+: s := by
  induction t with
  | nil => simp [parseCryptWith] at h
  | cons pk t ih =>
    obtain ⟨p, k⟩ := pk
    unfold parseCryptWith at h
    by_cases hp : p.isPrefixOf s = true
    · exact ⟨p, k, List.mem_cons_self .., List.isPrefixOf_iff_prefix.mp hp⟩
    · simp only [hp] at h
      obtain ⟨p', k', hm, hpre⟩ := ih h
      exact ⟨p', k', List.mem_cons_of_mem _ hm, hpre⟩

theorem checkPw_iff (verify : HashKind → List Char → Nat → Bool) (s : List Char) (cred : Nat) :
    checkPw verify s cred = true ↔
      kindVerifies (parseCrypt s) = true ∧ digestCanonical (digestShape (parseCrypt s)) s = true ∧
        verify (parseCrypt s) s cred = true := by
  unfold checkPw
  cases hk : kindVerifies (parseCrypt s) <;> simp [hk]

theorem digestCanonical_false {len : Nat} {last s : List Char}
    (h : (digestOf s).length ≠ len ∨ (digestOf s).all digestChar = false) :
    digestCanonical (some (len, last)) s = false := by
  rcases h with h | h <;> simp [digestCanonical, h]

theorem askPw_fst (h : Handler) (cs : List Call) :
    (askPw h cs).1 = match (nextPrompt h.prompts).1 with
      | .ok (some cred) => .inr cred
      | .ok none => .inl noneCode
      | .err e => .inl e := by
  unfold askPw
  rcases nextPrompt h.prompts with ⟨v | _, _⟩
  · cases v <;> rfl
  · rfl

theorem askPw_sane {h : Handler} (hs : AllSane h.prompts) (cs : List Call) {c : PamCode}
    (hc : (askPw h cs).1 = .inl c) : c ≠ .success := by
  have := (nextPrompt_sane hs rfl).1
  rw [askPw_fst] at hc
  split at hc
  · cases hc                                   -- a password
  · cases hc; exact noneCode_ne_success        -- no answer
  · next he => cases hc; exact this.err he     -- error

theorem fallbackCred_sane (opts : Opts) (h : Handler) (hs : h.Sane) (c : PamCode)
    (hc : (fallbackCred opts h).1 = .inl c) : c ≠ .success := by
  revert hc
  fun_cases fallbackCred opts h <;> intro hc
  · cases hc; exact hs.authtok.err ‹_›        -- `authtok` fails
  · cases hc                                  -- a stacked token
  · exact askPw_sane hs.prompts _ hc          -- none stacked: prompt
  · exact askPw_sane hs.prompts _ hc          -- no `use_first_pass`: prompt

theorem acctMgmt_calls_ok {opts : Opts} {h : Handler} {now : Int} {src : Source} (hs : h.Sane)
    (hc : (acctMgmt opts h now src).code = .success) :
    h.serviceInfo = none ∧ ∃ a, h.accountId = .ok a := by
  unfold acctMgmt at hc
  cases hsi : h.serviceInfo with
  | some e => rw [hsi] at hc; exact absurd (hc ▸ hsi) hs.serviceInfo
  | none =>
    cases hacc : h.accountId with
    | err e => rw [hsi, hacc] at hc; exact absurd hc (hs.accountId.err hacc)
    | ok acct => exact ⟨rfl, acct, rfl⟩

end Kanidm.Pam
