import KanidmModel.KeyObject
import KanidmProofs.Lemmas.SessionMerge
/-!
Lemmas for C34 and the predicates its theorems are stated in: `Revoked`, `Dead`, `Usable` of a
stored map and a key, `OpFresh`, `OpDead`, `OpKeeps` of an operation. Everything is followed for
one key id at a time: a key object is observed through the record it lists for the key in each
usage (`recAt`) and through its `active` maps (`activeOf`); `Acts` says what the calls of the plugin
do to that record, so that a modify is one equation per key (`modifyEntry_lookup`) and a
transaction keeps whatever each such step keeps (`txn_key_inv`).
-/
namespace Kanidm.KeyObject
open Kanidm.Gen.SessionOrd
open Kanidm.Gen.KeyObjectOps
open Kanidm.SessionMerge

variable {α : Type}

theorem lookup_mapInsert (m : List (Nat × α)) (k : Nat) (v : α) (j : Nat) :
    lookup (mapInsert m k v) j = if j = k then some v else lookup m j := by
  unfold mapInsert
  rw [lookup_mergeOne]
  by_cases h : j = k
  · simp only [h, if_true]
    cases lookup m k <;> simp [pickOpt, pick]
  · simp [h]

theorem keysNodup_mapInsert (m : List (Nat × α)) (k : Nat) (v : α) (h : KeysNodup m) :
    KeysNodup (mapInsert m k v) := keysNodup_mergeOne _ m k v h

theorem lookup_mapRemove (m : List (Nat × α)) (k j : Nat) :
    lookup (mapRemove m k) j = if j = k then none else lookup m j := by
  rw [mapRemove, lookup_filter_key (fun i => !(i == k))]
  by_cases hj : j = k
  · rw [if_pos hj, beq_iff_eq.2 hj]; rfl
  · rw [if_neg hj, beq_false_of_ne hj]; rfl

/-- One step of the range scan keeps the later of two started entries, the earlier one on a tie:
core's `maxOn`, with "no entry yet" as the identity. -/
theorem better_eq (t : Nat) (b : Option (Nat × Nat)) (e : Nat × Nat) :
    better t b e = b.merge (maxOn (·.1)) (if signerStarted e.1 t then some e else none) := by
  unfold better
  split
  · cases b with
    | none => rfl
    | some b =>
      by_cases h : b.1 < e.1
      · exact (if_pos h).trans (congrArg some (maxOn_eq_right (f := Prod.fst) (Nat.not_le.2 h)).symm)
      · exact (if_neg h).trans (congrArg some (maxOn_eq_left (f := Prod.fst) (Nat.not_lt.1 h)).symm)
  · cases b <;> rfl

theorem foldl_better (t : Nat) (a : List (Nat × Nat)) (b : Option (Nat × Nat)) :
    a.foldl (better t) b =
      b.merge (maxOn (·.1)) ((a.filter (fun e => signerStarted e.1 t)).maxOn? (·.1)) := by
  induction a generalizing b with
  | nil => exact Option.merge_none_right.symm
  | cons e tl ih =>
    rw [List.foldl_cons, ih, better_eq, List.filter_cons]
    split
    · rw [Std.Associative.assoc (op := Option.merge _), ← List.singleton_append,
        List.maxOn?_append, List.maxOn?_singleton]
    · rw [Option.merge_none_right]

theorem pickSigner_eq (a : List (Nat × Nat)) (t : Nat) :
    pickSigner a t = (a.filter (fun e => signerStarted e.1 t)).maxOn? (·.1) :=
  (foldl_better t a none).trans Option.merge_none_left

theorem pickSigner_some {a : List (Nat × Nat)} (ha : KeysNodup a) {t : Nat} {r : Nat × Nat}
    (h : pickSigner a t = some r) :
    lookup a r.1 = some r.2 ∧ r.1 ≤ t ∧
      ∀ vf kid, lookup a vf = some kid → vf ≤ t → vf ≤ r.1 := by
  rw [pickSigner_eq] at h
  obtain ⟨hm, hs⟩ := List.mem_filter.1 (List.maxOn?_mem h)
  refine ⟨lookup_eq_some_of_mem ha hm, of_decide_eq_true hs, fun vf kid hl ht => ?_⟩
  have := List.le_apply_get_maxOn?_of_mem (f := (·.1)) (List.mem_filter
    (p := fun e => signerStarted e.1 t) |>.2 ⟨mem_of_lookup_eq_some hl, decide_eq_true ht⟩)
  simpa only [h, Option.get_some] using this

theorem pickSigner_none {a : List (Nat × Nat)} {t : Nat} (h : pickSigner a t = none) :
    ∀ vf kid, lookup a vf = some kid → ¬ vf ≤ t := fun vf kid hl ht => by
  have := List.isSome_maxOn?_of_mem (f := (·.1)) (List.mem_filter
    (p := fun e => signerStarted e.1 t) |>.2 ⟨mem_of_lookup_eq_some hl, decide_eq_true ht⟩)
  rw [← pickSigner_eq, h] at this
  cases this

def recOf (u : Usage) (s : Slot) : KRec := ⟨u, s.validFrom, s.status, s.statusCid⟩

/-- The record `as_valuesets` lists for key `k` out of a key set of usage `u`. -/
def UObj.recAt (x : UObj) (u : Usage) (k : Nat) : Option KRec := (lookup x.all k).map (recOf u)

def recAt (o : KeyObj) (u : Usage) (k : Nat) : Option KRec := (o u).bind (·.recAt u k)

def activeOf (o : KeyObj) (u : Usage) : List (Nat × Nat) := ((o u).map (·.active)).getD []

/-- Both maps of a key set are maps. -/
def UObj.WF (x : UObj) : Prop := KeysNodup x.all ∧ KeysNodup x.active

def WF (o : KeyObj) : Prop := ∀ u x, o u = some x → x.WF

theorem KeyObj.empty_get (u : Usage) : KeyObj.empty u = none := by cases u <;> rfl

theorem KeyObj.set_get (o : KeyObj) (u : Usage) (x : UObj) (v : Usage) :
    (o.set u x) v = if v = u then some x else o v := by
  cases u <;> cases v <;> rfl

theorem wf_empty : WF KeyObj.empty := by
  intro u x h; rw [KeyObj.empty_get] at h; cases h

theorem wf_set {o : KeyObj} (h : WF o) (u : Usage) (x : UObj) (hx : x.WF) : WF (o.set u x) := by
  intro v y hv
  rw [KeyObj.set_get] at hv
  by_cases hvu : v = u
  · simp only [hvu, if_true, Option.some.injEq] at hv; subst hv; exact hx
  · simp only [hvu, if_false] at hv; exact h v y hv

theorem wf_getD {o : KeyObj} (h : WF o) (u : Usage) : ((o u).getD UObj.empty).WF := by
  cases hu : o u with
  | none => exact ⟨List.nodup_nil, List.nodup_nil⟩
  | some x => exact h u x hu

theorem recAt_getD (o : KeyObj) (u : Usage) (k : Nat) :
    ((o u).getD UObj.empty).recAt u k = recAt o u k := by
  unfold recAt
  cases o u <;> rfl

theorem getD_active (o : KeyObj) (u : Usage) :
    ((o u).getD UObj.empty).active = activeOf o u := by
  unfold activeOf
  cases o u <;> rfl

theorem recAt_set (o : KeyObj) (u : Usage) (x : UObj) (v : Usage) (k : Nat) :
    recAt (o.set u x) v k = if v = u then x.recAt u k else recAt o v k := by
  unfold recAt
  rw [KeyObj.set_get]
  by_cases h : v = u
  · subst h; simp only [if_true, Option.bind_some]
  · simp only [h, if_false]

theorem activeOf_set (o : KeyObj) (u : Usage) (x : UObj) (v : Usage) :
    activeOf (o.set u x) v = if v = u then x.active else activeOf o v := by
  unfold activeOf
  rw [KeyObj.set_get]
  by_cases h : v = u <;> simp [h]

/-- One iteration of the loop of `load_key_object`. -/
def loadStep (o : KeyObj) (e : Nat × KRec) : KeyObj :=
  o.set e.2.usage (((o e.2.usage).getD UObj.empty).load e.2.usage e.1 e.2)

theorem loadObj_eq (m : KMap) : loadObj m = (sortByKey m).foldl loadStep KeyObj.empty := rfl

theorem wf_loadStep {o : KeyObj} (h : WF o) (e : Nat × KRec) : WF (loadStep o e) := by
  unfold loadStep
  apply wf_set h
  obtain ⟨h1, h2⟩ := wf_getD h e.2.usage
  unfold UObj.load
  refine ⟨keysNodup_mapInsert _ _ _ h1, ?_⟩
  by_cases ha : loadActivates e.2.usage e.2.status = true
  · simp only [ha, if_true]; exact keysNodup_mapInsert _ _ _ h2
  · simp only [ha]; exact h2

theorem wf_loadObj (m : KMap) : WF (loadObj m) :=
  List.foldlRecOn _ loadStep wf_empty (motive := WF) fun _ h e _ => wf_loadStep h e

theorem recAt_loadStep (o : KeyObj) (e : Nat × KRec) (u : Usage) (k : Nat) :
    recAt (loadStep o e) u k =
      if k = e.1 then (if u = e.2.usage then some e.2 else recAt o u k) else recAt o u k := by
  unfold loadStep
  rw [recAt_set]
  by_cases hu : u = e.2.usage
  · subst hu
    simp only [if_true, UObj.recAt, UObj.load, lookup_mapInsert, ← recAt_getD o e.2.usage k]
    by_cases hk : k = e.1 <;> simp only [hk, if_true, if_false, Option.map_some]
    rfl
  · simp only [hu, if_false, ite_self]

theorem recAt_loadObj (m : KMap) (hm : KeysNodup m) (u : Usage) (k : Nat) :
    recAt (loadObj m) u k = (lookup m k).filter (u = ·.usage) := by
  rw [loadObj_eq, foldl_lookup loadStep (recAt · u k) (fun x r => if u = r.usage then some r else x) k
    (fun o e => recAt_loadStep o e u k) _ (keysNodup_sortByKey hm), lookup_sortByKey hm]
  have : recAt KeyObj.empty u k = none := by unfold recAt; rw [KeyObj.empty_get]; rfl
  cases lookup m k with
  | none => exact this
  | some r => simp only [this, Option.filter_some, decide_eq_true_eq]

/-- What the `active` map of usage `u` holds after loading the records `p`. -/
structure ActInv (p : List (Nat × KRec)) (o : KeyObj) (u : Usage) : Prop where
  sound : ∀ vf kid, lookup (activeOf o u) vf = some kid →
    ∃ r, lookup p kid = some r ∧ r.usage = u ∧ loadActivates u r.status = true ∧ r.validFrom = vf
  complete : ∀ kid r, lookup p kid = some r → r.usage = u → loadActivates u r.status = true →
    ∃ kid', lookup (activeOf o u) r.validFrom = some kid'

/-- `load` of the record `e` puts it into the `active` map of usage `u` under `vf`. -/
def activates (u : Usage) (vf : Nat) (e : Nat × KRec) : Bool :=
  decide (u = e.2.usage) && loadActivates u e.2.status && decide (vf = e.2.validFrom)

theorem lookup_activeOf_loadStep (o : KeyObj) (e : Nat × KRec) (u : Usage) (vf : Nat) :
    lookup (activeOf (loadStep o e) u) vf =
      if activates u vf e then some e.1 else lookup (activeOf o u) vf := by
  unfold loadStep activates
  rw [activeOf_set]
  by_cases hu : u = e.2.usage
  · subst hu
    simp only [if_true, UObj.load, getD_active, decide_true, Bool.true_and, Bool.and_eq_true,
      decide_eq_true_eq]
    by_cases ha : loadActivates e.2.usage e.2.status = true
    · simp only [ha, if_true, lookup_mapInsert, true_and]
    · simp only [ha]; rfl
  · simp [hu]

/-- Of several keys with one `valid_from`, the one loaded last signs. -/
theorem lookup_activeOf_foldl (l : List (Nat × KRec)) (o : KeyObj) (u : Usage) (vf : Nat) :
    lookup (activeOf (l.foldl loadStep o) u) vf =
      (((l.filter (activates u vf)).getLast?).map (·.1)).or (lookup (activeOf o u) vf) := by
  induction l generalizing o with
  | nil => rfl
  | cons e tl ih =>
    rw [List.foldl_cons, ih, lookup_activeOf_loadStep, List.filter_cons]
    by_cases he : activates u vf e = true
    · rw [if_pos he, if_pos he, List.getLast?_cons]
      cases (tl.filter (activates u vf)).getLast? <;> rfl
    · rw [if_neg he, if_neg he]

theorem actInv_loadObj (m : KMap) (hm : KeysNodup m) (u : Usage) :
    ActInv m (loadObj m) u := by
  have hmem : ∀ e, e ∈ sortByKey m ↔ lookup m e.1 = some e.2 := fun e =>
    (sortByKey_perm m).mem_iff.trans (lookup_eq_some_iff hm).symm
  have hl : ∀ vf, lookup (activeOf (loadObj m) u) vf =
      (((sortByKey m).filter (activates u vf)).getLast?).map (·.1) := fun vf => by
    rw [loadObj_eq, lookup_activeOf_foldl, activeOf, KeyObj.empty_get]; exact Option.or_none
  constructor
  · intro vf kid h
    obtain ⟨e, he, rfl⟩ := Option.map_eq_some_iff.1 ((hl vf).symm.trans h)
    obtain ⟨hm', ha⟩ := List.mem_filter.1 (List.mem_of_getLast? he)
    simp only [activates, Bool.and_eq_true, decide_eq_true_eq] at ha
    obtain ⟨⟨husage, hact⟩, hvf⟩ := ha
    exact ⟨e.2, (hmem e).1 hm', husage.symm, hact, hvf.symm⟩
  · intro kid r hr hu ha
    have : (kid, r) ∈ (sortByKey m).filter (activates u r.validFrom) :=
      List.mem_filter.2 ⟨(hmem (kid, r)).2 hr, by simp [activates, hu, ha]⟩
    rw [hl]
    cases hg : ((sortByKey m).filter (activates u r.validFrom)).getLast? with
    | none => rw [List.getLast?_eq_none_iff.1 hg] at this; cases this
    | some e => exact ⟨e.1, rfl⟩

/-- `if let Some(x) = &mut self.<u> { g(x) }`. -/
def onUsage (g : Usage → UObj → UObj) (o : KeyObj) (u : Usage) : KeyObj :=
  match o u with
  | some x => o.set u (g u x)
  | none => o

theorem onUsage_get (g : Usage → UObj → UObj) (o : KeyObj) (u w : Usage) :
    onUsage g o u w = if w = u then (o u).map (g u) else o w := by
  unfold onUsage
  cases hu : o u with
  | none => by_cases hw : w = u <;> simp [hw, hu]
  | some x => by_cases hw : w = u <;> simp [KeyObj.set_get, hw]

theorem foldl_onUsage_get (g : Usage → UObj → UObj) (l : List Usage) (hl : l.Nodup) (o : KeyObj)
    (v : Usage) :
    (l.foldl (onUsage g) o) v = if v ∈ l then (o v).map (g v) else o v := by
  induction l generalizing o with
  | nil => simp
  | cons u tl ih =>
    have hnd := List.nodup_cons.1 hl
    simp only [List.foldl_cons]
    rw [ih hnd.2, onUsage_get]
    by_cases hv : v = u
    · subst hv; simp [hnd.1]
    · simp [hv]

/-- `revoke(_, cid)` on the record it finds. -/
def KRec.revoke (cid : Nat) (r : KRec) : KRec :=
  if revokeSkipsRevoked r.usage && decide (r.status = .revoked) then r
  else { r with status := .revoked, statusCid := cid }

theorem KRec.revoke_status (cid : Nat) (r : KRec) : (r.revoke cid).status = .revoked := by
  unfold KRec.revoke
  split
  · next h => simp only [Bool.and_eq_true, decide_eq_true_eq] at h; exact h.2
  · rfl

theorem KRec.revoke_usage (cid : Nat) (r : KRec) : (r.revoke cid).usage = r.usage := by
  unfold KRec.revoke
  split <;> rfl

theorem KRec.revoke_idem (cid : Nat) (r : KRec) : (r.revoke cid).revoke cid = r.revoke cid := by
  unfold KRec.revoke
  split
  · rfl
  · split <;> rfl

/-- What a key object lists for a key after calls that revoke it at `cid`, if `b`, and otherwise
leave it alone. -/
def revokedIf (b : Bool) (cid : Nat) (x : Option KRec) : Option KRec :=
  if b then x.map (KRec.revoke cid) else x

theorem revokedIf_none (b : Bool) (cid : Nat) : revokedIf b cid none = none := by
  cases b <;> rfl

theorem revokedIf_or (b c : Bool) (cid : Nat) (x : Option KRec) :
    revokedIf c cid (revokedIf b cid x) = revokedIf (b || c) cid x := by
  cases b <;> cases c <;> cases x <;> simp [revokedIf, KRec.revoke_idem]

/-- What a call on a key set of usage `u` does to a key `k` it does not generate: both maps stay
maps, and the record of `k` is as before, or that revoked at `cid` if `b`. -/
structure UObj.Acts (u : Usage) (k cid : Nat) (b : Bool) (x x' : UObj) : Prop where
  wf : x.WF → x'.WF
  eq : x'.recAt u k = revokedIf b cid (x.recAt u k)

/-- The same of calls on a key object, in every usage. -/
structure Acts (k cid : Nat) (b : Bool) (o o' : KeyObj) : Prop where
  wf : WF o → WF o'
  eq : ∀ u, recAt o' u k = revokedIf b cid (recAt o u k)

theorem UObj.Acts.refl (u : Usage) (k cid : Nat) (x : UObj) : UObj.Acts u k cid false x x :=
  ⟨id, rfl⟩

theorem Acts.refl (k cid : Nat) (o : KeyObj) : Acts k cid false o o := ⟨id, fun _ => rfl⟩

theorem Acts.trans {k cid : Nat} {b c : Bool} {o o' o'' : KeyObj} (h : Acts k cid b o o')
    (h' : Acts k cid c o' o'') : Acts k cid (b || c) o o'' :=
  ⟨fun hw => h'.wf (h.wf hw), fun u => by rw [h'.eq, h.eq, revokedIf_or]⟩

theorem acts_foldl_onUsage {k cid : Nat} {b : Bool} (g : Usage → UObj → UObj)
    (hg : ∀ u x, UObj.Acts u k cid b x (g u x))
    (l : List Usage) (hl : l.Nodup) (hall : ∀ u, u ∈ l) (o : KeyObj) :
    Acts k cid b o (l.foldl (onUsage g) o) := by
  refine ⟨fun hw v y hy => ?_, fun u => ?_⟩
  · rw [foldl_onUsage_get g l hl, if_pos (hall v)] at hy
    cases hov : o v with
    | none => rw [hov] at hy; cases hy
    | some x => rw [hov] at hy; cases hy; exact (hg v x).wf (hw v x hov)
  · unfold recAt
    rw [foldl_onUsage_get g l hl, if_pos (hall u)]
    cases o u with
    | none => exact (revokedIf_none b cid).symm
    | some x => exact (hg u x).eq

/-- A call made on one key set, created if need be (`get_or_insert_with(Default)`). -/
theorem acts_set {k cid : Nat} {o : KeyObj} {u : Usage} {x' : UObj}
    (h : UObj.Acts u k cid false ((o u).getD UObj.empty) x') : Acts k cid false o (o.set u x') := by
  refine ⟨fun hw => wf_set hw u _ (h.wf (wf_getD hw u)), fun v => ?_⟩
  rw [recAt_set]
  by_cases hv : v = u
  · rw [if_pos hv, hv, h.eq, recAt_getD]
  · rw [if_neg hv]; rfl

theorem newActive_acts (x : UObj) (u : Usage) (vf cid kid k : Nat) (hk : k ≠ kid) :
    UObj.Acts u k cid false x (x.newActive u vf cid kid) :=
  ⟨fun h => ⟨keysNodup_mapInsert _ _ _ h.1, keysNodup_mapInsert _ _ _ h.2⟩,
    by rw [UObj.recAt, UObj.newActive, lookup_mapInsert, if_neg hk]; rfl⟩

theorem assertActive_acts (x : UObj) (u : Usage) (vf cid kid k : Nat) (hk : k ≠ kid) :
    UObj.Acts u k cid false x (x.assertActive u vf cid kid) := by
  fun_cases UObj.assertActive x u vf cid kid
  · exact newActive_acts x u vf cid kid k hk  -- no signer at `vf`: a key is made
  · exact UObj.Acts.refl u k cid x  -- there is one

theorem revoke_acts (x : UObj) (u : Usage) (kid cid k : Nat) :
    UObj.Acts u k cid (k == kid) x (x.revoke u kid cid).1 := by
  have hne : k ≠ kid → ∀ y, revokedIf (k == kid) cid y = y := fun hk y => by
    rw [revokedIf, beq_false_of_ne hk]; rfl
  -- an unknown key, or a record `KRec.revoke` leaves alone too: the key set is as it was
  have same : (∀ s, lookup x.all kid = some s →
      (revokeSkipsRevoked u && decide (s.status = .revoked)) = true) →
      UObj.Acts u k cid (k == kid) x x := fun hc => by
    refine ⟨id, ?_⟩
    by_cases hk : k = kid
    · rw [hk, revokedIf, beq_iff_eq.2 rfl, if_pos rfl, UObj.recAt]
      cases hs : lookup x.all kid with
      | none => rfl
      | some s => exact congrArg some (if_pos (hc s hs)).symm
    · exact (hne hk _).symm
  fun_cases UObj.revoke x u kid cid
  next h => exact same fun s hs => nomatch h.symm.trans hs  -- unknown key
  next s h hc =>  -- revoked already, in a usage that tests it
    exact same fun s' hs => Option.some.inj (h.symm.trans hs) ▸ hc
  next s hs hc =>  -- revoked here
    refine ⟨fun hw => ⟨keysNodup_mapInsert _ _ _ hw.1, keysNodup_filter _ _ hw.2⟩, ?_⟩
    rw [UObj.recAt, UObj.recAt, lookup_mapInsert]
    by_cases hk : k = kid
    · rw [hk, hs, revokedIf, beq_iff_eq.2 rfl, if_pos rfl, if_pos rfl]
      exact congrArg some (if_neg hc).symm
    · rw [if_neg hk]; exact (hne hk _).symm

/-- No key generated in this modify has id `k`. -/
def NotFresh (fresh : Fresh) (k : Nat) : Prop := ∀ u vf, fresh u vf ≠ k

theorem rotateOrder_nodup : rotateOrder.Nodup := by decide
theorem revokeOrder_nodup : revokeOrder.Nodup := by decide
theorem mem_rotateOrder (u : Usage) : u ∈ rotateOrder := by cases u <;> decide
theorem mem_revokeOrder (u : Usage) : u ∈ revokeOrder := by cases u <;> decide
theorem mem_valuesetOrder (u : Usage) : u ∈ valuesetOrder := by cases u <;> decide
theorem revoke_in_pluginOrder : pluginOrder.contains .revoke = true := by decide

theorem rotate_acts (o : KeyObj) (t cid : Nat) (fresh : Fresh) (k : Nat) (hk : NotFresh fresh k) :
    Acts k cid false o (o.rotate t cid fresh) :=
  acts_foldl_onUsage (fun u x => x.newActive u t cid (fresh u t))
    (fun u x => newActive_acts x u t cid _ k (fun h => hk u t h.symm))
    rotateOrder rotateOrder_nodup mem_rotateOrder o

theorem revokeOne_fst (o : KeyObj) (kid cid : Nat) :
    (o.revokeOne kid cid).1 = revokeOrder.foldl (onUsage (fun u x => (x.revoke u kid cid).1)) o :=
  (List.foldl_hom Prod.fst fun acc u => by unfold onUsage; cases acc.1 u <;> rfl).symm

theorem revokeOne_acts (o : KeyObj) (kid cid k : Nat) :
    Acts k cid (k == kid) o (o.revokeOne kid cid).1 := by
  rw [revokeOne_fst]
  exact acts_foldl_onUsage _ (fun u x => revoke_acts x u kid cid k) revokeOrder revokeOrder_nodup
    mem_revokeOrder o

theorem revokeKeys_acts (ks : List Nat) (o ko : KeyObj) (cid k : Nat)
    (h : o.revokeKeys ks cid = some ko) : Acts k cid (ks.contains k) o ko := by
  revert h
  fun_induction KeyObj.revokeKeys o ks cid
  next => intro h; cases h; exact Acts.refl k _ _  -- no key left
  next o kd tl cid _ ih =>  -- some usage revoked `kd`: on with the rest
    intro h
    rw [List.contains_cons]
    exact (revokeOne_acts o kd cid k).trans (ih h)
  next => nofun  -- no usage knew `kd`: `KP0026`

theorem assertUsage_acts (o : KeyObj) (u : Usage) (cid : Nat) (fresh : Fresh) (k : Nat)
    (hk : NotFresh fresh k) : Acts k cid false o (o.assertUsage u cid fresh) :=
  acts_set (assertActive_acts _ u assertTime cid _ k (fun h => hk u assertTime h.symm))

/-- The action names the key in its `KeyActionRevoke` set. -/
def CanRevoke (a : Action) (k : Nat) : Prop := ∃ ks, a.revoke = some ks ∧ k ∈ ks

/-- `CanRevoke` as the Boolean `revokedIf` takes. -/
def Action.names (a : Action) (k : Nat) : Bool := (a.revoke.getD []).contains k

theorem names_iff (a : Action) (k : Nat) : a.names k = true ↔ CanRevoke a k := by
  unfold Action.names CanRevoke
  cases a.revoke <;> simp

theorem revokedIf_revoked {b : Bool} {cid : Nat} {x : Option KRec}
    (h : ∃ r, x = some r ∧ (b = true ∨ r.status = .revoked)) :
    ∃ r', revokedIf b cid x = some r' ∧ r'.status = .revoked := by
  obtain ⟨r, rfl, h⟩ := h
  cases b with
  | true => exact ⟨_, rfl, KRec.revoke_status cid r⟩
  | false => exact ⟨r, rfl, h.resolve_left Bool.false_ne_true⟩

theorem revokedIf_names_of_not {a : Action} {k : Nat} (h : ¬ CanRevoke a k) (cid : Nat)
    (x : Option KRec) : revokedIf (a.names k) cid x = x := by
  rw [revokedIf, if_neg (mt (names_iff a k).1 h)]

section Plugin
variable (classes : List Usage) (a : Action) (now cid : Nat) (fresh : Fresh)

variable (k : Nat) (hk : NotFresh fresh k)
include hk

theorem pluginStep_acts (oko : Option KeyObj) (ko' : KeyObj) (st : PluginStep)
    (h : pluginStep classes a now cid fresh oko st = some ko') :
    ∃ ko, oko = some ko ∧ Acts k cid (PluginStep.revoke == st && a.names k) ko ko' := by
  revert h
  fun_cases pluginStep classes a now cid fresh oko st <;> intro h
  -- the arms in the order of the definition; those not named leave the object as it is
  case case1 => cases h  -- no object: an earlier call failed
  case case4 ko ks hr =>  -- `revoke`, with a revoke set
    exact ⟨ko, rfl, by rw [Action.names, hr]; exact revokeKeys_acts ks ko ko' cid k h⟩
  case case5 hr =>  -- `revoke`, without one
    cases h; exact ⟨_, rfl, by rw [Action.names, hr]; exact Acts.refl k cid _⟩
  case case6 ko _ _ =>  -- `rotate`, with a time
    cases h; exact ⟨ko, rfl, rotate_acts ko _ cid fresh k hk⟩
  case case8 ko u _ =>  -- `assert u`, for a class of the entry
    cases h; exact ⟨ko, rfl, assertUsage_acts ko u cid fresh k hk⟩
  all_goals cases h; exact ⟨_, rfl, Acts.refl k cid _⟩

theorem pluginFold_acts (steps : List PluginStep) (oko : Option KeyObj) (ko' : KeyObj)
    (h : steps.foldl (pluginStep classes a now cid fresh) oko = some ko') :
    ∃ ko, oko = some ko ∧ Acts k cid (steps.contains .revoke && a.names k) ko ko' := by
  induction steps generalizing oko with
  | nil => exact ⟨ko', h, Acts.refl k cid _⟩
  | cons st tl ih =>
    obtain ⟨k1, h1, a1⟩ := ih _ h
    obtain ⟨ko, h0, a0⟩ := pluginStep_acts classes a now cid fresh k hk oko k1 st h1
    exact ⟨ko, h0, by rw [List.contains_cons, Bool.and_or_distrib_right]; exact a0.trans a1⟩

end Plugin

theorem lookup_insAll (u : Usage) (all : List (Nat × Slot)) (hnd : KeysNodup all) (m0 : KMap)
    (k : Nat) :
    lookup (all.foldl (fun m e => mapInsert m e.1 (recOf u e.2)) m0) k =
      ((lookup all k).map (recOf u)).or (lookup m0 k) := by
  rw [foldl_lookup _ (lookup · k) (fun _ s => some (recOf u s)) k
    (fun m e => lookup_mapInsert m e.1 _ k) all hnd m0]
  cases lookup all k <;> rfl

def chainStep (o : KeyObj) (m : KMap) (u : Usage) : KMap :=
  match o u with
  | some x => x.all.foldl (fun m e => mapInsert m e.1 (recOf u e.2)) m
  | none => m

theorem toMap_eq (o : KeyObj) : o.toMap = valuesetOrder.foldl (chainStep o) [] := rfl

theorem lookup_chainStep (o : KeyObj) (hwf : WF o) (m : KMap) (u : Usage) (k : Nat) :
    lookup (chainStep o m u) k = (recAt o u k).or (lookup m k) := by
  unfold chainStep recAt
  cases hu : o u with
  | none => rfl
  | some x => exact lookup_insAll u x.all (hwf u x hu).1 m k

theorem keysNodup_toMap (o : KeyObj) : KeysNodup o.toMap := by
  rw [toMap_eq]
  refine List.foldlRecOn _ _ List.nodup_nil (motive := KeysNodup) fun m hm u _ => ?_
  unfold chainStep
  cases o u with
  | none => exact hm
  | some x => exact List.foldlRecOn _ _ hm (motive := KeysNodup) fun _ h _ _ => keysNodup_mapInsert _ _ _ h

theorem lookup_toMap_of_usage (o : KeyObj) (hwf : WF o) (k : Nat) (x : Option KRec)
    (h : ∀ u, recAt o u k = x.filter (u = ·.usage)) : lookup o.toMap k = x := by
  -- once the map lists `k` as `x`, no usage's entries change that
  have keep : ∀ (l : List Usage) (m : KMap), lookup m k = x → lookup (l.foldl (chainStep o) m) k = x :=
    fun l m hm => l.foldlRecOn _ hm (motive := (lookup · k = x)) fun m' hm' u _ => by
      rw [lookup_chainStep o hwf, h u, hm']
      cases x with
      | none => rfl
      | some r => rw [Option.filter_some]; split <;> rfl
  rw [toMap_eq]
  cases x with
  | none => exact keep _ _ rfl
  | some r =>
    -- and the entries of `r`'s own usage put it there
    obtain ⟨pre, post, hl⟩ := List.append_of_mem (mem_valuesetOrder r.usage)
    rw [hl, List.foldl_append, List.foldl_cons]
    refine keep post _ ?_
    rw [lookup_chainStep o hwf, h, Option.filter_some, if_pos (decide_eq_true rfl)]
    rfl

/-- `as_valuesets ∘ load_key_object` is the identity on the stored map. -/
theorem lookup_toMap_loadObj (m : KMap) (hm : KeysNodup m) (k : Nat) :
    lookup (loadObj m).toMap k = lookup m k :=
  lookup_toMap_of_usage _ (wf_loadObj m) k _ fun u => recAt_loadObj m hm u k

theorem revokedIf_filter_usage (b : Bool) (cid : Nat) (x : Option KRec) (u : Usage) :
    revokedIf b cid (x.filter (u = ·.usage)) = (revokedIf b cid x).filter (u = ·.usage) := by
  cases b with
  | false => rfl
  | true =>
    cases x with
    | none => rfl
    | some r =>
      simp only [revokedIf, if_true, Option.filter_some, Option.map_some, KRec.revoke_usage]
      split <;> rfl

/-- The staged object of the plugin, seen through `as_valuesets`, per key that is not freshly
generated: what the loaded object stored, revoked if the action names the key. -/
theorem lookup_pluginObj_toMap (m : KMap) (hm : KeysNodup m) (classes : List Usage) (a : Action)
    (now cid : Nat) (fresh : Fresh) (ko : KeyObj)
    (h : pluginObj (loadObj m) classes a now cid fresh = some ko) (k : Nat)
    (hk : NotFresh fresh k) : lookup ko.toMap k = revokedIf (a.names k) cid (lookup m k) := by
  obtain ⟨_, h0, ha⟩ := pluginFold_acts classes a now cid fresh k hk pluginOrder _ _ h
  cases h0
  rw [revoke_in_pluginOrder, Bool.true_and] at ha
  exact lookup_toMap_of_usage ko (ha.wf (wf_loadObj m)) k _ fun u => by
    rw [ha.eq, recAt_loadObj m hm, revokedIf_filter_usage]

theorem entryRepl_spec (o n : KRec) : entryRepl o n = decide (o.status.rank > n.status.rank) := rfl
theorem replRepl_spec (o n : KRec) : replRepl o n = decide (o.status.rank > n.status.rank) := rfl

theorem replMergeMap_lookup (n o : KMap) (hn : KeysNodup n) (ho : KeysNodup o) (t k : Nat) :
    KeysNodup (replMergeMap n o t) ∧
    lookup (replMergeMap n o t) k = (pickOpt replRepl (lookup n k) (lookup o k)).filter (keepRec t) :=
  ⟨keysNodup_filtMerge replRepl (keepRec t) n o hn, lookup_filtMerge replRepl (keepRec t) n o hn ho k⟩

theorem keepRec_of_not_revoked (t : Nat) (r : KRec) (h : r.status ≠ .revoked) : keepRec t r = true := by
  unfold keepRec
  cases hs : r.status <;> simp_all

theorem retainMap_eq (m : KMap) (j : Nat) :
    retainMap m j = m.map (fun e =>
      (e.1, if e.1 = j ∧ e.2.status = .valid then { e.2 with status := .retained } else e.2)) := by
  unfold retainMap
  congr 1
  funext e
  split <;> rfl

theorem keys_retainMap (m : KMap) (j : Nat) : (retainMap m j).map (·.1) = m.map (·.1) := by
  rw [retainMap_eq, List.map_map]
  rfl

theorem lookup_retainMap (m : KMap) (j k : Nat) :
    lookup (retainMap m j) k =
      (lookup m k).map (fun r => if k = j ∧ r.status = .valid then { r with status := .retained } else r) := by
  rw [retainMap_eq]
  exact lookup_map_val
    (fun k r => if k = j ∧ r.status = .valid then { r with status := .retained } else r) m k

def Revoked (m : KMap) (k : Nat) : Prop := ∃ r, lookup m k = some r ∧ r.status = .revoked

/-- Absent or revoked: a token made with this key is refused. -/
def Dead (m : KMap) (k : Nat) : Prop := lookup m k = none ∨ Revoked m k

def Usable (m : KMap) (u : Usage) (k : Nat) : Prop :=
  ∃ r, lookup m k = some r ∧ r.usage = u ∧ r.status ≠ .revoked

theorem dead_iff {m : KMap} {k : Nat} :
    Dead m k ↔ ∀ r, lookup m k = some r → r.status = .revoked := by
  unfold Dead Revoked
  cases lookup m k <;> simp

theorem Usable.not_dead {m : KMap} {u : Usage} {k : Nat} (h : Usable m u k) : ¬ Dead m k := by
  obtain ⟨r, hr, _, hn⟩ := h
  rintro (h1 | ⟨r', h1, h2⟩)
  · rw [hr] at h1; cases h1
  · rw [hr] at h1; cases h1; exact hn h2

theorem verify_eq_recAt (o : KeyObj) (u : Usage) (k : Nat) :
    o.verify u k = match recAt o u k with
                   | some r => verifyArm u r.status
                   | none => false := by
  unfold KeyObj.verify recAt UObj.recAt UObj.verify
  cases o u with
  | none => rfl
  | some x => simp only [Option.bind_some]; cases lookup x.all k <;> rfl

theorem sign_eq_activeOf (o : KeyObj) (u : Usage) (t : Nat) :
    o.sign u t = (pickSigner (activeOf o u) t).map (·.2) := by
  unfold KeyObj.sign activeOf UObj.sign
  cases o u with
  | none => rfl
  | some x => rfl

theorem activeOf_nodup {o : KeyObj} (h : WF o) (u : Usage) : KeysNodup (activeOf o u) := by
  unfold activeOf
  cases hu : o u with
  | none => exact List.nodup_nil
  | some x => exact (h u x hu).2

/-- One modify, per key not freshly generated: the stored record is trimmed (`invalidate`), then
merged with what the staged object lists for the key. -/
theorem modifyEntry_lookup (m0 mi m' : KMap) (h0 : KeysNodup m0) (hi : KeysNodup mi)
    (classes : List Usage) (a : Action) (now cid trim : Nat) (fresh : Fresh)
    (h : modifyEntry (loadObj m0) classes mi a now cid trim fresh = some m') :
    KeysNodup m' ∧ ∀ k, NotFresh fresh k →
      lookup m' k = pickOpt entryRepl ((lookup mi k).filter (keepRec trim))
        (revokedIf (a.names k) cid (lookup m0 k)) := by
  revert h
  fun_cases modifyEntry (loadObj m0) classes mi a now cid trim fresh
  next => nofun  -- the plugin failed
  next ko hp =>  -- it staged `ko`
    intro h
    cases h
    refine ⟨keysNodup_coreMerge _ _ _ (keysNodup_filter _ mi hi), fun k hk => ?_⟩
    rw [← lookup_filter (keepRec trim) mi hi k, ← lookup_pluginObj_toMap m0 h0 _ _ _ _ _ ko hp k hk]
    exact lookup_coreMerge entryRepl _ _ (keysNodup_toMap ko) k

/-- What every modify preserves of the record under `k` holds after the transaction; the loaded
object is not refreshed between the modifies, so each merges in the record at the transaction's
start. -/
theorem txn_key_inv (p : Option KRec → Prop) (Q : Action → Prop) (s : Srv) (hs : KeysNodup s.map)
    (k : Nat) (acts : List (Action × Fresh)) (now cid trim : Nat)
    (hq : ∀ af ∈ acts, NotFresh af.2 k ∧ Q af.1)
    (hstep : ∀ a x, Q a → p x →
      p (pickOpt entryRepl (x.filter (keepRec trim)) (revokedIf (a.names k) cid (lookup s.map k))))
    (hp : p (lookup s.map k)) :
    KeysNodup (s.txn acts now cid trim).map ∧ p (lookup (s.txn acts now cid trim).map k) := by
  have main : ∀ (m' mi : KMap), KeysNodup mi → p (lookup mi k) →
      txnMap s.loaded s.classes now cid trim mi acts = some m' →
      KeysNodup m' ∧ p (lookup m' k) := by
    intro m' mi
    fun_induction txnMap s.loaded s.classes now cid trim mi acts
    next => intro hi hpi h; cases h; exact ⟨hi, hpi⟩  -- no modify left
    next => intro _ _ h; cases h  -- this modify fails
    next mi a f tl m1 hm ih =>  -- it leaves `m1`
      intro hi hpi h
      obtain ⟨h1, hl⟩ := modifyEntry_lookup s.map mi m1 hs hi s.classes a now cid trim f hm
      obtain ⟨hnf, hqa⟩ := hq (a, f) List.mem_cons_self
      exact ih (fun af haf => hq af (List.mem_cons_of_mem _ haf)) h1
        (hl k hnf ▸ hstep a _ hqa hpi) h
  fun_cases Srv.txn s acts now cid trim
  next => exact ⟨hs, hp⟩  -- no modify
  next ht _ => rw [ht]; exact ⟨hs, hp⟩  -- a modify failed: the transaction is dropped
  next m ht _ => rw [ht]; exact main _ _ hs hp ht  -- committed with `m`

/-! ### Admissible operations (the hypotheses of the history theorems) -/

/-- Key generation never yields the id `k` again (kid = truncated hash of a new random key); a
replication partner's stored map is a map. -/
def OpFresh (k : Nat) : Op → Prop
  | .txn acts _ _ _ => ∀ af ∈ acts, NotFresh af.2 k
  | .restart => True
  | .replIn sup _ => KeysNodup sup.map

/-- As `OpFresh`, and every replication partner has `k` absent or revoked. -/
def OpDead (k : Nat) : Op → Prop
  | .txn acts _ _ _ => ∀ af ∈ acts, NotFresh af.2 k
  | .restart => True
  | .replIn sup _ => KeysNodup sup.map ∧ Dead sup.map k

/-- As `OpFresh`, and nobody revokes `k`: no modify names it, no partner has it revoked; a partner
that knows `k` knows it with usage `u` (same key id ⇒ same key). -/
def OpKeeps (u : Usage) (k : Nat) : Op → Prop
  | .txn acts _ _ _ => ∀ af ∈ acts, NotFresh af.2 k ∧ ¬ CanRevoke af.1 k
  | .restart => True
  | .replIn sup _ => KeysNodup sup.map ∧ ¬ Revoked sup.map k ∧
      ∀ r, lookup sup.map k = some r → r.usage = u

end Kanidm.KeyObject
