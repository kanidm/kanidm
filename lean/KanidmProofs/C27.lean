import KanidmProofs.Lemmas.AuthSession
import KanidmProofs.Lemmas.Window
/-!
# C27 — Authentication needs every factor, and denial is final

The model (`KanidmModel/AuthSession.lean`) transcribes `AuthSession::new`, `start_session`,
`CredHandler::validate*`, `validate_creds` and the Begin/Cred arms of
`IdmServerAuthTransaction::auth`; the handler/mechanism table, the accepted
`AuthCredential` variants of every `validate_*`, the order of the `build_from_*` calls
of `new` (with the `if handlers.is_empty()` guard) and the two validity comparisons are
regenerated from the source on every run (`Generated/AuthSessionTables.lean`).

External verifiers (password hash, badlist, TOTP window, backup code, webauthn) and the
soft lock (C28) are inputs of every step, so the theorems hold for *all* verifier
behaviours and all step sequences of any length.
-/
namespace Kanidm.AuthSession
open Kanidm.Gen.AuthSession

/-- The second factor each multi-factor mechanism is named after. -/
def secondFactor : HKind → Option CredKind
  | .passwordTotp => some .totp
  | .passwordBackupCode => some .backupCode
  | .passwordSecurityKey => some .securityKey
  | _ => none

/-- About the generated tables: which `AuthCredential` variants each handler's `validate_*`
accepts.  Single-factor handlers take exactly their own credential; each `Password*`
multi-factor handler takes exactly two factors, the password and its second factor
(either order — the trace theorem below is stated for the generated order). -/
theorem factors_are_spec :
    acceptedCreds .anonymous = [.anonymous] ∧
    acceptedCreds .password = [.password] ∧
    acceptedCreds .passkey = [.passkey] ∧
    acceptedCreds .attestedPasskey = [.passkey] ∧
    (∀ k sf, secondFactor k = some sf →
      (acceptedCreds k).length = 2 ∧ .password ∈ acceptedCreds k ∧ sf ∈ acceptedCreds k) := by
  refine ⟨rfl, rfl, rfl, rfl, ?_⟩
  intro k sf h
  cases k <;> simp [secondFactor] at h <;> subst h <;> decide

/-- About the generated tables: a handler proceeds only under its own mechanism
(`can_proceed`), which is also the one it is offered under (`allows_mech`); the
password-only mechanism belongs to the password-only handler alone. -/
theorem mech_table_is_spec :
    (∀ k, canProceed k (allowsMech k) = true) ∧
    (∀ k m, canProceed k m = true → m = allowsMech k) ∧
    (∀ k, canProceed k .password = true ↔ k = .password) := by
  open Finite in decide +kernel

/-- About the generated tables: `check_within_valid_time` is `valid_from ≤ ct ≤ expire` with
absent bounds unconstrained. -/
theorem validity_is_spec (a : Acct) (ct : Nat) :
    withinValidTime a ct = true ↔
      (∀ vf, a.validFrom = some vf → vf ≤ ct) ∧ (∀ ex, a.expire = some ex → ct ≤ ex) :=
  -- the generated `validFromOk vft ct _`, `expireOk _ ct ext` unfold to `decide (vft ≤ ct)`, `decide (ct ≤ ext)`
  optBounds_iff a.validFrom a.expire ct

/-- **Every factor, in order, in this session.**  For an account without a linked OAuth2 provider
(`hno`): if any step of a session (any sequence of steps, any verifier behaviour) returns `Success` — i.e. a token is issued — then the
steps of this session that were accepted (did not return an error) are exactly: one
`Begin` of a mechanism `m`, selecting a handler `h` that `new` built for the account and
that proceeds under `m`; followed by exactly one credential per factor of `h`, in the
handler's order, each of the right type and each verified by its verifier; and none of
them was taken while the credential was soft-locked. -/
theorem token_implies_all_factors (a : Acct) (ct : Nat) (hs : List Handler)
    (hnew : newHandlers a ct = .ok hs) (hno : a.oauth2 = false)
    (pre : List Step) (st : Step) (t : AuthType)
    (hsucc : (step (runState (newSession a ct).1 pre) st).2 = .success t) :
    ∃ (m : Mech) (h : Handler) (cs : List Cred),
      h ∈ hs ∧ canProceed h.kind m = true ∧
      (accepted (newSession a ct).1 (pre ++ [st])).map (·.act) = .begin m :: cs.map Act.cred ∧
      cs.map Cred.kind = acceptedCreds h.kind ∧
      (∀ c ∈ cs, verifiedFor h.kind c = true) ∧
      (lockConsulted h.kind = true →
        ∀ x ∈ accepted (newSession a ct).1 (pre ++ [st]), x.locked = false) := by
  have hns : (newSession a ct).1 = .init hs := by simp [newSession, hnew]
  rw [hns] at hsucc ⊢
  have hf := newHandlers_spec hnew
  refine init_trace (pre ++ [st]) hs (fun h hh => (hf h hh).oauth2 hno) (fun h hh => (hf h hh).fresh) ?_
  rw [runState_append]
  exact (step_final _ st).1 t hsucc

example :
    let a : Acct := { primary := some (.passwordMfa true false true) }
    run (newSession a 5).1
      [⟨.cred (.password true false), false⟩, ⟨.begin .passwordTotp, false⟩,
       ⟨.begin .password, false⟩, ⟨.cred (.totp true), false⟩,
       ⟨.cred (.password true false), false⟩, ⟨.cred (.password true false), false⟩]
      = [.err .au0001InvalidState, .continue_ [.totp], .err .invalidAuthState,
         .continue_ [.password], .success .passwordTotp, .err .au0001InvalidState] := by
  decide +kernel

/-- **An account with a multi-factor password credential is never offered password-only
login**: `new` builds no password-only handler for it, the `password` mechanism is not in
the offered list, and asking for it anyway ends the session. -/
theorem mfa_never_password_only (a : Acct) (ct : Nat) (hs : List Handler)
    (hnew : newHandlers a ct = .ok hs) (t s b : Bool)
    (hp : a.primary = some (.passwordMfa t s b)) :
    (∀ h ∈ hs, h.kind ≠ .password) ∧
    Mech.password ∉ hs.map (fun h => allowsMech h.kind) ∧
    (∀ l, (step (.init hs) ⟨.begin .password, l⟩).1 = .denied .badCredentials) := by
  -- each handler proceeds under its own mechanism, only under it, and only the password handler under `password`
  obtain ⟨hown, -, hpw⟩ := mech_table_is_spec
  have hk : ∀ h ∈ hs, h.kind ≠ .password := fun h hh hkind => by
    rcases (newHandlers_spec hnew h hh).passwordOnly hkind with h' | h' <;> rw [hp] at h' <;> cases h'
  have hcp : ∀ h ∈ hs, canProceed h.kind .password = false := fun h hh =>
    Bool.eq_false_iff.mpr fun hc => hk h hh ((hpw _).mp hc)
  refine ⟨hk, ?_, fun l => by rw [step_init_begin_none hs _ l hcp]⟩
  intro hmem
  obtain ⟨h, hh, he⟩ := List.mem_map.mp hmem
  have := hown h.kind
  rw [he, hcp h hh] at this
  cases this

example : (newSession { primary := some (.passwordMfa true true true) } 0).2
    = .choose [.passwordTotp, .passwordBackupCode, .passwordSecurityKey] := by decide +kernel
example : (newSession { primary := some .password } 0).2 = .choose [.password] := by decide +kernel

/-- **Outside the validity window no session exists and nothing ever succeeds.** -/
theorem outside_validity_never_succeeds (a : Acct) (ct : Nat)
    (hout : withinValidTime a ct = false) :
    newSession a ct = (.noSession, .denied .accountExpired) ∧
    ∀ steps, ∀ r ∈ run (newSession a ct).1 steps, r.isErr = true := by
  have h1 : newSession a ct = (.noSession, .denied .accountExpired) := by
    simp [newSession, newHandlers, hout]
  refine ⟨h1, ?_⟩
  intro steps
  rw [h1]
  exact run_terminal .noSession rfl steps

example : withinValidTime { expire := some 10 } 11 = false := by decide +kernel
example : withinValidTime { validFrom := some 10, expire := some 10 } 10 = true := by decide +kernel

/-- **Denial and success are final.**  A terminal state never changes and every further
step is an error (no token, no `Continue`); and from *any* state, once a step has been
answered `Denied` or `Success`, every later reply is an error. -/
theorem terminal_states_absorbing :
    (∀ (s : State), s.terminal = true → ∀ steps,
        runState s steps = s ∧ ∀ r ∈ run s steps, r.isErr = true) ∧
    (∀ (s : State) (st : Step) (later : List Step),
        ((∃ r, (step s st).2 = .denied r) ∨ (∃ t, (step s st).2 = .success t)) →
        ∀ r ∈ run (step s st).1 later, r.isErr = true) := by
  refine ⟨fun s hs steps => ⟨runState_terminal s hs steps, run_terminal s hs steps⟩, ?_⟩
  rintro s st later (⟨r, h⟩ | ⟨t, h⟩)
  · rw [(step_final s st).2 r h]
    exact run_terminal _ rfl later
  · rw [(step_final s st).1 t h]
    exact run_terminal _ rfl later

example : State.terminal (.denied .badTotp) = true ∧ State.terminal .success = true := by decide +kernel

/-- **A credential of the wrong type denies.**  While a handler (other than the OAuth2
one) is in progress, any credential whose `AuthCredential` variant is not the one the
handler requires next ends the session in `Denied`. -/
theorem wrong_type_denies (h : Handler) (hne : h.kind ≠ .oAuth2Trust) (c : Cred) (l : Bool)
    (hwrong : (remaining h).bind List.head? ≠ some c.kind) :
    ∃ r, step (.inProgress h) ⟨.cred c, l⟩ = (.denied r, .denied r) := by
  rcases step_inProgress h hne ⟨.cred c, l⟩ with ⟨m, e, hact, _⟩ | ⟨x, hx⟩ |
    ⟨c', hact, _, _, ⟨t, _, hrem⟩ | ⟨h', al, ks, _, _, _, hrem⟩⟩
  · cases hact
  · exact ⟨x, hx⟩
  · cases hact
    exact absurd (by rw [hrem]; rfl) hwrong
  · cases hact
    exact absurd (by rw [hrem]; rfl) hwrong

example : step (.inProgress (.passwordTotp .init .init)) ⟨.cred (.password true false), false⟩
    = (.denied .badAuthType, .denied .badAuthType) := by decide +kernel

/-- **A step of the wrong phase is an error and changes nothing**: a credential before
`Begin`, and a `Begin` while a handler is in progress (unless that handler's credential
is soft-locked at that instant, which ends the session).  A `Begin` for a mechanism the
session does not offer is *not* a no-op: it ends the session (`auth` then answers
`AU0001InvalidState`). -/
theorem wrong_phase_is_noop :
    (∀ hs c l, step (.init hs) ⟨.cred c, l⟩ = (.init hs, .err .au0001InvalidState)) ∧
    (∀ h m l, (lockConsulted h.kind && l) = false →
        step (.inProgress h) ⟨.begin m, l⟩ = (.inProgress h, .err .invalidAuthState)) ∧
    (∀ hs m l, (∀ h ∈ hs, canProceed h.kind m = false) →
        step (.init hs) ⟨.begin m, l⟩ = (.denied .badCredentials, .err .au0001InvalidState)) := by
  refine ⟨step_init_cred, ?_, step_init_begin_none⟩
  intro h m l hl
  simp [step_inProgress_begin, hl]

example : step (.inProgress (.passwordTotp .success .init)) ⟨.begin .passwordTotp, false⟩
    = (.inProgress (.passwordTotp .success .init), .err .invalidAuthState) := by decide +kernel

end Kanidm.AuthSession
