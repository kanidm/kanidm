import KanidmProofs.C23
import KanidmModel.Access.Effective
/-
C23 (extension) — the effective search access reported with a search result
(`SearchEvent.effective_access_check`, rendered as SCIM `ext_access_check.search`) reports only
granted attributes (all of them when no attribute list is requested), and the entry discloses
exactly report ∩ requested ∩ stored.
-/
namespace Kanidm.Access
open Kanidm.Filter
open Kanidm.Gen

/-- Asking for the effective-access report does not change what the search discloses. -/
theorem effective_flag_discloses_same (db : List DbEntry) (acps : List SearchAcp) (id : Identity)
    (f fo : FC) (req : Option (List Nat)) :
    (searchExtEff db acps id f fo req).map (fun l => l.map Prod.fst) = searchExt db acps id f fo req := by
  unfold searchExtEff searchExt
  cases search db acps id f fo with
  | none => rfl
  | some ents =>
    simp only
    unfold searchFilterEntryAttributesEff searchFilterEntryAttributes
    cases id.origin with
    | internal role => rfl
    | synch u => rfl
    | user ue =>
      simp only [Option.map_some, List.map_filterMap, Option.some.injEq]
      congr 1
      funext e
      cases applySearchAccess id (searchRelatedAcp id acps req) e <;> rfl

/-- Beside `searchExt_mem`: `effective_flag_discloses_same` gives the entry of a row, not its
report. -/
theorem searchExtEff_mem {db : List DbEntry} {acps : List SearchAcp} {id : Identity} {f fo : FC}
    {req : Option (List Nat)} {res : List (DbEntry × SearchResult)} {p : DbEntry × SearchResult}
    (h : searchExtEff db acps id f fo req = some res) (hp : p ∈ res) :
    ∃ ue ents e, id.origin = .user ue ∧ id.scope ≠ .synchronise ∧
      search db acps id f fo = some ents ∧ e ∈ ents ∧
      p = (reduceAttributes e (AccessSearch.reduceAttrs req (userAllowed id acps req e)),
        .allow (userAllowed id acps req e)) := by
  simp only [searchExtEff, search_eq] at h
  revert h
  fun_cases searchFilterEntryAttributesEff id acps req _ <;> intro h
  case case3 ue ho related =>  -- user origin
    cases h
    obtain ⟨e, he, hred⟩ := List.mem_filterMap.mp hp
    by_cases hs : id.scope = .synchronise
    · simp [related, deny_of_sync id _ e (Or.inr ⟨ue, ho, hs⟩)] at hred
    · simp only [related, entryEffectiveSearch, applySearchAccess_user id ue acps req e ho hs]
        at hred
      exact ⟨ue, _, e, ho, hs, search_eq db acps id f fo, he, (Option.some.inj hred).symm⟩
  all_goals cases h  -- internal and Synch origins are refused

/-- The report attached to a returned entry is `Allow al` where every `a ∈ al` is covered by a read
grant for this identity and this (stored) entry; without a requested-attribute list `al` is exactly
the granted set; and the attributes the entry discloses are exactly `al ∩ requested ∩ stored`. -/
theorem effective_search_is_exact_disclosure (db : List DbEntry) (acps : List SearchAcp)
    (id : Identity) (f fo : FC) (req : Option (List Nat)) (res : List (DbEntry × SearchResult))
    (r : DbEntry) (eff : SearchResult)
    (h : searchExtEff db acps id f fo req = some res) (hr : (r, eff) ∈ res) :
    ∃ e, e ∈ db ∧ e.uuid = r.uuid ∧ ∃ al, eff = .allow al ∧
      (∀ a, a ∈ al → MayRead acps id e a) ∧
      (req = none → ∀ a, MayRead acps id e a → a ∈ al) ∧
      (∀ a, r.attrs a ≠ [] ↔ (a ∈ al ∧ (∀ rq, req = some rq → a ∈ rq) ∧ e.attrs a ≠ [])) := by
  obtain ⟨ue, ents, e, ho, hs, hsr, he, hp⟩ := searchExtEff_mem h hr
  cases hp
  refine ⟨e, (search_subset hsr he).1, rfl, _, rfl, fun a => mayRead_of_allowed ho hs, ?_, ?_⟩
  · rintro rfl a hm
    exact (mem_userAllowed ho hs).mpr hm
  · intro a
    rw [reduceAttributes_ne_nil, mem_reduceAttrs, and_assoc]

section Examples
/-- uuid and the `Allow` list of each row. -/
def exShowEff (r : Option (List (DbEntry × SearchResult))) : Option (List (Val × List Nat)) :=
  r.map (fun l => l.map (fun p => (p.1.uuid, match p.2 with | .allow al => al | _ => [])))

/-- Non-vacuity: two rows with different reports (entry 2 also through the entry-manager profile). -/
example : exShowEff (searchExtEff exDb exAcps exId (AccessSearch.ignoreHidden (.pres Attr.Class))
    (.pres Attr.Class) none) =
    some [(.num 1, [Attr.Class, Attr.Name]),
          (.num 2, [Attr.Class, Attr.Name, Attr.DisplayName, Attr.Uuid])] := by
  decide +kernel

/-- With a requested list the report is that of the ACPs still related (entry-manager profile kept
through `displayname`, so `uuid` is reported although it was not requested and is not disclosed). -/
example : exShowEff (searchExtEff exDb exAcps exId (AccessSearch.ignoreHidden (.pres Attr.Class))
    (.pres Attr.Class) (some [Attr.Name, Attr.DisplayName])) =
    some [(.num 1, [Attr.Class, Attr.Name]),
          (.num 2, [Attr.Class, Attr.Name, Attr.DisplayName, Attr.Uuid])] := by
  decide +kernel
end Examples

end Kanidm.Access
